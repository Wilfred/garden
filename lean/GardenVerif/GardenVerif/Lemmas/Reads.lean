import GardenVerif.Lemmas.Parse
/-!
The kit of the print/parse round trip (Lemmas/RoundTripNames.lean, Lemmas/RoundTrip.lean, Props/C33.lean).

`Rd toks N C m A F Q` states a round trip over PRINT tokens: at the cursor `C` (token index, "a newline was just
passed", line), if the tokens from `C.i` on are the print tokens `A` laid out from `C`, followed by a next token that
`F` admits, then for every fuel ≥ `N` the action `m fuel` returns some `r` with `Q r j`, `j` the index just after `A`,
in state `⟨j, d⟩` (same diagnostics). `Nx C A F p`: what is known of the next token at `C`, from the text `A` if it has
a token (then flag and line are known too), else from `F`.

`Rd.bind` is sequencing: it splits the text `A₁ ++ A₂`, starts the second action at the cursor after `A₁`, takes the
larger of the two fuel bounds and hands `LineOk` on. `Rd.succ` is the fuel step, `Rd.nl` and `Rd.after_tok` are the
cursor steps. The other rules are the primitives of the token stream that the printed text exercises, each fused with
the bind that follows it (`peekIs`, `peek`, `getIdx`, `requireToken`, `checkRequiredToken`, `requireAToken`, `pop`,
`parseSymbol`). There is none for `peekAt`, `prev`, `unpop`: a dispatcher that looks two tokens ahead has a rule of its
own, proved at the level of `Ok`, beside the nodes it leads to.

How a proof on `Rd` goes. A statement is `∃ N, ∀ toks C …, Rd toks N C m A F Q`. After opening the bounds of the
sub-parsers (`obtain ⟨n, hn⟩ := …`) and every case split on data, `apply Exists.intro; intro toks C …` leaves the fuel
bound a metavariable, which the rules then fill in (`max`, `+ 1`) by unification: hence `apply`, not `refine`, for the
rules, and the case splits first, since each branch has its own bound. The text is brought to the shape
`A₁ ++ (A₂ ++ (… ++ []))`, tokens as `.t s t :: …`, by one `rw [show … by simp […]]`: `Rd.bind` then splits off what
its first action reads, and the closing `Rd.pure` reads `[]`. `apply Rd.succ (parseX.eq_2 toks false …)` unfolds one
level of a function `parseX` that matches on its fuel: `eq_2` is the equation Lean generates for its second case,
`fuel + 1`.
-/

namespace RT
open Parse Print ParseLemmas

def Ok {α} (m : P α) (s : St) (Q : α → St → Prop) : Prop := ∃ a s', m s = .ok a s' ∧ Q a s'

theorem ok_bind {α β} (m : P α) (f : α → P β) (Q : β → St → Prop) (s : St) :
    Ok (m >>= f) s Q ↔ Ok m s (fun a s' => Ok (f a) s' Q) := by
  simp only [Ok, bind_apply, P.bind]
  constructor
  · rintro ⟨b, s2, h, hq⟩
    cases hm : m s with
    | ok a s1 => rw [hm] at h; exact ⟨a, s1, rfl, b, s2, h, hq⟩
    | panic p => rw [hm] at h; cases h
    | outOfFuel => rw [hm] at h; cases h
  · rintro ⟨a, s1, hm, b, s2, h, hq⟩
    exact ⟨b, s2, by rw [hm]; exact h, hq⟩

theorem ok_det {α} {m : P α} {s s' : St} {a : α} (h : m s = .ok a s') (Q : α → St → Prop) : Ok m s Q ↔ Q a s' := by
  constructor
  · rintro ⟨b, s2, h2, hq⟩; rw [h] at h2; cases h2; exact hq
  · intro hq; exact ⟨a, s', h, hq⟩

theorem ok_pure {α} (a : α) (Q : α → St → Prop) (s : St) : Ok (pure a : P α) s Q ↔ Q a s := ok_det rfl Q
theorem ok_getIdx (Q : Nat → St → Prop) (s : St) : Ok getIdx s Q ↔ Q s.idx s := ok_det rfl Q
theorem ok_peek (toks : Toks) (Q : Option TokI → St → Prop) (s : St) :
    Ok (peek toks) s Q ↔ Q ((toks[s.idx]?).map fun t => ⟨t, s.idx⟩) s := ok_det (by simp [peek, peekAt]) Q
theorem ok_mono {α} {m : P α} {Q Q' : α → St → Prop} {s : St} (h : Ok m s Q) (hq : ∀ a s', Q a s' → Q' a s') :
    Ok m s Q' := by
  obtain ⟨a, s', h1, h2⟩ := h; exact ⟨a, s', h1, hq a s' h2⟩
theorem ok_of_eq {α} {m : P α} {s s' : St} {a : α} {Q : α → St → Prop} (h : m s = .ok a s') (hq : Q a s') :
    Ok m s Q := ⟨a, s', h, hq⟩

theorem ok_rw {α} {m m' : P α} {s : St} {Q : α → St → Prop} (h : m s = m' s) (hq : Ok m' s Q) : Ok m s Q := by
  unfold Ok at *; rw [h]; exact hq

def D (toks : Toks) (i : Nat) (l : List Tok) : Prop := toks.drop i = l

theorem D.head {toks : Toks} {i : Nat} {t : Tok} {l : List Tok} (h : D toks i (t :: l)) : toks[i]? = some t := by
  have : (toks.drop i)[0]? = some t := by rw [h]; rfl
  simpa using this

theorem D.tail {toks : Toks} {i : Nat} {t : Tok} {l : List Tok} (h : D toks i (t :: l)) : D toks (i + 1) l := by
  unfold D at *
  rw [← List.drop_drop, h]; rfl

theorem D.skip {toks : Toks} {i : Nat} {a l : List Tok} (h : D toks i (a ++ l)) : D toks (i + a.length) l := by
  unfold D at *
  rw [← List.drop_drop, h]; simp

theorem D.nil {toks : Toks} {i : Nat} (h : D toks i []) : toks[i]? = none := by
  unfold D at h
  have : (toks.drop i)[0]? = none := by rw [h]; rfl
  simpa using this

theorem D.head? {toks : Toks} {i : Nat} {l : List Tok} (h : D toks i l) : toks[i]? = l.head? := by
  cases l with
  | nil => exact h.nil
  | cons t l => exact h.head

theorem D.second {toks : Toks} {i : Nat} {t : Tok} {l : List Tok} (h : D toks i (t :: l)) :
    toks[i + 1]? = l.head? := h.tail.head?

def tk (s : String) (touch : Bool) (l : Nat) : Tok := ⟨s, touch, l, l⟩

@[simp] theorem tk_text (s : String) (b : Bool) (l : Nat) : (tk s b l).text = s := rfl
@[simp] theorem tk_touch (s : String) (b : Bool) (l : Nat) : (tk s b l).touchesPrev = b := rfl
@[simp] theorem tk_line (s : String) (b : Bool) (l : Nat) : (tk s b l).line = l := rfl
@[simp] theorem tk_endLine (s : String) (b : Bool) (l : Nat) : (tk s b l).endLine = l := rfl

def nlc : List PTok → Nat
  | [] => 0
  | .nl :: r => nlc r + 1
  | .t _ _ :: r => nlc r

def fl (b : Bool) : List PTok → Bool
  | [] => b
  | .nl :: r => fl true r
  | .t _ _ :: r => fl false r

theorem lexAux_append (b : Bool) (ln : Nat) (a c : List PTok) :
    lexAux b ln (a ++ c) = lexAux b ln a ++ lexAux (fl b a) (ln + nlc a) c := by
  induction a generalizing b ln with
  | nil => simp [lexAux, fl, nlc]
  | cons p a ih =>
    cases p with
    | t s touch => simp [lexAux, fl, nlc, ih]
    | nl =>
      simp only [List.cons_append, lexAux, fl, nlc, ih]
      congr 2; omega

theorem nlc_append (a c : List PTok) : nlc (a ++ c) = nlc a + nlc c := by
  induction a with
  | nil => simp [nlc]
  | cons p a ih => cases p <;> simp [nlc, ih] <;> omega

theorem fl_append (b : Bool) (a c : List PTok) : fl b (a ++ c) = fl (fl b a) c := by
  induction a generalizing b with
  | nil => simp [fl]
  | cons p a ih => cases p <;> simp [fl, ih]

def Flat (A : List PTok) : Prop := fl false A = false ∧ nlc A = 0

theorem Flat.nil : Flat [] := ⟨rfl, rfl⟩
theorem Flat.cons {s : String} {t : Bool} {A : List PTok} (h : Flat A) : Flat (PTok.t s t :: A) := ⟨h.1, h.2⟩
theorem Flat.append {A B : List PTok} (ha : Flat A) (hb : Flat B) : Flat (A ++ B) := by
  refine ⟨?_, ?_⟩
  · rw [fl_append, ha.1, hb.1]
  · rw [nlc_append, ha.2, hb.2]

theorem lexAux_tok (b : Bool) (ln : Nat) (s : String) (touch : Bool) (r : List PTok) :
    lexAux b ln (.t s touch :: r) = tk s (touch && !b) ln :: lexAux false ln r := rfl

theorem lexAux_nl (b : Bool) (ln : Nat) (r : List PTok) : lexAux b ln (.nl :: r) = lexAux true (ln + 1) r := rfl

def ntok : List PTok → Nat
  | [] => 0
  | .nl :: r => ntok r
  | .t _ _ :: r => ntok r + 1

theorem ntok_append (a c : List PTok) : ntok (a ++ c) = ntok a + ntok c := by
  induction a with
  | nil => simp [ntok]
  | cons p a ih => cases p <;> simp [ntok, ih] <;> omega

theorem length_lexAux (b : Bool) (ln : Nat) (X : List PTok) : (lexAux b ln X).length = ntok X := by
  induction X generalizing b ln with
  | nil => rfl
  | cons p X ih => cases p <;> simp [lexAux, ntok, ih]

def first? : List PTok → Option String
  | [] => none
  | .nl :: r => first? r
  | .t s _ :: _ => some s

theorem first?_append (X Y : List PTok) : first? (X ++ Y) = (first? X).or (first? Y) := by
  induction X with
  | nil => simp [first?]
  | cons p X ih => cases p <;> simp [first?, ih]

structure Cur where
  i : Nat
  b : Bool
  ln : Nat

namespace Cur

def lex (C : Cur) (A : List PTok) : List Tok := lexAux C.b C.ln A

def adv (C : Cur) (A : List PTok) : Cur := ⟨C.i + ntok A, fl C.b A, C.ln + nlc A⟩

def nx (C : Cur) (A : List PTok) (o : Option Tok) : Option Tok := ((C.lex A).head?).or o

theorem adv_nil (C : Cur) : C.adv [] = C := rfl
theorem adv_append (C : Cur) (A B : List PTok) : C.adv (A ++ B) = (C.adv A).adv B := by
  simp [adv, ntok_append, fl_append, nlc_append, Nat.add_assoc]
theorem lex_append (C : Cur) (A B : List PTok) : C.lex (A ++ B) = C.lex A ++ (C.adv A).lex B := by
  simp [adv, lex, lexAux_append]
theorem le_adv (C : Cur) (A : List PTok) : C.i ≤ (C.adv A).i := Nat.le_add_right ..

def tok (C : Cur) : Cur := ⟨C.i + 1, false, C.ln⟩

def nl (C : Cur) : Cur := ⟨C.i, true, C.ln + 1⟩
theorem adv_nl (C : Cur) (A : List PTok) : C.adv (.nl :: A) = C.nl.adv A := by
  simp [adv, nl, ntok, fl, nlc]; omega
theorem adv_i (C : Cur) (A : List PTok) : (C.adv A).i = C.i + ntok A := rfl
theorem tok_i (C : Cur) : C.tok.i = C.i + 1 := rfl
theorem lt_adv_tok (C : Cur) (A : List PTok) : C.i < (C.adv A).tok.i := Nat.lt_succ_of_le (Nat.le_add_right ..)
theorem lex_t (C : Cur) (s : String) (t : Bool) (A : List PTok) :
    C.lex (.t s t :: A) = tk s (t && !C.b) C.ln :: C.tok.lex A := rfl
theorem adv_t (C : Cur) (s : String) (t : Bool) (A : List PTok) : C.adv (.t s t :: A) = C.tok.adv A := by
  simp [adv, tok, ntok, fl, nlc]; omega

theorem head?_lex (C : Cur) (A : List PTok) (rest : List Tok) : (C.lex A ++ rest).head? = C.nx A rest.head? := by
  simp [nx, List.head?_append]

theorem nx_first {C : Cur} {A : List PTok} {s : String} (h : first? A = some s) (o : Option Tok) :
    ∃ t, C.nx A o = some t ∧ t.text = s := by
  obtain ⟨i, b, ln⟩ := C
  induction A generalizing b ln with
  | nil => cases h
  | cons p A ih =>
    cases p with
    | nl => exact ih h _ _
    | t s' t' => cases h; exact ⟨_, rfl, rfl⟩

end Cur

/-- A follow condition, on the next token. A name ending in `T` (`StopT`, `FolT`, `PStopT`, `NoHintT`, `IStopT`) marks
one, as opposed to a condition on the list of remaining tokens (`Stop`, `Fol`, `PStop`). -/
abbrev Fw := Option Tok → Prop

/-- After a newline the next token is not on an earlier line (all that is ever needed of line numbers: a bare
`return` must not find its follower on its own line). -/
def LineOk (C : Cur) (o : Option Tok) : Prop := C.b = true → ∀ t, o = some t → C.ln ≤ t.line

theorem LineOk.nx {C : Cur} {A : List PTok} {o : Option Tok} (h : LineOk (C.adv A) o) : LineOk C (C.nx A o) := by
  obtain ⟨i, b, ln⟩ := C
  induction A generalizing i b ln with
  | nil => exact h
  | cons p A ih =>
    cases p with
    | nl =>
      intro _ t ht
      have := ih (i := i) (b := true) (ln := ln + 1) (by simpa [Cur.adv, ntok, fl, nlc, Nat.add_assoc, Nat.add_comm 1] using h) rfl t ht
      exact Nat.le_of_succ_le this
    | t s' t' => intro _ t ht; cases ht; exact Nat.le_refl _

/-- What `peekIs` returns. -/
def isTok (x : String) (o : Option Tok) : Bool := o.any (·.text == x)

theorem isTok_iff {x : String} {o : Option Tok} : isTok x o = true ↔ ∃ t, o = some t ∧ t.text = x := by
  cases o <;> simp [isTok]
theorem isTok_of_text {x s : String} {t : Tok} (h : t.text = s) : isTok x (some t) = (s == x) := by rw [← h]; rfl
theorem isTok_ne {x y : String} {o : Option Tok} (h : isTok x o = true) (hne : x ≠ y) : isTok y o = false := by
  obtain ⟨t, rfl, rfl⟩ := isTok_iff.mp h
  simpa [isTok] using hne

def Closes (x : String) : Fw := fun o => isTok x o = true

def NotTok (x : String) : Fw := fun o => isTok x o = false

/-- To bring a nested `do` block into the shape `m >>= f` the rules expect. -/
theorem _root_.Parse.P.bind_assoc {α β γ} (m : P α) (f : α → P β) (g : β → P γ) : (m >>= f) >>= g = m >>= fun a => f a >>= g := by
  funext s; simp only [bind_apply, P.bind]; cases m s <;> rfl

theorem _root_.Parse.P.pure_bind {α β} (a : α) (f : α → P β) : (pure a >>= f) = f a := rfl

section
variable {toks : Toks} {α β : Type}

/-- The premise `LineOk`: if `A` ends in a newline, the first token of `rest` is not on an earlier line than the cursor
after `A`; only a bare `return` reads line numbers, and the premise is here so that `Rd.bind` can hand it on. `Q` is given
the end index `j` because results hold positions: `IsE e r j` says that `r` ends at token `j`, without mentioning `C` or
`A`. -/
def Rd (toks : Toks) (N : Nat) (C : Cur) (m : Nat → P α) (A : List PTok) (F : Fw) (Q : α → Nat → Prop) : Prop :=
  ∀ fuel rest d, N ≤ fuel → D toks C.i (C.lex A ++ rest) → F rest.head? → LineOk (C.adv A) rest.head? →
    Ok (m fuel) ⟨C.i, d⟩ (fun r s' => Q r (C.adv A).i ∧ s' = ⟨(C.adv A).i, d⟩)

def Nx (C : Cur) (A : List PTok) (F : Fw) (p : Option Tok → Prop) : Prop :=
  ∀ o, F o → LineOk (C.adv A) o → p (C.nx A o)

namespace Nx
variable {C : Cur} {A : List PTok} {F : Fw} {p : Option Tok → Prop}
theorem t {s : String} {t : Bool} (h : p (some (tk s (t && !C.b) C.ln))) : Nx C (.t s t :: A) F p := fun _ _ _ => h
theorem nil (h : ∀ o, F o → p o) : Nx C [] F p := fun o ho _ => h o ho
theorem first {s : String} (hs : first? A = some s) (h : ∀ t : Tok, t.text = s → p (some t)) : Nx C A F p := by
  intro o _ _
  obtain ⟨t, h1, h2⟩ := Cur.nx_first (C := C) hs o
  rw [h1]; exact h t h2
theorem text {s : String} (hs : first? A = some s) : Nx C A F fun o => ∃ t, o = some t ∧ t.text = s :=
  first hs fun t h => ⟨t, rfl, h⟩
theorem closes {x : String} : Nx C [] (Closes x) fun o => ∃ t, o = some t ∧ t.text = x := fun _ h _ => isTok_iff.mp h
end Nx

namespace Rd
variable {N N' n₁ n₂ : Nat} {C : Cur} {A A₁ A₂ : List PTok} {F F₁ F₂ : Fw} {Q : α → Nat → Prop}

theorem mono {m : Nat → P α} (h : Rd toks N C m A F Q) (hn : N ≤ N') : Rd toks N' C m A F Q :=
  fun fuel rest d hf => h fuel rest d (Nat.le_trans hn hf)

theorem conseq {m : Nat → P α} {Q' : α → Nat → Prop} (h : Rd toks N C m A F Q)
    (hQ : ∀ a, Q a (C.adv A).i → Q' a (C.adv A).i) : Rd toks N C m A F Q' :=
  fun fuel rest d hf hD hfo hl => ok_mono (h fuel rest d hf hD hfo hl) fun a _ ⟨hq, hs⟩ => ⟨hQ a hq, hs⟩

theorem pure {a : α} (h : Q a C.i) : Rd toks 0 C (fun _ => Pure.pure a) [] F Q :=
  fun _ _ _ _ _ _ _ => (ok_pure ..).mpr ⟨h, rfl⟩

/-- What the first action needs to follow it is asked of the first token of `A₂`, or of what follows that. -/
theorem bind {m : Nat → P α} {f : Nat → α → P β} {Q₁ : α → Nat → Prop} {Q : β → Nat → Prop}
    (h₁ : Rd toks n₁ C m A₁ F₁ Q₁)
    (hF : ∀ o, F₂ o → F₁ ((C.adv A₁).nx A₂ o))
    (h₂ : ∀ a, Q₁ a (C.adv A₁).i → Rd toks n₂ (C.adv A₁) (fun k => f k a) A₂ F₂ Q) :
    Rd toks (max n₁ n₂) C (fun k => m k >>= f k) (A₁ ++ A₂) F₂ Q := by
  intro fuel rest d hf hD hfo hl
  rw [Cur.adv_append] at hl ⊢
  rw [Cur.lex_append, List.append_assoc] at hD
  rw [ok_bind]
  refine ok_mono (h₁ fuel _ d (by omega) hD (by rw [Cur.head?_lex]; exact hF _ hfo) (by rw [Cur.head?_lex]; exact hl.nx)) ?_
  rintro a s' ⟨hq, rfl⟩
  have := hD.skip
  rw [Cur.lex, length_lexAux] at this
  exact h₂ a hq fuel rest d (by omega) this hfo hl

theorem succ {p m : Nat → P α} (hp : ∀ k, p (k + 1) = m k) (h : Rd toks N C m A F Q) : Rd toks (N + 1) C p A F Q := by
  intro fuel rest d hf hD hfo hl
  obtain ⟨k, rfl⟩ : ∃ k, fuel = k + 1 := ⟨fuel - 1, by omega⟩
  rw [hp]; exact h k rest d (by omega) hD hfo hl

theorem nl {m : Nat → P α} (h : Rd toks N C.nl m A F Q) : Rd toks N C m (.nl :: A) F Q := by
  intro fuel rest d hf hD hfo hl
  rw [Cur.adv_nl] at hl ⊢
  exact h fuel rest d hf hD hfo hl

theorem at_eq {m m' : Nat → P α} (he : ∀ k d, m k ⟨C.i, d⟩ = m' k ⟨C.i, d⟩) (h : Rd toks N C m' A F Q) : Rd toks N C m A F Q :=
  fun fuel rest d hf hD hfo hl => ok_rw (he fuel d) (h fuel rest d hf hD hfo hl)

variable {Q : β → Nat → Prop}

theorem peekIs {f : Nat → Bool → P β} {x : String} {v : Bool} (h : Nx C A F (isTok x · = v))
    (hr : Rd toks N C (fun k => f k v) A F Q) : Rd toks N C (fun k => Parse.peekIs toks x >>= f k) A F Q := by
  intro fuel rest d hf hD hfo hl
  have h0 : toks[C.i]? = C.nx A rest.head? := by rw [hD.head?, Cur.head?_lex]
  have hv : isTok x (C.nx A rest.head?) = v := h _ hfo hl
  rw [ok_bind, ok_det (show Parse.peekIs toks x ⟨C.i, d⟩ = .ok v ⟨C.i, d⟩ by
    rw [← hv, ← h0]; unfold Parse.peekIs isTok; cases toks[C.i]? <;> rfl)]
  exact hr fuel rest d hf hD hfo hl

theorem peek {f : Nat → Option TokI → P β} {p : Option Tok → Prop} (h : Nx C A F p)
    (hr : ∀ o, p o → Rd toks N C (fun k => f k (o.map (⟨·, C.i⟩))) A F Q) :
    Rd toks N C (fun k => Parse.peek toks >>= f k) A F Q := by
  intro fuel rest d hf hD hfo hl
  have h0 : toks[C.i]? = C.nx A rest.head? := by rw [hD.head?, Cur.head?_lex]
  rw [ok_bind, ok_peek, h0]
  exact hr _ (h _ hfo hl) fuel rest d hf hD hfo hl

theorem peekT {f : Nat → Option TokI → P β} {p : Tok → Prop} (h : Nx C A F fun o => ∃ t, o = some t ∧ p t)
    (hr : ∀ t, p t → Rd toks N C (fun k => f k (some ⟨t, C.i⟩)) A F Q) :
    Rd toks N C (fun k => Parse.peek toks >>= f k) A F Q :=
  peek h fun _ ⟨t, ho, hp⟩ => ho ▸ hr t hp

theorem peekTok {f : Nat → Option TokI → P β} {s : String} {t : Bool}
    (hr : Rd toks N C (fun k => f k (some ⟨tk s (t && !C.b) C.ln, C.i⟩)) (.t s t :: A) F Q) :
    Rd toks N C (fun k => Parse.peek toks >>= f k) (.t s t :: A) F Q :=
  peek (p := (· = some _)) (.t rfl) fun _ ho => ho ▸ hr

theorem getIdx {f : Nat → Nat → P β} (hr : Rd toks N C (fun k => f k C.i) A F Q) :
    Rd toks N C (fun k => Parse.getIdx >>= f k) A F Q := by
  intro fuel rest d hf hD hfo hl
  rw [ok_bind, ok_getIdx]; exact hr fuel rest d hf hD hfo hl

variable {x : String} {t : Bool}

theorem after_tok {m : P α} {m' : Nat → P β} {a : α}
    (hm : ∀ d, toks[C.i]? = some (tk x (t && !C.b) C.ln) → m ⟨C.i, d⟩ = .ok a ⟨C.i + 1, d⟩)
    (hr : Rd toks N C.tok m' A F Q) (f : Nat → α → P β) (hf : ∀ k, f k a = m' k) :
    Rd toks N C (fun k => m >>= f k) (.t x t :: A) F Q := by
  intro fuel rest d hfu hD hfo hl
  rw [Cur.adv_t] at hl ⊢
  rw [Cur.lex_t, List.cons_append] at hD
  rw [ok_bind, ok_det (hm d hD.head), hf]
  exact hr fuel rest d hfu hD.tail hfo hl

theorem req {f : Nat → TokI → P β} (hr : Rd toks N C.tok (fun k => f k ⟨tk x (t && !C.b) C.ln, C.i⟩) A F Q) :
    Rd toks N C (fun k => requireToken toks x >>= f k) (.t x t :: A) F Q :=
  after_tok (fun d h => requireToken_ok toks x C.i d _ h rfl) hr f fun _ => rfl

theorem chk {f : Nat → Bool × TokI → P β} (hr : Rd toks N C.tok (fun k => f k (true, ⟨tk x (t && !C.b) C.ln, C.i⟩)) A F Q) :
    Rd toks N C (fun k => checkRequiredToken toks x >>= f k) (.t x t :: A) F Q :=
  after_tok (fun d h => by simp [checkRequiredToken, bind_apply, P.bind, pure_apply, prev, Parse.pop, h, TokI.text, tk]) hr f
    fun _ => rfl

theorem reqA {f : Nat → TokI → P β} (hr : Rd toks N C.tok (fun k => f k ⟨tk x (t && !C.b) C.ln, C.i⟩) A F Q) :
    Rd toks N C (fun k => requireAToken toks >>= f k) (.t x t :: A) F Q :=
  after_tok (fun d h => by simp [requireAToken, bind_apply, P.bind, pure_apply, Parse.pop, h]) hr f fun _ => rfl

theorem pop {f : Nat → Option TokI → P β} (hr : Rd toks N C.tok (fun k => f k (some ⟨tk x (t && !C.b) C.ln, C.i⟩)) A F Q) :
    Rd toks N C (fun k => Parse.pop toks >>= f k) (.t x t :: A) F Q :=
  after_tok (fun d h => by simp [Parse.pop, h]) hr f fun _ => rfl

theorem sym {f : Nat → PSym → P β} (hx : ValidName x) (hr : Rd toks N C.tok (fun k => f k ⟨x, ⟨C.ln, C.i + 1⟩⟩) A F Q) :
    Rd toks N C (fun k => parseSymbol toks false >>= f k) (.t x t :: A) F Q :=
  after_tok (fun d h => parseSymbol_ok toks C.i d _ h hx) hr f fun _ => rfl

end Rd
end
end RT
