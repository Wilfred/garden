import GardenVerif.Lemmas.LspDispatch
/-!
# C28 — The LSP server answers every request and never dies

Statements over the dispatch model `LspDispatch.handle` / `LspDispatch.run` of src/lsp.rs
(`handle_message`, `push_request_response`, `run_lsp`), for EVERY method table satisfying the decidable
well-formedness predicate `wfTable` (the table transcribed from src/lsp.rs, `gardenMethods`, satisfies it by
`decide`: `gardenMethods_wf`), every server state and every message / message sequence.

Scope. The bodies of the request handlers (hover, completion, …) are total functions in the model:
their panic-freedom is the front end's (C01) and is only *tested* here (the harness watches the real
process).  "Request" below = a message whose id is present and not `null` and whose method is one of the
table's request arms (`initialize`, the `textDocument/*` requests, `shutdown`) or is unknown to the table;
a message that does not even parse as a JSON-RPC envelope is answered iff it has an `id` member.
A notification-typed method sent WITH an id (`initialized`, `textDocument/did*`, `exit`) is not answered
(`notification_method_no_response`): the Rust arms never look at the id.
-/

namespace C28
open LspDispatch

def requestOrUnknown (tbl : List LspMethod) (name : String) : Bool :=
  match lookup tbl name with
  | none => true
  | some e => e.isRequest

/-- Every request gets exactly one response, carrying the request's id — whatever the state, whether
the params parse or not, whether the method exists or not. -/
theorem request_one_response (tbl : List LspMethod) (st : State) (m : Msg) (i : Id) (name : String)
    (henv : m.envelopeOk = true) (hid : m.id = some i) (hm : m.method = some name)
    (hreq : requestOrUnknown tbl name = true) :
    responseIds (handle tbl st m).2 = [i] := by
  rw [handle_responseIds]
  unfold expectedId requestOrUnknown at *
  simp only [henv, Bool.not_true, Bool.false_eq_true, ↓reduceIte, hm]
  cases hl : lookup tbl name with
  | none => simp [hid]
  | some e => simp [hl] at hreq; simp [hreq, hid]

example : responseIds (handle gardenMethods {}
    { envelopeOk := true, rawId := some "7", method := some "textDocument/hover",
      params := .malformed, sync := none }).2 = ["7"] :=
  request_one_response _ _ _ "7" "textDocument/hover" rfl (by decide +kernel) rfl (by decide +kernel)

/-- What the response to a request is: an error for an unknown method / unparsable params, a result
otherwise. -/
theorem request_response_shape (tbl : List LspMethod) (st : State) (m : Msg) (i : Id) (name : String)
    (henv : m.envelopeOk = true) (hid : m.id = some i) (hm : m.method = some name) :
    (lookup tbl name = none → (handle tbl st m).2 = [.response i (.error .methodNotFound)]) ∧
    (∀ e, lookup tbl name = some e → e.kind = .request →
        ((∀ p, m.params ≠ .good p) → (handle tbl st m).2 = [.response i (.error .invalidParams)]) ∧
        (∀ p, m.params = .good p → ∃ r, (r = .value ∨ r = .empty) ∧
            (handle tbl st m).2 = [.response i r])) ∧
    (∀ e, lookup tbl name = some e → e.kind = .shutdown →
        (handle tbl st m).2 = [.response i .null]) := by
  refine ⟨?_, ?_, ?_⟩
  · intro hl
    simp [handle, henv, hm, hl, hid]
  · intro e hl hk
    obtain ⟨n, k, d⟩ := e
    simp only at hk
    subst hk
    constructor
    · intro hp
      simp only [handle, henv, hm, hl, handleKnown, hid, answer, Bool.not_true, Bool.false_eq_true,
        ↓reduceIte]
      cases hpp : m.params with
      | absent => simp
      | malformed => simp
      | good p => exact absurd hpp (hp p)
    · intro p hp
      simp only [handle, henv, hm, hl, handleKnown, hid, answer, hp, Bool.not_true, Bool.false_eq_true,
        ↓reduceIte]
      cases d
      · exact ⟨.value, Or.inl rfl, by simp⟩
      · cases p with
        | none => exact ⟨.empty, Or.inr rfl, by simp⟩
        | some q =>
          cases hq : (st.get q).isSome
          · exact ⟨.empty, Or.inr rfl, by simp [hq]⟩
          · exact ⟨.value, Or.inl rfl, by simp [hq]⟩
  · intro e hl hk
    obtain ⟨n, k, d⟩ := e
    simp only at hk
    subst hk
    simp [handle, henv, hm, hl, handleKnown, hid]

/-- A message that is not a JSON-RPC envelope but has an `id` member is answered once, with that id
(even `null`), with InvalidRequest; without an `id` member it is dropped. -/
theorem bad_envelope_response (tbl : List LspMethod) (st : State) (m : Msg)
    (henv : m.envelopeOk = false) :
    (handle tbl st m).2 = (m.rawId.map (fun i => Out.response i (.error .invalidRequest))).toList ∧
    (handle tbl st m).1 = st := by
  unfold handle
  simp only [henv, Bool.not_false, ↓reduceIte]
  cases m.rawId <;> simp

/-- A message without an id (absent or `null`) is never answered. -/
theorem notification_no_response (tbl : List LspMethod) (st : State) (m : Msg)
    (henv : m.envelopeOk = true) (hid : m.id = none) :
    responseIds (handle tbl st m).2 = [] := by
  rw [handle_responseIds]
  unfold expectedId
  simp only [henv, Bool.not_true, Bool.false_eq_true, ↓reduceIte, hid]
  cases m.method with
  | none => simp
  | some name => simp only []; cases lookup tbl name <;> simp

example : responseIds (handle gardenMethods {}
    { envelopeOk := true, rawId := some "null", method := some "textDocument/hover",
      params := .good (some "/x.gdn"), sync := none }).2 = [] :=
  notification_no_response _ _ _ rfl (by decide +kernel)

/-- A message whose method is one of the table's notification arms is never answered, even when it
carries an id; neither is a message without a method (a response from the client). -/
theorem notification_method_no_response (tbl : List LspMethod) (st : State) (m : Msg)
    (henv : m.envelopeOk = true)
    (hm : m.method = none ∨ ∃ name e, m.method = some name ∧ lookup tbl name = some e ∧ e.isRequest = false) :
    responseIds (handle tbl st m).2 = [] := by
  rw [handle_responseIds]
  unfold expectedId
  simp only [henv, Bool.not_true, Bool.false_eq_true, ↓reduceIte]
  rcases hm with hm | ⟨name, e, hm, hl, hr⟩
  · simp [hm]
  · simp [hm, hl, hr]

/-- The server stops only on `exit`: if a step takes a running server to the exited state, the message
was a well-formed envelope whose method is literally `"exit"`. -/
theorem only_exit_stops (tbl : List LspMethod) (wf : wfTable tbl = true) (st : State) (m : Msg)
    (hrun : st.exited = none) (hstop : (handle tbl st m).1.exited ≠ none) :
    m.envelopeOk = true ∧ m.method = some "exit" := by
  rw [handle_exited] at hstop
  by_cases hx : isExit tbl m = true
  · unfold isExit at hx
    simp only [Bool.and_eq_true] at hx
    refine ⟨hx.1, ?_⟩
    cases hm : m.method with
    | none => simp [hm] at hx
    | some name =>
      cases hl : lookup tbl name with
      | none => simp [hm, hl] at hx
      | some e =>
        simp [hm, hl] at hx
        have h1 := wf_exit wf (lookup_mem hl) hx.2
        have h2 := lookup_name hl
        rw [← h2, h1]
  · simp [hx, hrun] at hstop

/-- Conversely `exit` always stops it, with status 0 after a `shutdown` and 1 otherwise. -/
theorem exit_stops (tbl : List LspMethod) (wf : wfTable tbl = true) (st : State) (m : Msg)
    (henv : m.envelopeOk = true) (hm : m.method = some "exit") :
    (handle tbl st m).1.exited = some (if st.shutdown then 0 else 1) ∧ (handle tbl st m).2 = [] := by
  obtain ⟨e, hl, hk⟩ := wf_has_exit wf
  obtain ⟨n, k, d⟩ := e
  simp only at hk
  subst hk
  simp [handle, henv, hm, hl, handleKnown]

theorem shutdown_sets_flag (tbl : List LspMethod) (st : State) (m : Msg) (name : String) (e : LspMethod)
    (henv : m.envelopeOk = true) (hm : m.method = some name) (hl : lookup tbl name = some e)
    (hk : e.kind = .shutdown) : (handle tbl st m).1.shutdown = true := by
  simp [handle, henv, hm, hl, (handleKnown_flags _ _ _).2, hk]

theorem shutdown_flag_mono (tbl : List LspMethod) (st : State) (m : Msg)
    (h : st.shutdown = true) : (handle tbl st m).1.shutdown = true := by
  refine handle_cases (P := fun x => x.1.shutdown = true) tbl st m (fun _ => h) (fun _ _ => h)
    (fun _ _ _ _ => h) (fun name e _ _ _ => ?_)
  simp [(handleKnown_flags _ _ _).2, h]

/-- The text diagnostics are computed from is the text now stored for that document (didOpen/didChange),
or the document is gone (didClose). That the arm taken is one of the three document-sync arms is not
stated: `sync` is a field every `Msg` has. -/
theorem publish_matches_store (tbl : List LspMethod) (st : State) (m : Msg) (uri : String)
    (text : Option String) (h : Out.publish uri text ∈ (handle tbl st m).2) :
    ∃ s, m.sync = some s ∧ s.uri = uri ∧ (handle tbl st m).1.get s.path = text := by
  revert h
  refine handle_cases (P := fun x => Out.publish uri text ∈ x.2 →
      ∃ s, m.sync = some s ∧ s.uri = uri ∧ x.1.get s.path = text) tbl st m
    (fun _ h => ?_) (fun _ _ h => nomatch h) (fun _ _ _ _ h => ?_) (fun name e _ _ _ h => ?_)
  · cases hr : m.rawId <;> simp [hr] at h
  · cases hi : m.id <;> simp [hi] at h
  · obtain ⟨n, k, d⟩ := e
    have ha := answer_respId st ⟨n, .request, d⟩
    unfold handleKnown at h ⊢
    cases k <;> simp only [] at h ⊢
    case request =>
      cases hi : m.id with
      | none => simp [hi] at h
      | some i => obtain ⟨r, hr⟩ := ha i m.params; simp [hi, hr] at h
    case noop | exit => simp at h
    case shutdown => cases hi : m.id <;> simp [hi] at h
    all_goals
      cases hs : m.sync with
      | none => simp [hs] at h
      | some s =>
        simp [hs] at h
        refine ⟨s, rfl, h.1.symm, ?_⟩
        simp [State.get, State.insert, State.remove, h.2]

/-- Over a whole session: the ids of the responses the server sends, in order, are exactly the ids of the
requests among the messages it consumes (everything up to and including the first `exit`), in order —
one response per request, none for anything else, nothing skipped, nothing after `exit`. -/
theorem run_responses (tbl : List LspMethod) (st : State) (ms : List Msg) (hrun : st.exited = none) :
    responseIds (run tbl st ms).2 = (untilExit tbl ms).filterMap (expectedId tbl) := by
  induction ms generalizing st with
  | nil => simp [run, untilExit, responseIds]
  | cons m ms ih =>
    rw [run_cons tbl st m ms hrun]
    simp only [responseIds_append, handle_responseIds]
    unfold untilExit
    by_cases hx : isExit tbl m = true
    · have hex : (handle tbl st m).1.exited.isSome = true := by
        rw [handle_exited]; simp [hx]
      rw [run_exited_start tbl _ ms hex]
      simp only [hx, ↓reduceIte]
      cases h : expectedId tbl m <;> simp [responseIds, h]
    · have hex : (handle tbl st m).1.exited = none := by
        rw [handle_exited]; simp [hx, hrun]
      rw [ih _ hex]
      simp only [hx, Bool.false_eq_true, ↓reduceIte]
      cases h : expectedId tbl m <;> simp [h]

theorem run_alive_iff (tbl : List LspMethod) (st : State) (ms : List Msg) (hrun : st.exited = none) :
    (run tbl st ms).1.exited = none ↔ ∀ m ∈ ms, isExit tbl m = false := by
  induction ms generalizing st with
  | nil => simp [run, hrun]
  | cons m ms ih =>
    rw [run_cons tbl st m ms hrun]
    simp only [List.mem_cons, forall_eq_or_imp]
    by_cases hx : isExit tbl m = true
    · have hex : (handle tbl st m).1.exited.isSome = true := by
        rw [handle_exited]; simp [hx]
      rw [run_exited_start tbl _ ms hex]
      simp only [hx]
      constructor
      · intro h; rw [h] at hex; simp at hex
      · intro h; simp at h
    · have hex : (handle tbl st m).1.exited = none := by
        rw [handle_exited]; simp [hx, hrun]
      rw [ih _ hex]
      simp [hx]

-- Non-vacuity: a concrete session on `gardenMethods`.

def open1 : Msg := { envelopeOk := true, rawId := none, method := some "textDocument/didOpen",
                     params := .absent, sync := some ⟨"/d/a.gdn", "file:///d/a.gdn", "let x = 1"⟩ }
def hover1 : Msg := { envelopeOk := true, rawId := some "1", method := some "textDocument/hover",
                      params := .good (some "/d/a.gdn"), sync := none }
def hoverOther : Msg := { hover1 with rawId := some "\"s\"", params := .good (some "/d/other.gdn") }
def unknownReq : Msg := { envelopeOk := true, rawId := some "2", method := some "workspace/symbol",
                          params := .absent, sync := none }
def unknownNote : Msg := { unknownReq with rawId := none, method := some "$/setTrace" }
def badEnv : Msg := { envelopeOk := false, rawId := some "3", method := some "shutdown",
                      params := .absent, sync := none }
def shutdown1 : Msg := { envelopeOk := true, rawId := some "4", method := some "shutdown",
                         params := .absent, sync := none }
def exit1 : Msg := { envelopeOk := true, rawId := none, method := some "exit", params := .absent, sync := none }

example : run gardenMethods {} [open1, hover1, hoverOther, unknownReq, unknownNote, badEnv, shutdown1,
                                 exit1, hover1] =
    ({ docs := [("/d/a.gdn", "let x = 1")], shutdown := true, exited := some 0 },
     [.publish "file:///d/a.gdn" (some "let x = 1"), .response "1" .value, .response "\"s\"" .empty,
      .response "2" (.error .methodNotFound), .response "3" (.error .invalidRequest),
      .response "4" .null]) := by decide +kernel

example : (run gardenMethods {} [hover1, exit1]).1.exited = some 1 := by decide +kernel

example : requestOrUnknown gardenMethods "textDocument/hover" = true
    ∧ requestOrUnknown gardenMethods "nope" = true
    ∧ requestOrUnknown gardenMethods "initialized" = false := by decide +kernel

end C28
