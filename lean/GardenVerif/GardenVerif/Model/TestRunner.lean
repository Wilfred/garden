import GardenVerif.Model.Machine
/-!
M12 (test runner part): `garden test` / `garden sandboxed-test` over the evaluator model M4.

* `Expression_::Assert` is not a node kind of `Machine.Expr`. It is ENCODED here as
  `call id used (unsup 0 true "assert") [inner]` (`mkAssert`; the driver produces this
  encoding from the `(assert …)` nodes of the real parser's tree) and evaluated by
  `assertDisp`, a transcription of the `Expression_::Assert` arm of `eval_expr` and of
  `eval_assert` (src/eval.rs), including the duplicated lhs/rhs values.
  `dispatchX` = `assertDisp` on encoded asserts, `Machine.dispatch` on everything else.
* `stepWith d` is `Machine.step` with the dispatch function as a parameter
  (`stepWith Machine.dispatch = Machine.step` by `rfl`: `C27.applies_to_machine_step`, Props/C27.lean);
  `tstep = stepWith dispatchX` is one iteration of the loop in `eval` for test bodies.
* `AssertionFailed` is not a constructor of `Machine.Err`; it is represented by
  `assertionErr msg = Err.typeError ("assertion-failed: " ++ msg)` (no type name of the
  evaluator starts with that prefix).
* `runTests` mirrors `eval_tests` (src/eval.rs): per test `push_test_stackframe`, `eval`,
  classify, `pop_to_toplevel`; `break` on `Interrupted`. `env.ticks` is NOT reset between
  tests (it is not in the Rust), the output accumulates in `State.out`.
* `gardenTest` mirrors `run_tests_in_files` (src/test_runner.rs): selection by substring,
  `describe_tests`, exit status.

Import-free apart from the machine model (the driver links it).
-/

namespace TestRunner
open Machine

-- ---------------------------------------------------------------- assert

/-- The encoding of `assert(inner)` with syntax id `id` and use flag `used`. -/
def mkAssert (id : Nat) (used : Bool) (inner : Expr) : Expr :=
  .call id used (.unsup 0 true "assert") [inner]

def asAssert : Expr → Option Expr
  | .call _ _ (.unsup _ _ what) [inner] => if what == "assert" then some inner else none
  | _ => none

def opSym : BinOp → String
  | .add => "+" | .sub => "-" | .mul => "*" | .div => "/" | .mod => "%" | .pow => "**"
  | .bitand => "&" | .bitor => "|" | .lt => "<" | .le => "<=" | .gt => ">" | .ge => ">="
  | .eq => "==" | .ne => "!=" | .and => "&&" | .or => "||" | .concat => "^" | .floatOp => "?."

def assertionPrefix : String := "assertion-failed: "

/-- Stand-in for `EvalError::AssertionFailed(_, msg)`. -/
def assertionErr (msg : String) : Err := .typeError (assertionPrefix ++ msg)

def isAssertion : Err → Option String
  | .typeError t => if t.startsWith assertionPrefix then some (t.drop assertionPrefix.length).toString else none
  | _ => none

/-- The message of a failed assertion (`eval_assert`). -/
def assertMsg (p : Program) : Option (Value × BinOp × Value) → String
  | some (lv, .eq, rv) => "Expected `" ++ display p rv ++ "` but got `" ++ display p lv ++ "`."
  | some (lv, op, rv) => "Assertion failed: `" ++ display p lv ++ " " ++ opSym op ++ " " ++ display p rv ++ "`."
  | none => "Assertion failed."

/-- `eval_assert`: pop the condition, and (if the asserted expression is a binary operator)
the saved rhs and lhs; fail unless the condition is `True`. -/
def evalAssert (p : Program) (f : Frame) (used : Bool) (inner : Expr) : Disp :=
  match f.values with
  | [] => .panic "Popped an empty value stack for call receiver"
  | recv :: vals =>
    match inner with
    | .binop _ _ op _ _ =>
      match vals with
      | rv :: lv :: vals' =>
        let f := { f with values := vals' }
        match recv.asBool with
        | some true => .ok (f.pushVIf used vUnit)
        | some false => .err f .E [recv] (assertionErr (assertMsg p (some (lv, op, rv))))
        | none => .err f .E [recv] (.typeError "Bool")
      | _ => .panic "Popped an empty value stack in assert"
    | _ =>
      let f := { f with values := vals }
      match recv.asBool with
      | some true => .ok (f.pushVIf used vUnit)
      | some false => .err f .E [recv] (assertionErr (assertMsg p none))
      | none => .err f .E [recv] (.typeError "Bool")

/-- The `Expression_::Assert` arm of `eval_expr`. `e` is the (encoded) assert node, `f` the
current frame after the entry `(st, e)` was popped. -/
def assertDisp (p : Program) (f : Frame) (st : St) (e inner : Expr) : Disp :=
  match st with
  | .N =>
    match inner with
    | .binop _ _ _ l r => .ok (((f.pushE .PN e).pushE .N r).pushE .N l)
    | _ => .ok ((f.pushE .E e).pushE .N inner)
  | .E => evalAssert p f e.used inner
  | _ =>
    -- duplicate the lhs and rhs values, then run the operator itself
    match f.values with
    | rv :: lv :: vals =>
      .ok (({ f with values := rv :: lv :: rv :: lv :: vals }.pushE .E e).pushE .E inner)
    | _ => .panic "Popped an empty value stack for LHS/RHS of binary operator"

/-- `eval_expr` extended with `assert`. -/
def dispatchX (p : Program) (f : Frame) (st : St) (e : Expr) : Disp :=
  match asAssert e with
  | some inner => assertDisp p f st e inner
  | none => dispatch p f st e

-- ---------------------------------------------------------------- the loop

/-- `Machine.step` with the dispatch function as a parameter (verbatim copy). -/
def stepWith (d : Program → Frame → St → Expr → Disp) (s : State) : StepResult :=
  match s.frames with
  | [] => .panic "empty call stack"
  | f :: callers =>
    match f.exprs with
    | (st, e) :: restExprs =>
      let f := { f with exprs := restExprs }
      let ticks := s.ticks + 1
      let interrupted := s.interrupted || s.interruptAt.contains ticks
      let s := { s with ticks := ticks, interrupted := interrupted }
      if interrupted then
        .error (setTop { s with interrupted := false } (restore f st e [])) .interrupted
      else if limitReached s.tickLimit ticks then
        .error (setTop s (restore f st e [])) .tickLimit
      else if limitExceeded s.stackLimit s.frames.length then
        .error (setTop s (restore f st e [])) .stackLimit
      else
        match d s.prog f st e with
        | .ok f' => stopCheck (setTop s f') f' st e
        | .okOut f' o => stopCheck (setTop { s with out := s.out ++ o } f') f' st e
        | .newFrame f' callee => .cont { s with frames := callee :: f' :: callers }
        | .err f' st' vals er => .error (setTop s (restore f' st' e vals)) er
        | .panic site => .panic site
        | .unsupported w => .unsupported w
    | [] =>
      match callers with
      | [] =>
        match f.values with
        | v :: vals => .done (setTop s { f with values := vals }) v
        | [] => .panic "Should have a value from the last expression"
      | caller :: rest =>
        match f.values with
        | [] => .panic "Should have a value"
        | rv :: _ =>
          if f.callerId.isSome && s.stopAt == f.callerId then .done { s with frames := caller :: rest } rv
          else
          let caller := if f.callerUses then caller.pushV rv else caller
          .cont { s with frames := caller :: rest }

/-- One iteration of the loop in `eval`, with `assert`. -/
def tstep (s : State) : StepResult := stepWith dispatchX s

inductive RunResult where
  | done (s : State) (v : Value)
  | error (s : State) (e : Err)
  | panic (site : String)
  | unsupported (what : String)
  | outOfFuel (s : State)

/-- The loop of `eval`, fuel-bounded. -/
def runWith (d : Program → Frame → St → Expr → Disp) : Nat → State → RunResult
  | 0, s => .outOfFuel s
  | n + 1, s =>
    match stepWith d s with
    | .cont s' => runWith d n s'
    | .done s' v => .done s' v
    | .error s' e => .error s' e
    | .panic site => .panic site
    | .unsupported w => .unsupported w

/-- `eval` (including its early return at an idle toplevel). -/
def evalWith (d : Program → Frame → St → Expr → Disp) (fuel : Nat) (s : State) : RunResult :=
  match s.frames with
  | [f] => if f.exprs.isEmpty then .done s vUnit else runWith d fuel s
  | _ => runWith d fuel s

-- ---------------------------------------------------------------- eval_tests

structure TestDef where
  name : String
  body : List Expr

/-- `push_test_stackframe`. -/
def testFrame (t : TestDef) : Frame :=
  { exprs := t.body.map (fun e => (St.N, e)), values := [vUnit], blocks := [[]], nextBlock := [],
    callerUses := true, kind := .toplevel, callerId := none }

def pushTestFrame (s : State) (t : TestDef) : State := { s with frames := testFrame t :: s.frames }

/-- `Vec::truncate(1)` on a stack kept head-first: keep the bottom element. -/
def keepBottom {α : Type} (l : List α) : List α :=
  match l.getLast? with
  | some x => [x]
  | none => []

/-- `Stack::pop_to_toplevel` (src/env.rs): keep the toplevel frame only, clear its pending
entries, keep its first value and its first binding block. -/
def popToToplevel (s : State) : State :=
  match s.frames.getLast? with
  | none => s
  | some f0 =>
    { s with frames := [{ f0 with exprs := [], values := keepBottom f0.values, blocks := keepBottom f0.blocks }] }

/-- What `eval_tests` records for a test: `None` or `Some(EvalError)`. -/
inductive Verdict where
  | pass
  | failed (msg : String)
  | errored (e : Err)
  | tickLimit
  | stackLimit
  | interrupted
  deriving DecidableEq, Repr

def classifyErr (e : Err) : Verdict :=
  match e with
  | .interrupted => .interrupted
  | .tickLimit => .tickLimit
  | .stackLimit => .stackLimit
  | e => match isAssertion e with
    | some msg => .failed msg
    | none => .errored e

inductive Outcome where
  /-- `eval_tests` returned these `(test, verdict)` pairs, leaving the environment `s` -/
  | finished (vs : List (String × Verdict)) (s : State)
  /-- the Rust would panic while running the test after those listed -/
  | crashed (vs : List (String × Verdict)) (site : String)
  /-- the model cannot tell (left the fragment / out of fuel) -/
  | unknown (vs : List (String × Verdict)) (why : String)

def Outcome.cons (x : String × Verdict) : Outcome → Outcome
  | .finished vs s => .finished (x :: vs) s
  | .crashed vs site => .crashed (x :: vs) site
  | .unknown vs why => .unknown (x :: vs) why

/-- The loop of `eval_tests` over the selected tests. Tests are NOT keyed by name: `eval_tests`
collects `test_defs` from the items in order, duplicates included, and runs every definition with
its own body (only `env.tests`, which the runner does not read, is keyed by name — the last
definition wins there). Two tests with the same name (in one file, or in two files of one
invocation) are two entries of the list, two verdicts and two units of the summary count. -/
def runTestsWith (d : Program → Frame → St → Expr → Disp) (fuel : Nat) : State → List TestDef → Outcome
  | s, [] => .finished [] s
  | s, t :: ts =>
    match evalWith d fuel (pushTestFrame s t) with
    | .done s' _ => (runTestsWith d fuel (popToToplevel s') ts).cons (t.name, .pass)
    | .error s' e =>
      match classifyErr e with
      | .interrupted => .finished [(t.name, .interrupted)] s'     -- `break`, no `pop_to_toplevel`
      | v => (runTestsWith d fuel (popToToplevel s') ts).cons (t.name, v)
    | .panic site => .crashed [] site
    | .unsupported w => .unknown [] ("unsupported " ++ w)
    | .outOfFuel _ => .unknown [] "out-of-fuel"

def runTests (fuel : Nat) (s : State) (ts : List TestDef) : Outcome := runTestsWith dispatchX fuel s ts

-- ---------------------------------------------------------------- run_tests_in_files

def infixB (p : List Char) : List Char → Bool
  | [] => p.isEmpty
  | c :: tl => p.isPrefixOf (c :: tl) || infixB p tl

/-- `ti.name_sym.name.text.contains(&name_contains)`. -/
def selected (filter : String) (ts : List TestDef) : List TestDef :=
  ts.filter fun t => infixB filter.toList t.name.toList

/-- The environment `run_tests_in_files` builds before it runs anything: definitions loaded,
an idle toplevel frame, no limits (`sandboxed-test` sets both). -/
def baseState (p : Program) (tickLimit stackLimit : Option Nat) : State :=
  { prog := p, frames := [initFrame []], ticks := 0, out := "", interrupted := false,
    tickLimit := tickLimit, stackLimit := stackLimit, interruptAt := [] }

def numFailed (vs : List (String × Verdict)) : Nat := (vs.filter fun x => x.2 != Verdict.pass).length
def numPassed (vs : List (String × Verdict)) : Nat := vs.length - numFailed vs

/-- The last line `describe_tests` prints. -/
def summaryLine (vs : List (String × Verdict)) : String :=
  let total := numPassed vs + numFailed vs
  let pl := if total == 1 then "" else "s"
  if numPassed vs == 0 && numFailed vs == 0 then "No tests found."
  else if numFailed vs == 0 && total == 1 then "Ran 1 test: it passed."
  else if numFailed vs == 0 then s!"Ran {total} test{pl}: they all passed."
  else s!"Ran {total} test{pl}: {numPassed vs} passed and {numFailed vs} failed."

/-- Exit status of `garden test`: `std::process::exit(1)` iff `tests_failed > 0`; a Rust panic
is status 101. -/
def exitCode : Outcome → Option Nat
  | .finished vs _ => some (if numFailed vs > 0 then 1 else 0)
  | .crashed _ _ => some 101
  | .unknown _ _ => none

/-- `garden test -n filter file` (`filter = ""` when `-n` is absent). -/
def gardenTest (fuel : Nat) (p : Program) (tests : List TestDef) (filter : String) : Outcome :=
  runTests fuel (baseState p none none) (selected filter tests)

/-- The runner of `garden sandboxed-test file` (all tests, limits 100000 / 1000). -/
def sandboxedTest (fuel : Nat) (p : Program) (tests : List TestDef) : Outcome :=
  runTests fuel (baseState p (some 100000) (some 1000)) tests

end TestRunner
