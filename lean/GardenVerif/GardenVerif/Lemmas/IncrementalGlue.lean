import GardenVerif.Lemmas.IncrementalRun
/-!
Helper lemmas for C11 (incremental = batch): the reference run of a whole history (`canon`) and the
two simulations glued over it — `incremental_of_canon` (the real incremental session is the
reference run with further values below frame 0's) and `batch_of_canon` (the concatenated request
runs through the same states with the later inputs' entries below).
-/

namespace Incr
open Machine Resume


/-- `Resume.load` on the program -/
def loadP (p : Program) (i : Input) : Program :=
  { funs := p.funs ++ i.funs, enums := p.enums ++ i.enums, toplevel := p.toplevel }

theorem load_prog (s : State) (i : Input) : (load s i).prog = loadP s.prog i := rfl

/-- The state in which the reference run starts a request: definitions loaded, the input's
expressions pending, frame 0's value stack EMPTY (so that each simulation may put its own values
below: `fx [] R`), `stop_at_expr_id` at the last expression. -/
def startC (s : State) (i : Input) (last : Expr) : State :=
  { load s i with
    stopAt := some last.id,
    frames := s.frames.map (fun f => { f with exprs := i.exprs.map (fun e => (St.N, e)), values := [] }) }

def requestC (ob : Option Nat) (fuel : Nat) (s : State) (i : Input) : Option (State × Option Value) :=
  match i.exprs.getLast? with
  | none => some (load s i, none)
  | some last =>
    match evalC ob fuel (startC s i last) with
    | some (s', v) => some ({ s' with stopAt := s.stopAt }, some v)
    | none => none

/-- **The reference run of a history**: every request but the last with the guard for the node `b`
the concatenated run stops at. -/
def canon (b : Nat) (fuel : Nat) : State → List Input → Option (State × Option Value)
  | s, [] => some (s, none)
  | s, [i] => requestC none fuel s i
  | s, i :: i2 :: rest =>
    match requestC (some b) fuel s i with
    | some (s', _) => canon b fuel s' (i2 :: rest)
    | none => none

def Rest (s : State) : Prop := ∃ f, s.frames = [f] ∧ f.exprs = []

theorem evalC_end (ob : Option Nat) : ∀ (n : Nat) (c c' : State) (v : Value),
    evalC ob n c = some (c', v) → settled c' = true ∧ c'.prog = c.prog := by
  intro n
  induction n with
  | zero => intro c c' v h; cases h
  | succ n ih =>
    intro c c' v h
    obtain ⟨_, ⟨c1, hs, h⟩ | ⟨hs, hend⟩⟩ := evalC_succ.mp h
    · exact ⟨(ih c1 c' v h).1, (ih c1 c' v h).2.trans (ResumeL.step_prog (by rw [hs]; rfl))⟩
    · exact ⟨(Bool.and_eq_true _ _ ▸ hend).1, ResumeL.step_prog (by rw [hs]; rfl)⟩

theorem requestC_eq_some {ob : Option Nat} {fuel : Nat} {s s' : State} {i : Input} {ov : Option Value} :
    requestC ob fuel s i = some (s', ov) ↔
      (i.exprs.getLast? = none ∧ load s i = s' ∧ none = ov) ∨
      ∃ last c' v, i.exprs.getLast? = some last ∧ evalC ob fuel (startC s i last) = some (c', v) ∧
        { c' with stopAt := s.stopAt } = s' ∧ some v = ov := by
  unfold requestC
  cases i.exprs.getLast? with
  | none => simp
  | some last =>
    dsimp only
    rcases h : evalC ob fuel (startC s i last) with _ | ⟨c', v⟩ <;> simp [h]
    exact ⟨fun h => ⟨_, _, ⟨rfl, rfl⟩, h⟩, fun ⟨_, _, ⟨rfl, rfl⟩, h⟩ => h⟩

theorem canon_cons₂ {b fuel : Nat} {C : State} {i i2 : Input} {rest : List Input}
    {r : State × Option Value} :
    canon b fuel C (i :: i2 :: rest) = some r ↔
      ∃ C1 ov1, requestC (some b) fuel C i = some (C1, ov1) ∧ canon b fuel C1 (i2 :: rest) = some r := by
  rw [canon]
  rcases requestC (some b) fuel C i with _ | ⟨C1, ov1⟩ <;> simp

theorem requestC_end (ob : Option Nat) (fuel : Nat) (s s' : State) (i : Input) (ov : Option Value)
    (hr : Rest s) (h : requestC ob fuel s i = some (s', ov)) : Rest s' ∧ s'.prog = loadP s.prog i := by
  rcases requestC_eq_some.mp h with ⟨_, rfl, _⟩ | ⟨last, c', v, _, he, rfl, _⟩
  · exact ⟨hr, rfl⟩
  · exact ⟨settled_rest _ (evalC_end ob fuel _ c' v he).1, (evalC_end ob fuel _ c' v he).2⟩


/-- **One real request = one reference request with further values below.** -/
theorem request_of_requestC (ob : Option Nat) (fuel : Nat) (C C' : State) (i : Input) (ov : Option Value)
    (RI : List Value) (hr : Rest C) (h : requestC ob fuel C i = some (C', ov)) :
    ∃ RI', request fuel (LF [] RI C.stopAt C) i = .value (LF [] RI' C'.stopAt C') ov := by
  obtain ⟨fc, hfc, hex⟩ := hr
  unfold request
  rcases requestC_eq_some.mp h with ⟨hl, rfl, rfl⟩ | ⟨last, c', v, hl, he, rfl, rfl⟩
  · exact ⟨RI, by simp [hl, load, LF]⟩
  · have hst : ({ setExprs (load (LF [] RI C.stopAt C) i) i.exprs with stopAt := some last.id } : State) =
        LF [] (fc.values ++ RI) (some last.id) (startC C i last) := by
      simp [setExprs, load, LF, startC, hfc, mapLast, fx]
    have hseg := seg_same (fc.values ++ RI) ob fuel (startC C i last) c' v (some last.id) rfl he
    refine ⟨fc.values ++ RI, ?_⟩
    simp only [hl, hst, hseg]
    simp [LF, load]

theorem incremental_of_canon (b : Nat) (fuel : Nat) : ∀ (is : List Input) (C C' : State) (ov : Option Value)
    (RI : List Value), Rest C → canon b fuel C is = some (C', ov) →
    ∃ RI', incremental fuel (LF [] RI C.stopAt C) is = .value (LF [] RI' C'.stopAt C') ov
  | [], C, C', ov, RI, hr, h => by cases h; exact ⟨RI, rfl⟩
  | [i], C, C', ov, RI, hr, h => request_of_requestC none fuel C C' i ov RI hr h
  | i :: i2 :: rest, C, C', ov, RI, hr, h => by
    obtain ⟨C1, ov1, hq, h⟩ := canon_cons₂.mp h
    obtain ⟨RI1, h1⟩ := request_of_requestC (some b) fuel C C1 i ov1 RI hr hq
    obtain ⟨RI', h2⟩ := incremental_of_canon b fuel (i2 :: rest) C1 C' ov RI1 (requestC_end _ _ _ _ _ _ hr hq).1 h
    exact ⟨RI', by simp only [incremental, h1]; exact h2⟩


theorem evalC_mono (p' : Program) (ob : Option Nat) : ∀ (n : Nat) (c c' : State) (v : Value),
    C11.Ext c.prog p' → evalC ob n c = some (c', v) →
    evalC ob n (C11.withProg p' c) = some (C11.withProg p' c', v) := by
  intro n
  induction n with
  | zero => intro c c' v _ h; simp [evalC] at h
  | succ n ih =>
    intro c c' v hx h
    obtain ⟨hg, hstep⟩ := evalC_succ.mp h
    refine evalC_succ.mpr ⟨by cases ob <;> exact hg, ?_⟩
    rcases hstep with ⟨c1, hs, h⟩ | ⟨hs, hend⟩
    · left
      refine ⟨C11.withProg p' c1, by rw [C11.step_mono c p' hx (by rw [hs]; rfl), hs]; rfl, ?_⟩
      exact ih c1 c' v (by rw [ResumeL.step_prog (by rw [hs]; rfl)]; exact hx) h
    · right
      exact ⟨by rw [C11.step_mono c p' hx (by rw [hs]; rfl), hs]; rfl, hend⟩

def ExtAll (pall : Program) : Program → List Input → Prop
  | _, [] => True
  | p, i :: rest => C11.Ext (loadP p i) pall ∧ ExtAll pall (loadP p i) rest

def LastIs (b : Nat) : List Input → Prop
  | [] => True
  | [i] => ∀ last, i.exprs.getLast? = some last → last.id = b
  | _ :: i2 :: rest => LastIs b (i2 :: rest)

def allExprs (is : List Input) : List (St × Expr) := (is.flatMap (·.exprs)).map (fun e => (St.N, e))

/-- **The concatenated request runs through the reference run**, the later inputs' entries and
some values below. -/
theorem batch_of_canon (b : Nat) (fuel : Nat) (pall : Program) : ∀ (is : List Input) (C C' : State)
    (v : Value) (RB : List Value), Rest C → canon b fuel C is = some (C', some v) →
    ExtAll pall C.prog is → LastIs b is →
    ∃ (m : Nat) (RB' : List Value),
      Resume.eval m (LFend (allExprs is) RB (some b) (C11.withProg pall C)) =
        .done (LF [] RB' (some b) (C11.withProg pall C')) v
  | [], C, C', v, RB, hr, h, hx, hl => by cases h
  | [i], C, C', v, RB, hr, h, hx, hl => by
    obtain ⟨fc, hfc, hex⟩ := hr
    rcases requestC_eq_some.mp h with ⟨_, _, hv⟩ | ⟨last, c', v', hlast, he, rfl, hv⟩
    · cases hv
    · cases hv
      have hb : last.id = b := hl last hlast
      have hseg := seg_same RB none fuel _ _ _ (some last.id) rfl (evalC_mono pall none fuel _ c' _ hx.1 he)
      refine ⟨fuel, RB, ?_⟩
      have hfin : LF [] RB (some b) (C11.withProg pall { c' with stopAt := C.stopAt }) =
          LF [] RB (some last.id) (C11.withProg pall c') := by
        simp [LF, C11.withProg, hb]
      have hst : LFend (allExprs [i]) RB (some b) (C11.withProg pall C) =
          LF [] RB (some last.id) (C11.withProg pall (startC C i last)) := by
        simp [LFend, LF, C11.withProg, startC, load, hfc, mapLast, fx, allExprs, hb]
      rw [hfin, hst]
      exact hseg
  | i :: i2 :: rest, C, C', v, RB, hr, h, hx, hl => by
    obtain ⟨C1, ov1, hq, h⟩ := canon_cons₂.mp h
    have hrec := fun R' => batch_of_canon b fuel pall (i2 :: rest) C1 C' v R' (requestC_end _ _ _ _ _ _ hr hq).1 h
      (by rw [(requestC_end _ _ _ _ _ _ hr hq).2]; exact hx.2) hl
    obtain ⟨fc, hfc, hex⟩ := hr
    have hall : allExprs (i :: i2 :: rest) = i.exprs.map (fun e => (St.N, e)) ++ allExprs (i2 :: rest) := by
      simp [allExprs]
    rcases requestC_eq_some.mp hq with ⟨hlast, rfl, _⟩ | ⟨last, c', v0, hlast, he, rfl, _⟩
    · -- an input without expressions only loads its definitions
      obtain ⟨m, RB', hm⟩ := hrec RB
      refine ⟨m, RB', ?_⟩
      have : LFend (allExprs (i :: i2 :: rest)) RB (some b) (C11.withProg pall C) =
          LFend (allExprs (i2 :: rest)) RB (some b) (C11.withProg pall (load C i)) := by
        rw [hall, List.getLast?_eq_none_iff.mp hlast]; simp [LFend, C11.withProg, load]
      rw [this]; exact hm
    · obtain ⟨m1, R', hseg⟩ := seg_diff (allExprs (i2 :: rest)) b fuel _ _ v0 RB
        (evalC_mono pall (some b) fuel _ c' v0 hx.1 he)
      obtain ⟨m2, RB', hm2⟩ := hrec R'
      refine ⟨m1 + m2, RB', ?_⟩
      have hst : LFend (allExprs (i :: i2 :: rest)) RB (some b) (C11.withProg pall C) =
          LF (allExprs (i2 :: rest)) RB (some b) (C11.withProg pall (startC C i last)) := by
        rw [hall]
        simp [LFend, LF, C11.withProg, startC, load, hfc, mapLast, fx]
      rw [hst, hseg m2]
      exact hm2

theorem loadP_concat_cons (p : Program) (i : Input) (rest : List Input) :
    loadP p (concatInputs (i :: rest)) = loadP (loadP p i) (concatInputs rest) := by
  simp [loadP, concatInputs, List.flatMap_cons, List.append_assoc]

theorem canon_end (b fuel : Nat) : ∀ (is : List Input) (C C' : State) (ov : Option Value), Rest C →
    canon b fuel C is = some (C', ov) → Rest C' ∧ C'.prog = loadP C.prog (concatInputs is)
  | [], C, C', ov, hr, h => by cases h; exact ⟨hr, by simp [loadP, concatInputs]⟩
  | [i], C, C', ov, hr, h => by
    have h1 := requestC_end none fuel C C' i ov hr h
    exact ⟨h1.1, by rw [h1.2]; simp [loadP, concatInputs]⟩
  | i :: i2 :: rest, C, C', ov, hr, h => by
    obtain ⟨C1, ov1, hq, h⟩ := canon_cons₂.mp h
    have h1 := requestC_end _ _ _ _ _ _ hr hq
    have h2 := canon_end b fuel (i2 :: rest) C1 C' ov h1.1 h
    exact ⟨h2.1, by rw [h2.2, h1.2, loadP_concat_cons C.prog i]⟩

end Incr
