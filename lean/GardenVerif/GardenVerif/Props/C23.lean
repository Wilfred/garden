import GardenVerif.Lemmas.Lex
/-!
# C23 — reported source positions are consistent

`Lex.Consistent src pos` (Lemmas/Lex.lean) is the property for one position of the text `src`:
there are two prefixes `p1 <+: p2 <+: src` of the *character* sequence with

* `pos.start = bytes p1`, `pos.stop = bytes p2` — both offsets are character boundaries, and
  `start ≤ stop ≤ |src|` (`consistent_bounds`);
* `pos.line = p1.count '\n'`, `pos.col = bytes (lastLine p1)` — the zero-based line is the number
  of newlines before the start offset, the column is the number of BYTES between the line start
  (the offset just after the last newline before `start`, `lineStart_spec`) and `start`;
* `pos.endLine = p2.count '\n'`, `pos.endCol = bytes (lastLine p2)` — likewise for the end offset:
  "the end line is the line containing the end offset".

Model: `Lex.lex` = `lex_between` of src/parser/lex.rs with the fix patches `lex-fix-nonascii` and
`lex-fix-endline` (end line/column from `lp.from_offset(end_offset)`), `LinePositions::from_offset`
of the line-numbers crate, `Position::merge` / `merge_token` of src/parser/position.rs. In
src/parser.rs every position of an AST node is a token/comment position or a `merge` of positions, so
`merge_consistent` is the step that carries consistency to them; that is read off the Rust, no statement here is
about the parser (its model M2 keeps only the lines of a token).
The pinned tree violates the property (`pinned_token_end_line_wrong`).
-/

namespace C23
open Lex

theorem consistent_bounds {src : List Char} {pos : Pos} (h : Consistent src pos) :
    pos.start ≤ pos.stop ∧ pos.stop ≤ bytes src := by
  obtain ⟨p1, p2, h12, h2, rfl⟩ := h
  exact ⟨bytes_le_of_prefix h12, bytes_le_of_prefix h2⟩

theorem lineStart_spec (p : List Char) :
    ∃ front, p = front ++ lastLine p ∧ '\n' ∉ lastLine p ∧
      (front = [] ∨ front.getLast? = some '\n') ∧ colOf p = bytes p - bytes front := by
  suffices h : ∀ r : List Char, ∃ front, r.reverse = front ++ lastLine r.reverse ∧
      '\n' ∉ lastLine r.reverse ∧ (front = [] ∨ front.getLast? = some '\n') by
    obtain ⟨front, h1, h2, h3⟩ := h p.reverse
    simp only [List.reverse_reverse] at h1 h2 h3
    refine ⟨front, h1, h2, h3, ?_⟩
    have : bytes p = bytes front + bytes (lastLine p) := by
      conv => lhs; rw [h1]
      simp
    simp only [colOf]; omega
  intro r
  induction r with
  | nil => exact ⟨[], by simp [lastLine], by simp [lastLine], Or.inl rfl⟩
  | cons c cs ih =>
    obtain ⟨front, h1, h2, h3⟩ := ih
    simp only [List.reverse_cons, lastLine_snoc]
    by_cases hc : c = '\n'
    · subst hc
      refine ⟨cs.reverse ++ ['\n'], by simp, by simp, Or.inr (by simp)⟩
    · simp only [hc, if_false]
      refine ⟨front, ?_, ?_, h3⟩
      · rw [← List.append_assoc, ← h1]
      · simp only [List.mem_append, List.mem_singleton, not_or]
        exact ⟨h2, fun e => hc e.symm⟩

theorem token_pos_consistent (T : LexTables) (hT : T.wf = true) (src : List Char) (strAny : Bool) :
    ∀ tok ∈ (lex T src strAny).tokens, Consistent src tok.pos :=
  fun tok htok => ((lex_ok hT src strAny).tokens tok htok).1.consistent

theorem comment_pos_consistent (T : LexTables) (hT : T.wf = true) (src : List Char) (strAny : Bool) :
    (∀ tok ∈ (lex T src strAny).tokens, ∀ c ∈ tok.comments, Consistent src c.1) ∧
    (∀ c ∈ (lex T src strAny).trailing, Consistent src c.1) :=
  ⟨fun tok htok => ((lex_ok hT src strAny).tokens tok htok).2, (lex_ok hT src strAny).trailing⟩

theorem lex_error_pos_consistent (T : LexTables) (hT : T.wf = true) (src : List Char) (strAny : Bool) :
    ∀ e ∈ (lex T src strAny).errors, Consistent src e.pos :=
  (lex_ok hT src strAny).errors

/-- `Position::merge`, whatever the order of the two (the parser always calls it with `first.start ≤ second.start`). -/
theorem merge_consistent (src : List Char) (first second : Pos)
    (h1 : Consistent src first) (h2 : Consistent src second) :
    Consistent src (Pos.merge first second) := merge_consistent_aux h1 h2

theorem merge_token_consistent (T : LexTables) (hT : T.wf = true) (src : List Char)
    (tok : Token) (htok : tok ∈ (lex T src strAny).tokens) (second : Pos) (h2 : Consistent src second) :
    Consistent src (Pos.mergeToken tok second) := by
  unfold Pos.mergeToken
  split
  · rename_i p c rest hc
    have := (comment_pos_consistent T hT src strAny).1 tok htok (p, c) (by rw [hc]; simp)
    exact merge_consistent_aux this h2
  · exact merge_consistent_aux (token_pos_consistent T hT src strAny tok htok) h2

/-- Non-vacuity: `é "a⏎ü" x // c` — a 2-byte unrecognised character, a string literal spanning a
newline with a 2-byte character on its second line, a symbol and a trailing comment. The
string token is bytes 3..9, starts at line 0 column 3 and ends at line 1 column 3. -/
example :
    (lex LexTables.garden ['é', ' ', '"', 'a', '\n', 'ü', '"', ' ', 'x', ' ', '/', '/', ' ', 'c']).tokens.map (·.pos)
      = [⟨3, 9, 0, 1, 3, 3⟩, ⟨10, 11, 1, 1, 4, 5⟩] := by decide

example :
    (lex LexTables.garden ['é', ' ', '"', 'a', '\n', 'ü', '"', ' ', 'x', ' ', '/', '/', ' ', 'c']).errors.map (·.pos)
      = [⟨0, 2, 0, 0, 0, 2⟩] := by decide

/-- The merge of the string token's and the symbol's positions, as the parser would build for
an expression spanning both. -/
example : Pos.merge ⟨3, 9, 0, 1, 3, 3⟩ ⟨10, 11, 1, 1, 4, 5⟩ = ⟨3, 11, 0, 1, 3, 5⟩ := by decide

/-- The pinned lexer gives the multi-line string token `"a⏎b"` end line 0 and end column 5;
the line containing its end offset is line 1 (column 2). -/
theorem pinned_token_end_line_wrong :
    (lexOld LexTables.garden ['"', 'a', '\n', 'b', '"']).tokens.map (·.pos) = [⟨0, 5, 0, 0, 0, 5⟩] ∧
    (lex LexTables.garden ['"', 'a', '\n', 'b', '"']).tokens.map (·.pos) = [⟨0, 5, 0, 1, 0, 2⟩] := by
  decide

end C23
