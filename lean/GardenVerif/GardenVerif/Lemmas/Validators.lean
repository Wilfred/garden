import GardenVerif.Model.Validators
/-! `progEq` decides equality of programs (`progEq_sound`, `progEq_refl`); the relation `ER` between an
environment and its renaming, with lookup; what `applyRenamesGo`, `applyFixes` and
`applyFixesSkipGo` compute on a segmented text. -/

namespace Validators
open Machine (Expr Case Dest BinOp Program FunDef EnumDef)
open RefSem

/- `exprEq a b` unfolds to a `match` on `b` with one arm for the constructor of `a` and a catch-all
`false`: `split` gives these two cases, so the other 20 constructors of `b` are never enumerated. -/
mutual
theorem exprEq_sound : ∀ (a b : Expr), exprEq a b = true → a = b
  | .int .., b | .str .., b | .var .., b | .unsup .., b => by
      intro h
      unfold exprEq at h
      split at h
      · simp only [Bool.and_eq_true, beq_iff_eq] at h
        obtain ⟨⟨h1, h2⟩, h3⟩ := h
        rw [h1, h2, h3]
      · cases h
  | .ret _ _ none, b | .brk .., b | .cont .., b | .invalid .., b => by
      intro h
      unfold exprEq at h
      split at h
      · simp only [Bool.and_eq_true, beq_iff_eq] at h
        obtain ⟨h1, h2⟩ := h
        rw [h1, h2]
      · cases h
  | .binop _ _ _ l r, b => by
      intro h
      unfold exprEq at h
      split at h
      · simp only [Bool.and_eq_true, beq_iff_eq, decide_eq_true_eq] at h
        obtain ⟨⟨⟨⟨h1, h2⟩, h3⟩, h4⟩, h5⟩ := h
        rw [h1, h2, h3, exprEq_sound l _ h4, exprEq_sound r _ h5]
      · cases h
  | .letE _ _ _ e, b | .assign _ _ _ e, b => by
      intro h
      unfold exprEq at h
      split at h
      · simp only [destEq, Bool.and_eq_true, beq_iff_eq, decide_eq_true_eq] at h
        obtain ⟨⟨⟨h1, h2⟩, h3⟩, h4⟩ := h
        rw [h1, h2, h3, exprEq_sound e _ h4]
      · cases h
  | .update _ _ _ _ e, b => by
      intro h
      unfold exprEq at h
      split at h
      · simp only [Bool.and_eq_true, beq_iff_eq] at h
        obtain ⟨⟨⟨⟨h1, h2⟩, h3⟩, h4⟩, h5⟩ := h
        rw [h1, h2, h3, h4, exprEq_sound e _ h5]
      · cases h
  | .ifE _ _ c t e, b => by
      intro h
      unfold exprEq at h
      split at h
      · simp only [Bool.and_eq_true, beq_iff_eq] at h
        obtain ⟨⟨⟨⟨h1, h2⟩, h3⟩, h4⟩, h5⟩ := h
        rw [h1, h2, exprEq_sound c _ h3, seqEq_sound t _ h4, optEq_sound e _ h5]
      · cases h
  | .whileE _ _ c bd, b | .call _ _ c bd, b => by
      intro h
      unfold exprEq at h
      split at h
      · simp only [Bool.and_eq_true, beq_iff_eq] at h
        obtain ⟨⟨⟨h1, h2⟩, h3⟩, h4⟩ := h
        rw [h1, h2, exprEq_sound c _ h3, seqEq_sound bd _ h4]
      · cases h
  | .forE _ _ _ e bd, b => by
      intro h
      unfold exprEq at h
      split at h
      · simp only [destEq, Bool.and_eq_true, beq_iff_eq, decide_eq_true_eq] at h
        obtain ⟨⟨⟨⟨h1, h2⟩, h3⟩, h4⟩, h5⟩ := h
        rw [h1, h2, h3, exprEq_sound e _ h4, seqEq_sound bd _ h5]
      · cases h
  | .matchE _ _ s cs, b => by
      intro h
      unfold exprEq at h
      split at h
      · simp only [Bool.and_eq_true, beq_iff_eq] at h
        obtain ⟨⟨⟨h1, h2⟩, h3⟩, h4⟩ := h
        rw [h1, h2, exprEq_sound s _ h3, casesEq_sound cs _ h4]
      · cases h
  | .ret _ _ (some e), b | .paren _ _ e, b => by
      intro h
      unfold exprEq at h
      split at h
      · simp only [Bool.and_eq_true, beq_iff_eq] at h
        obtain ⟨⟨h1, h2⟩, h3⟩ := h
        rw [h1, h2, exprEq_sound e _ h3]
      · cases h
  | .list _ _ es, b | .tuple _ _ es, b => by
      intro h
      unfold exprEq at h
      split at h
      · simp only [Bool.and_eq_true, beq_iff_eq] at h
        obtain ⟨⟨h1, h2⟩, h3⟩ := h
        rw [h1, h2, seqEq_sound es _ h3]
      · cases h
  | .lambda _ _ _ bd, b => by
      intro h
      unfold exprEq at h
      split at h
      · simp only [Bool.and_eq_true, beq_iff_eq] at h
        obtain ⟨⟨⟨h1, h2⟩, h3⟩, h4⟩ := h
        rw [h1, h2, h3, seqEq_sound bd _ h4]
      · cases h
termination_by structural a => a
theorem seqEq_sound : ∀ (a b : List Expr), seqEq a b = true → a = b
  | [], [] => by simp
  | a :: as, b :: bs => by
      simp only [seqEq, Bool.and_eq_true]
      rintro ⟨h1, h2⟩
      rw [exprEq_sound a b h1, seqEq_sound as bs h2]
  | [], _ :: _ => by simp [seqEq]
  | _ :: _, [] => by simp [seqEq]
termination_by structural a => a
theorem optEq_sound : ∀ (a b : Option (List Expr)), optEq a b = true → a = b
  | none, none => by simp
  | some a, some b => by
      simp only [optEq]
      intro h
      rw [seqEq_sound a b h]
  | none, some _ => by simp [optEq]
  | some _, none => by simp [optEq]
termination_by structural a => a
theorem caseEq_sound : ∀ (a b : Case), caseEq a b = true → a = b
  | .mk v d b, .mk v' d' b' => by
      simp only [caseEq, Bool.and_eq_true, beq_iff_eq, decide_eq_true_eq]
      rintro ⟨⟨h1, h2⟩, h3⟩
      rw [h1, h2, seqEq_sound b b' h3]
termination_by structural a => a
theorem casesEq_sound : ∀ (a b : List Case), casesEq a b = true → a = b
  | [], [] => by simp
  | a :: as, b :: bs => by
      simp only [casesEq, Bool.and_eq_true]
      rintro ⟨h1, h2⟩
      rw [caseEq_sound a b h1, casesEq_sound as bs h2]
  | [], _ :: _ => by simp [casesEq]
  | _ :: _, [] => by simp [casesEq]
termination_by structural a => a
end

theorem funsEq_sound : ∀ (a b : List FunDef), funsEq a b = true → a = b
  | [], [] => by simp
  | a :: as, b :: bs => by
      simp only [funsEq, funEq, Bool.and_eq_true, beq_iff_eq]
      rintro ⟨⟨⟨h1, h2⟩, h3⟩, h4⟩
      have := seqEq_sound _ _ h3
      rw [funsEq_sound as bs h4]
      cases a; cases b; simp_all
  | [], _ :: _ => by simp [funsEq]
  | _ :: _, [] => by simp [funsEq]

theorem enumsEq_sound : ∀ (a b : List EnumDef), enumsEq a b = true → a = b
  | [], [] => by simp
  | a :: as, b :: bs => by
      simp only [enumsEq, enumEq, Bool.and_eq_true, beq_iff_eq]
      rintro ⟨⟨h1, h2⟩, h4⟩
      rw [enumsEq_sound as bs h4]
      cases a; cases b; simp_all
  | [], _ :: _ => by simp [enumsEq]
  | _ :: _, [] => by simp [enumsEq]

theorem progEq_sound (a b : Program) (h : progEq a b = true) : a = b := by
  simp only [progEq, Bool.and_eq_true] at h
  obtain ⟨⟨h1, h2⟩, h3⟩ := h
  have := funsEq_sound _ _ h1
  have := enumsEq_sound _ _ h2
  have := seqEq_sound _ _ h3
  cases a; cases b; simp_all

mutual
theorem exprEq_refl : ∀ a : Expr, exprEq a a = true
  | .int .. | .str .. | .var .. | .brk .. | .cont .. | .invalid .. | .unsup .. | .ret _ _ none => by
      unfold exprEq; simp
  | .binop _ _ _ l r => by unfold exprEq; simp [exprEq_refl l, exprEq_refl r]
  | .letE _ _ _ e | .assign _ _ _ e | .update _ _ _ _ e | .ret _ _ (some e) | .paren _ _ e => by
      unfold exprEq; simp [destEq, exprEq_refl e]
  | .ifE _ _ c t e => by unfold exprEq; simp [exprEq_refl c, seqEq_refl t, optEq_refl e]
  | .whileE _ _ c b | .forE _ _ _ c b | .call _ _ c b => by
      unfold exprEq; simp [destEq, exprEq_refl c, seqEq_refl b]
  | .matchE _ _ s cs => by unfold exprEq; simp [exprEq_refl s, casesEq_refl cs]
  | .list _ _ es | .tuple _ _ es | .lambda _ _ _ es => by unfold exprEq; simp [seqEq_refl es]
theorem seqEq_refl : ∀ a : List Expr, seqEq a a = true
  | [] => by unfold seqEq; rfl
  | a :: as => by unfold seqEq; simp [exprEq_refl a, seqEq_refl as]
theorem optEq_refl : ∀ a : Option (List Expr), optEq a a = true
  | none => by unfold optEq; rfl
  | some a => by unfold optEq; exact seqEq_refl a
theorem caseEq_refl : ∀ a : Case, caseEq a a = true
  | .mk _ _ b => by unfold caseEq; simp [seqEq_refl b]
theorem casesEq_refl : ∀ a : List Case, casesEq a a = true
  | [] => by unfold casesEq; rfl
  | a :: as => by unfold casesEq; simp [caseEq_refl a, casesEq_refl as]
end

theorem progEq_refl (a : Program) : progEq a a = true := by
  have hf : ∀ l : List FunDef, funsEq l l = true := fun l => by
    induction l with
    | nil => rfl
    | cons d l ih => simp [funsEq, funEq, seqEq_refl, ih]
  have he : ∀ l : List EnumDef, enumsEq l l = true := fun l => by
    induction l with
    | nil => rfl
    | cons d l ih => simp [enumsEq, enumEq, ih]
  simp [progEq, hf, he, seqEq_refl]

/-- For the examples on concrete trees: `a = b` is proved by `rfl`; `progEq a b = true` itself the kernel
cannot evaluate. -/
theorem progEq_of_eq {a b : Program} (h : a = b) : progEq a b = true := h ▸ progEq_refl a

/-- `ER c act env env'`: `env'` is `env` with some entries of `c.x` renamed to `c.y` (same
locations); `act` says whether the innermost entry of `c.x` is a renamed one. No entry of
`env` is called `c.y` (where `c.x ≠ c.y`, as the C19 theorems assume). -/
inductive ER (c : RenCfg) : Bool → Env → Env → Prop where
  | nil : ER c false [] []
  | other {a env env'} (k : String) (l : Nat) : k ≠ c.x → k ≠ c.y → ER c a env env' →
      ER c a ((k, l) :: env) ((k, l) :: env')
  | hit {a env env'} (l : Nat) : ER c a env env' → ER c true ((c.x, l) :: env) ((c.y, l) :: env')
  | shadow {a env env'} (l : Nat) : ER c a env env' → ER c false ((c.x, l) :: env) ((c.x, l) :: env')

theorem ER.lookup_other {c : RenCfg} {a env env'} (h : ER c a env env') (z : String)
    (hx : z ≠ c.x) (hy : z ≠ c.y) : lookup env' z = lookup env z := by
  induction h with
  | nil => rfl
  | other k l _ _ _ ih => simp only [lookup, ih]
  | hit l _ ih =>
    simp only [lookup]
    rw [if_neg (by simpa using Ne.symm hy), if_neg (by simpa using Ne.symm hx), ih]
  | shadow l _ ih => simp only [lookup, ih]

theorem ER.lookup_x {c : RenCfg} {a env env'} (h : ER c a env env') :
    (a = false → lookup env' c.x = lookup env c.x) ∧
    (a = true → lookup env' c.y = lookup env c.x ∧ (lookup env c.x).isSome = true) := by
  induction h with
  | nil => simp [lookup]
  | other k l hk1 hk2 _ ih =>
    have e1 : (k == c.x) = false := by simpa using hk1
    have e2 : (k == c.y) = false := by simpa using hk2
    simp only [lookup, e1, e2, Bool.false_eq_true, if_false]
    exact ih
  | hit l _ ih => simp [lookup]
  | shadow l _ ih => simp [lookup]

theorem ER.lookup_rn {c : RenCfg} {a env env'} (h : ER c a env env') (n : String)
    (hn : n ≠ c.y) : lookup env' (rn c a n) = lookup env n ∧
      (isUse c a n = true → (lookup env n).isSome = true) := by
  unfold rn isUse
  by_cases hx : n = c.x
  · subst hx
    cases a
    · simpa using h.lookup_x.1 rfl
    · simpa using h.lookup_x.2 rfl
  · have : (n == c.x) = false := by simpa using hx
    simp only [this, Bool.and_false, Bool.false_eq_true, if_false, false_implies, and_true]
    exact h.lookup_other n hx hn

theorem renNames_fst_length (c : RenCfg) (hit : Option Nat) :
    ∀ (ns : List String) (act : Bool) (i : Nat), (renNames c hit act i ns).1.length = ns.length
  | [], _, _ => rfl
  | n :: ns, act, i => by simp [renNames, renNames_fst_length c hit ns]

theorem slice_mid {α} (pre g rest : List α) :
    slice (pre ++ (g ++ rest)) pre.length (pre.length + g.length) = some g := by
  unfold slice
  rw [if_pos (by simp)]
  simp

theorem slice_end {α} (pre last : List α) :
    slice (pre ++ last) pre.length (pre ++ last).length = some last := by
  unfold slice
  rw [if_pos (by simp)]
  simp

theorem applyRenamesGo_spec {α} (new : List α) :
    ∀ (segs : List (List α × List α)) (pre last acc : List α),
      applyRenamesGo (pre ++ buildText segs last) new pre.length (positionsOf pre.length segs) acc
        = some (acc ++ buildRenamed new segs last)
  | [], pre, last, acc => by
      simp only [buildText, positionsOf, applyRenamesGo, buildRenamed, slice_end, Option.map_some]
  | (g, t) :: rest, pre, last, acc => by
      simp only [buildText, positionsOf, applyRenamesGo, buildRenamed]
      rw [List.append_assoc g t, slice_mid]
      have := applyRenamesGo_spec new rest (pre ++ g ++ t) last (acc ++ g ++ new)
      simp only [List.length_append, List.append_assoc, Nat.add_assoc] at this ⊢
      rw [this]

theorem splice_mid {α} (pre g t x nw : List α) :
    splice (pre ++ g ++ t ++ x) ⟨pre.length + g.length, pre.length + g.length + t.length, nw⟩
      = some (pre ++ g ++ nw ++ x) := by
  unfold splice
  rw [if_pos (by simp; omega)]
  have h1 : (pre ++ g ++ t ++ x).take (pre.length + g.length) = pre ++ g := by
    rw [List.append_assoc (pre ++ g)]
    exact List.take_left' (by simp)
  have h2 : (pre ++ g ++ t ++ x).drop (pre.length + g.length + t.length) = x := by
    exact List.drop_left' (by simp [Nat.add_assoc])
  simp only [h1, h2]

theorem applyFixes_foldr {α} :
    ∀ (segs : List (List α × List α × List α)) (pre last : List α),
      (fixesOf pre.length segs).foldr (fun f acc => acc.bind (splice · f)) (some (pre ++ buildText3 segs last))
        = some (pre ++ buildFixed segs last)
  | [], pre, last => by simp [fixesOf, buildText3, buildFixed]
  | (g, t, nw) :: rest, pre, last => by
      simp only [fixesOf, buildText3, buildFixed, List.foldr_cons]
      have ih := applyFixes_foldr rest (pre ++ g ++ t) last
      simp only [List.length_append] at ih
      simp only [List.append_assoc] at ih
      simp only [List.append_assoc, ih, Option.bind_some]
      have := splice_mid pre g t (buildFixed rest last) nw
      simp only [List.append_assoc] at this
      exact this

theorem applyFixesSkipGo_spec {α} :
    ∀ (segs : List (List α × List α × List α)) (pre last : List α) (more : List (Fix α)) (bound : Nat),
      (pre ++ buildText3 segs last).length ≤ bound →
      ∃ bound', pre.length ≤ bound' ∧
        applyFixesSkipGo ((fixesOf pre.length segs).reverse ++ more) (pre ++ buildText3 segs last) bound
          = applyFixesSkipGo more (pre ++ buildFixed segs last) bound'
  | [], pre, last, more, bound, h => by
      refine ⟨bound, ?_, ?_⟩
      · simp [buildText3] at h; omega
      · simp [fixesOf, buildText3, buildFixed]
  | (g, t, nw) :: rest, pre, last, more, bound, h => by
      have h' : ((pre ++ g ++ t) ++ buildText3 rest last).length ≤ bound := by
        simpa [buildText3, List.append_assoc] using h
      obtain ⟨b', hb', ih⟩ := applyFixesSkipGo_spec rest (pre ++ g ++ t) last
        (⟨pre.length + g.length, pre.length + g.length + t.length, nw⟩ :: more) bound h'
      refine ⟨pre.length + g.length, by omega, ?_⟩
      simp only [List.length_append] at ih hb'
      simp only [fixesOf, buildText3, buildFixed, List.reverse_cons, List.append_assoc, List.singleton_append]
      simp only [List.append_assoc] at ih
      rw [ih]
      simp only [applyFixesSkipGo]
      rw [if_pos ⟨by omega, by omega⟩]
      have h1 : (pre ++ (g ++ (t ++ buildFixed rest last))).take (pre.length + g.length) = pre ++ g := by
        rw [← List.append_assoc]
        exact List.take_left' (by simp)
      have h2 : (pre ++ (g ++ (t ++ buildFixed rest last))).drop (pre.length + g.length + t.length)
          = buildFixed rest last := by
        rw [← List.append_assoc, ← List.append_assoc]
        exact List.drop_left' (by simp [Nat.add_assoc])
      rw [h1, h2]
      simp [List.append_assoc]

end Validators
