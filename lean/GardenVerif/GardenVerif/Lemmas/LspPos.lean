import GardenVerif.Model.LspPos
/-!
Lemmas about M9 `LspPos` for `Props/C29.lean`. Method: a character-boundary offset is
`byteLen pre` for a split `src = pre ++ post`, so every conversion is stated on such a split
(`*_prefix`): its line is `countNl pre`, its column the UTF-16 length of `lastLine pre`. Facts about
lines go by `nl_induction` (a text is newline-free, or a newline-free line, a newline and a text).
-/

namespace LspPos

theorem utf8Len_pos (c : Char) : 0 < utf8Len c := Char.utf8Size_pos c

theorem utf16Len_pos (c : Char) : 0 < utf16Len c := by
  unfold utf16Len; split <;> omega

theorem utf16Len_le_utf8Len (c : Char) : utf16Len c ≤ utf8Len c := by
  unfold utf16Len utf8Len Char.utf8Size
  have : c.toNat = c.val.toNat := rfl
  split
  · have := Char.utf8Size_pos c; unfold Char.utf8Size at this; omega
  · rename_i h
    have h1 : ¬ c.val ≤ 127 := by
      intro h'; have := UInt32.le_iff_toNat_le.mp h'; simp at this; omega
    have h2 : ¬ c.val ≤ 2047 := by
      intro h'; have := UInt32.le_iff_toNat_le.mp h'; simp at this; omega
    have h3 : ¬ c.val ≤ 65535 := by
      intro h'; have := UInt32.le_iff_toNat_le.mp h'; simp at this; omega
    simp [h1, h2, h3]

@[simp] theorem utf8Len_nl : utf8Len '\n' = 1 := by decide

@[simp] theorem byteLen_nil : byteLen [] = 0 := rfl
@[simp] theorem byteLen_cons (c : Char) (cs : List Char) :
    byteLen (c :: cs) = utf8Len c + byteLen cs := rfl
@[simp] theorem utf16Count_nil : utf16Count [] = 0 := rfl
@[simp] theorem utf16Count_cons (c : Char) (cs : List Char) :
    utf16Count (c :: cs) = utf16Len c + utf16Count cs := rfl
@[simp] theorem countNl_nil : countNl [] = 0 := rfl
@[simp] theorem countNl_cons (c : Char) (cs : List Char) :
    countNl (c :: cs) = (if c = '\n' then 1 else 0) + countNl cs := rfl

theorem byteLen_append (a b : List Char) : byteLen (a ++ b) = byteLen a + byteLen b := by
  induction a with
  | nil => simp
  | cons c cs ih => simp [ih]; omega

theorem utf16Count_append (a b : List Char) :
    utf16Count (a ++ b) = utf16Count a + utf16Count b := by
  induction a with
  | nil => simp
  | cons c cs ih => simp [ih]; omega

theorem countNl_append (a b : List Char) : countNl (a ++ b) = countNl a + countNl b := by
  induction a with
  | nil => simp
  | cons c cs ih => simp [ih]; omega

theorem utf16Count_le_byteLen (l : List Char) : utf16Count l ≤ byteLen l := by
  induction l with
  | nil => simp
  | cons c cs ih => have := utf16Len_le_utf8Len c; simp; omega

theorem countNl_le_byteLen (l : List Char) : countNl l ≤ byteLen l := by
  induction l with
  | nil => simp
  | cons c cs ih => have := utf8Len_pos c; simp; split <;> omega

theorem countNl_eq_zero {l : List Char} (h : ∀ x ∈ l, x ≠ '\n') : countNl l = 0 := by
  induction l with
  | nil => rfl
  | cons c cs ih =>
    have hc : c ≠ '\n' := h c (by simp)
    simp [hc, ih (fun x hx => h x (by simp [hx]))]

theorem prefixAt_some {src pre : List Char} {o : Nat} (h : prefixAt src o = some pre) :
    ∃ post, src = pre ++ post ∧ byteLen pre = o := by
  induction src generalizing o pre with
  | nil =>
    cases o with
    | zero => simp [prefixAt] at h; subst h; exact ⟨[], rfl, rfl⟩
    | succ n => simp [prefixAt] at h
  | cons c cs ih =>
    cases o with
    | zero => simp [prefixAt] at h; subst h; exact ⟨c :: cs, rfl, rfl⟩
    | succ n =>
      simp only [prefixAt] at h
      split at h
      · rename_i hle
        cases hp : prefixAt cs (n + 1 - utf8Len c) with
        | none => simp [hp] at h
        | some p =>
          simp [hp] at h
          obtain ⟨post, h1, h2⟩ := ih hp
          subst h
          exact ⟨post, by simp [h1], by simp; omega⟩
      · simp at h

theorem prefixAt_byteLen (pre post : List Char) :
    prefixAt (pre ++ post) (byteLen pre) = some pre := by
  induction pre with
  | nil => simp [prefixAt]
  | cons c cs ih =>
    have hp := utf8Len_pos c
    simp only [List.cons_append, byteLen_cons]
    obtain ⟨n, hn⟩ : ∃ n, utf8Len c + byteLen cs = n + 1 := ⟨utf8Len c + byteLen cs - 1, by omega⟩
    rw [hn]
    simp only [prefixAt]
    have : utf8Len c ≤ n + 1 := by omega
    simp only [this, if_true]
    have : n + 1 - utf8Len c = byteLen cs := by omega
    rw [this, ih]; rfl

theorem isCharBoundary_iff (src : List Char) (o : Nat) :
    IsCharBoundary src o ↔ ∃ pre post, src = pre ++ post ∧ byteLen pre = o := by
  constructor
  · intro h
    unfold IsCharBoundary isCharBoundary at h
    cases hp : prefixAt src o with
    | none => simp [hp] at h
    | some pre =>
      obtain ⟨post, h1, h2⟩ := prefixAt_some hp
      exact ⟨pre, post, h1, h2⟩
  · rintro ⟨pre, post, rfl, rfl⟩
    unfold IsCharBoundary isCharBoundary
    simp [prefixAt_byteLen]

theorem lineOf_prefix (pre post : List Char) :
    lineOf (pre ++ post) (byteLen pre) = countNl pre := by
  induction pre with
  | nil => cases post <;> simp [lineOf]
  | cons c cs ih =>
    have hp := utf8Len_pos c
    simp only [List.cons_append, lineOf, byteLen_cons, countNl_cons]
    have h0 : ¬ (utf8Len c + byteLen cs = 0) := by omega
    have h1 : utf8Len c + byteLen cs - utf8Len c = byteLen cs := by omega
    simp only [h0, if_false, h1, ih]

theorem takeWhile_append_stop {α : Type} {p : α → Bool} {x : α} (hx : p x = false)
    (l r : List α) : (l ++ x :: r).takeWhile p = l.takeWhile p := by
  induction l with
  | nil => simp [hx]
  | cons c cs ih => simp only [List.cons_append, List.takeWhile_cons, ih]

theorem lastLine_of_noNl {l : List Char} (h : ∀ x ∈ l, x ≠ '\n') : lastLine l = l := by
  unfold lastLine
  have : l.reverse.takeWhile (fun c => c != '\n') = l.reverse := by
    have := List.takeWhile_append_of_pos (p := fun c => c != '\n') (l₁ := l.reverse) (l₂ := [])
      (fun x hx => by simpa using h x (List.mem_reverse.mp hx))
    simpa using this
  rw [this, List.reverse_reverse]

theorem lastLine_append_nl (a b : List Char) : lastLine (a ++ '\n' :: b) = lastLine b := by
  unfold lastLine
  have : (a ++ '\n' :: b).reverse = b.reverse ++ '\n' :: a.reverse := by simp
  rw [this, takeWhile_append_stop (by simp)]

theorem lastLine_noNl (l : List Char) : ∀ x ∈ lastLine l, x ≠ '\n' := by
  intro x hx
  unfold lastLine at hx
  rw [List.mem_reverse] at hx
  have := List.all_eq_true.mp List.all_takeWhile x hx
  simpa using this

theorem lastLine_suffix (l : List Char) : ∃ a, l = a ++ lastLine l := by
  refine ⟨(l.reverse.dropWhile (fun c => c != '\n')).reverse, ?_⟩
  unfold lastLine
  rw [← List.reverse_append, List.takeWhile_append_dropWhile, List.reverse_reverse]

theorem lastLine_eq_nil_iff (l : List Char) :
    lastLine l = [] ↔ l = [] ∨ l.getLast? = some '\n' := by
  unfold lastLine
  rw [List.reverse_eq_nil_iff, ← List.head?_reverse]
  cases h : l.reverse with
  | nil => simp at h; simp [h]
  | cons c cs =>
    have hne : l ≠ [] := by intro h'; simp [h'] at h
    simp [List.takeWhile_cons, hne]

theorem nl_induction {P : List Char → Prop}
    (base : ∀ l, (∀ x ∈ l, x ≠ '\n') → P l)
    (step : ∀ a b, (∀ x ∈ a, x ≠ '\n') → P b → P (a ++ '\n' :: b)) : ∀ l, P l := by
  -- read `l` from the left, collecting the current line in `a`
  suffices h : ∀ l a, (∀ x ∈ a, x ≠ '\n') → P (a ++ l) from fun l => h l [] (fun _ h => nomatch h)
  intro l
  induction l with
  | nil => intro a ha; rw [List.append_nil]; exact base a ha
  | cons c l ih =>
    intro a ha
    by_cases hc : c = '\n'
    · subst hc; exact step a l ha (ih [] (fun _ h => nomatch h))
    · rw [List.append_cons]
      refine ih (a ++ [c]) fun x hx => ?_
      rcases List.mem_append.mp hx with hx | hx
      · exact ha x hx
      · rw [List.mem_singleton.mp hx]; exact hc

theorem findNl_append (a b : List Char) (ha : ∀ x ∈ a, x ≠ '\n') :
    findNl (a ++ '\n' :: b) = some (byteLen a, b) := by
  induction a with
  | nil => simp [findNl]
  | cons c cs ih =>
    have hc : c ≠ '\n' := ha c (by simp)
    simp [findNl, hc, ih (fun x hx => ha x (by simp [hx]))]

theorem findNl_none {l : List Char} (h : ∀ x ∈ l, x ≠ '\n') : findNl l = none := by
  induction l with
  | nil => rfl
  | cons c cs ih =>
    have hc : c ≠ '\n' := h c (by simp)
    simp [findNl, hc, ih (fun x hx => h x (by simp [hx]))]

theorem skipLines_prefix (pre post : List Char) :
    ∃ k, skipLines (countNl pre) (pre ++ post) = some (k, lastLine pre ++ post) ∧
      k + byteLen (lastLine pre) = byteLen pre := by
  induction pre using nl_induction with
  | base l hl =>
    refine ⟨0, ?_, ?_⟩
    · simp [countNl_eq_zero hl, skipLines, lastLine_of_noNl hl]
    · simp [lastLine_of_noNl hl]
  | step a b ha ih =>
    obtain ⟨k, hk, hlen⟩ := ih
    refine ⟨byteLen a + 1 + k, ?_, ?_⟩
    · have hc : countNl (a ++ '\n' :: b) = countNl b + 1 := by
        simp [countNl_append, countNl_eq_zero ha]; omega
      rw [hc, lastLine_append_nl]
      simp only [skipLines, List.append_assoc, List.cons_append]
      rw [findNl_append a (b ++ post) ha]
      simp only [hk]
    · rw [lastLine_append_nl, byteLen_append]; simp; omega

theorem walkUnits_line (l post : List Char) (hl : ∀ x ∈ l, x ≠ '\n') (u : Nat) :
    walkUnits (u + utf16Count l) (l ++ post) u = byteLen l := by
  induction l generalizing u with
  | nil => cases post <;> simp [walkUnits]
  | cons c cs ih =>
    have hc : c ≠ '\n' := hl c (by simp)
    have hp := utf16Len_pos c
    have hlt : ¬ (u ≥ u + (utf16Len c + utf16Count cs)) := by omega
    simp only [List.cons_append, walkUnits, utf16Count_cons, hlt, hc, or_self, if_false, byteLen_cons]
    have : u + (utf16Len c + utf16Count cs) = (u + utf16Len c) + utf16Count cs := by omega
    rw [this, ih (fun x hx => hl x (by simp [hx]))]

theorem lineCharToOffset_prefix (pre post : List Char) :
    lineCharToOffset (pre ++ post) (countNl pre) (utf16Count (lastLine pre)) = byteLen pre := by
  obtain ⟨k, hk, hlen⟩ := skipLines_prefix pre post
  unfold lineCharToOffset
  rw [hk]
  have := walkUnits_line (lastLine pre) post (lastLine_noNl pre) 0
  simp only [Nat.zero_add] at this
  simp only [this]; omega

theorem lineCharToOffset_zero (src : List Char) : lineCharToOffset src 0 0 = 0 := by
  cases src <;> simp [lineCharToOffset, skipLines, walkUnits]

theorem asU32_of_lt {n : Nat} (h : n < 4294967296) : asU32 n = n := by
  unfold asU32; omega

theorem lastLine_byteLen_le (l : List Char) : byteLen (lastLine l) ≤ byteLen l := by
  obtain ⟨a, ha⟩ := lastLine_suffix l
  have := congrArg byteLen ha
  rw [byteLen_append] at this; omega

theorem asU32_pos_small {l : List Char} (h : byteLen l < 4294967296) :
    asU32 (countNl l) = countNl l ∧ asU32 (utf16Count (lastLine l)) = utf16Count (lastLine l) := by
  have := utf16Count_le_byteLen (lastLine l)
  have := lastLine_byteLen_le l
  have := countNl_le_byteLen l
  exact ⟨asU32_of_lt (by omega), asU32_of_lt (by omega)⟩

theorem offsetToLspPosition_prefix (pre post : List Char) (line : Nat) :
    offsetToLspPosition (pre ++ post) (byteLen pre) line =
      some ⟨asU32 line, asU32 (utf16Count (lastLine pre))⟩ := by
  unfold offsetToLspPosition
  have : min (byteLen pre) (byteLen (pre ++ post)) = byteLen pre := by
    rw [byteLen_append]; omega
  simp only [this, prefixAt_byteLen]

theorem splitInclusive_noNl {l : List Char} (h : ∀ x ∈ l, x ≠ '\n') :
    splitInclusive l = if l = [] then [] else [l] := by
  induction l with
  | nil => rfl
  | cons c cs ih =>
    have hc : c ≠ '\n' := h c (by simp)
    have := ih (fun x hx => h x (by simp [hx]))
    simp only [splitInclusive, hc, if_false, this]
    by_cases hcs : cs = [] <;> simp [hcs]

theorem splitInclusive_append_nl (a b : List Char) (ha : ∀ x ∈ a, x ≠ '\n') :
    splitInclusive (a ++ '\n' :: b) = (a ++ ['\n']) :: splitInclusive b := by
  induction a with
  | nil => simp [splitInclusive]
  | cons c cs ih =>
    have hc : c ≠ '\n' := ha c (by simp)
    simp [splitInclusive, hc, ih (fun x hx => ha x (by simp [hx]))]

theorem splitInclusive_eq_nil_iff (l : List Char) : splitInclusive l = [] ↔ l = [] := by
  cases l with
  | nil => simp [splitInclusive]
  | cons c cs =>
    simp only [splitInclusive]
    split
    · simp
    · split <;> simp

theorem splitInclusive_shape (l : List Char) :
    (splitInclusive l).length = countNl l + (if lastLine l = [] then 0 else 1) ∧
    (lastLine l ≠ [] → (splitInclusive l).getLast? = some (lastLine l)) := by
  induction l using nl_induction with
  | base l hl =>
    rw [splitInclusive_noNl hl, lastLine_of_noNl hl, countNl_eq_zero hl]
    by_cases h : l = [] <;> simp [h]
  | step a b ha ih =>
    rw [splitInclusive_append_nl a b ha, lastLine_append_nl, countNl_append, countNl_eq_zero ha]
    refine ⟨by simp [ih.1]; omega, ?_⟩
    intro hne
    have hb : splitInclusive b ≠ [] := by
      intro h
      rw [splitInclusive_eq_nil_iff] at h
      subst h; simp [lastLine] at hne
    rw [List.getLast?_cons_of_ne_nil hb]
    exact ih.2 hne

theorem stripLineEnd_of_noNl {l : List Char} (h : ∀ x ∈ l, x ≠ '\n') : stripLineEnd l = l := by
  unfold stripLineEnd
  have : l.getLast? ≠ some '\n' := by
    intro hl
    exact h '\n' (List.mem_of_getLast? hl) rfl
  simp [this]

/-- In the implementation's own line model: no hypothesis on `'\r'`. -/
theorem wholeDocumentRange_eq (src : List Char) :
    wholeDocumentRange src =
      ⟨⟨0, 0⟩, ⟨asU32 (countNl src), asU32 (utf16Count (lastLine src))⟩⟩ := by
  unfold wholeDocumentRange
  obtain ⟨hlen, hlast⟩ := splitInclusive_shape src
  by_cases h0 : src = []
  · subst h0; simp [lastLine]
  · have he : src.isEmpty = false := by cases src <;> simp_all
    simp only [he, Bool.false_eq_true, if_false]
    by_cases h1 : src.getLast? = some '\n'
    · have hl : lastLine src = [] := (lastLine_eq_nil_iff src).mpr (Or.inr h1)
      simp only [h1, if_true, rustLines, List.length_map, hlen, hl, utf16Count_nil]
      simp
    · have hl : lastLine src ≠ [] := by
        intro h; rcases (lastLine_eq_nil_iff src).mp h with h | h
        · exact h0 h
        · exact h1 h
      simp only [h1, if_false, rustLines, List.length_map, hlen, hl, List.getLast?_map, hlast hl,
        Option.map_some, stripLineEnd_of_noNl (lastLine_noNl src)]
      simp

theorem noBareCR_cons {c : Char} {cs : List Char} (h : noBareCR (c :: cs) = true) :
    noBareCR cs = true := by
  simp [noBareCR] at h; exact h.2

theorem noBareCR_append_right (a b : List Char) (h : noBareCR (a ++ b) = true) :
    noBareCR b = true := by
  induction a with
  | nil => simpa using h
  | cons c cs ih => exact ih (noBareCR_cons h)

theorem specDropLine_eq_findNl (s : List Char) (h : noBareCR s = true) :
    specDropLine s = (findNl s).map (·.2) := by
  induction s with
  | nil => rfl
  | cons c cs ih =>
    have hcs := noBareCR_cons h
    by_cases hc : c = '\n'
    · simp [specDropLine, findNl, hc]
    · by_cases hr : c = '\r'
      · subst hr
        simp [noBareCR] at h
        cases cs with
        | nil => simp at h
        | cons d ds =>
          have hd : d = '\n' := by simpa using h.1
          subst hd
          simp [specDropLine, findNl]
      · simp only [specDropLine, findNl, hc, hr, if_false, ih hcs]
        cases findNl cs <;> rfl

theorem noBareCR_findNl {s r : List Char} {k : Nat} (h : noBareCR s = true)
    (hf : findNl s = some (k, r)) : noBareCR r = true := by
  induction s generalizing k with
  | nil => simp [findNl] at hf
  | cons c cs ih =>
    have hcs := noBareCR_cons h
    simp only [findNl] at hf
    split at hf
    · injection hf with hf; injection hf with _ hr; subst hr; exact hcs
    · cases hf' : findNl cs with
      | none => simp [hf'] at hf
      | some p =>
        obtain ⟨k', r'⟩ := p
        simp [hf'] at hf
        obtain ⟨_, rfl⟩ := hf
        exact ih hcs hf'

theorem specSkipLines_eq_skipLines (n : Nat) (s : List Char) (h : noBareCR s = true) :
    specSkipLines n s = (skipLines n s).map (·.2) := by
  induction n generalizing s with
  | zero => rfl
  | succ n ih =>
    simp only [specSkipLines, skipLines, specDropLine_eq_findNl s h]
    cases hf : findNl s with
    | none => rfl
    | some p =>
      obtain ⟨i, rest⟩ := p
      simp only [Option.map_some]
      rw [ih rest (noBareCR_findNl h hf)]
      cases skipLines n rest <;> rfl

theorem specWalk_line (l post : List Char) (hl : ∀ x ∈ l, x ≠ '\n' ∧ x ≠ '\r') (u : Nat) :
    specWalk (u + utf16Count l) (l ++ post) u = post := by
  induction l generalizing u with
  | nil => cases post <;> simp [specWalk]
  | cons c cs ih =>
    have hc := hl c (by simp)
    have hp := utf16Len_pos c
    have hlt : ¬ (u ≥ u + (utf16Len c + utf16Count cs)) := by omega
    simp only [List.cons_append, specWalk, utf16Count_cons, hlt, hc.1, hc.2, or_self, if_false]
    have : u + (utf16Len c + utf16Count cs) = (u + utf16Len c) + utf16Count cs := by omega
    rw [this, ih (fun x hx => hl x (by simp [hx]))]

theorem noCR_of_noBareCR (l post : List Char) (h : noBareCR (l ++ post) = true)
    (hnl : ∀ x ∈ l, x ≠ '\n') (hlast : l.getLast? ≠ some '\r') : ∀ x ∈ l, x ≠ '\r' := by
  induction l with
  | nil => simp
  | cons c cs ih =>
    intro x hx
    simp only [List.mem_cons] at hx
    have hcs : noBareCR (cs ++ post) = true := noBareCR_cons h
    have hlast' : cs ≠ [] → cs.getLast? ≠ some '\r' := by
      intro hne; rwa [List.getLast?_cons_of_ne_nil hne] at hlast
    rcases hx with rfl | hx
    · intro hr
      subst hr
      cases cs with
      | nil => simp at hlast
      | cons d ds =>
        simp [noBareCR] at h
        exact hnl d (by simp) h.1
    · cases cs with
      | nil => simp at hx
      | cons d ds =>
        exact ih hcs (fun y hy => hnl y (by simp [hy])) (hlast' (by simp)) x hx

theorem lastLine_getLast? (pre : List Char) (h : lastLine pre ≠ []) :
    (lastLine pre).getLast? = pre.getLast? := by
  obtain ⟨a, ha⟩ := lastLine_suffix pre
  conv => rhs; rw [ha]
  rw [List.getLast?_append]
  cases hl : (lastLine pre).getLast? with
  | none => exact absurd (List.getLast?_eq_none_iff.mp hl) h
  | some x => rfl

/-- `hcr`: the position is not between the `\r` and `\n` of a CRLF. -/
theorem specSeek_prefix (pre post : List Char) (h : noBareCR (pre ++ post) = true)
    (hcr : pre.getLast? ≠ some '\r') :
    specSeek (pre ++ post) (countNl pre) (utf16Count (lastLine pre)) = post := by
  obtain ⟨k, hk, _⟩ := skipLines_prefix pre post
  unfold specSeek
  rw [specSkipLines_eq_skipLines _ _ h, hk]
  simp only [Option.map_some]
  obtain ⟨a, ha⟩ := lastLine_suffix pre
  have hsuf : noBareCR (lastLine pre ++ post) = true := by
    apply noBareCR_append_right a
    rw [← List.append_assoc, ← ha]; exact h
  have hlast : (lastLine pre).getLast? ≠ some '\r' := by
    by_cases hne : lastLine pre = []
    · simp [hne]
    · rw [lastLine_getLast? pre hne]; exact hcr
  have hnocr := noCR_of_noBareCR (lastLine pre) post hsuf (lastLine_noNl pre) hlast
  have := specWalk_line (lastLine pre) post (fun x hx => ⟨lastLine_noNl pre x hx, hnocr x hx⟩) 0
  simpa using this

theorem noBareCR_getLast? (l : List Char) (h : noBareCR l = true) : l.getLast? ≠ some '\r' := by
  induction l with
  | nil => simp
  | cons c cs ih =>
    cases cs with
    | nil => simp [noBareCR] at h; simpa using h
    | cons d ds =>
      rw [List.getLast?_cons_of_ne_nil (by simp)]
      exact ih (noBareCR_cons h)

end LspPos
