import GardenVerif.Model.TypedSem
import GardenVerif.Lemmas.Types
/-! What C16 rests on: the value typing `hasTy`; what an accepted check consists of, arm by arm (`tc_*`); the typing
judgement `Typed` of the fragment — `typed_of_accepted` is the one induction over the depth bound and the only place
where `okE` … `okC` are unfolded, `tc_inv` and `tc_gi` are projections of it and of `Typed.gi`; the outcome relations
`R` / `RI` / `RC` and `sound`, by induction on the fuel. -/

namespace Check

def goodName0 (n : String) : Bool :=
  n == "Int" || n == "String" || n == "Bool" || n == "Unit" || n == "NoValue"

mutual
/-- Types of the fragment; `Any` is allowed (expected types). -/
def good : Ty → Bool
  | .any => true
  | .tuple ts => goodL ts
  | .user _ n [] => goodName0 n
  | .user _ n [a] => (n == "List" || n == "Option") && good a
  | _ => false
def goodL : List Ty → Bool
  | [] => true
  | t :: ts => good t && goodL ts
end

def isNamed (T : Ty) (n : String) : Bool :=
  match T with
  | .any => true
  | .user _ m _ => m == n
  | _ => false

mutual
def hasTy : Val → Ty → Bool
  | .int _, T => isNamed T "Int"
  | .str _, T => isNamed T "String"
  | .bool _, T => isNamed T "Bool"
  | .unit, T => isNamed T "Unit"
  | .none, T => isNamed T "Option"
  | .some p, T =>
    (match T with
     | .any => true
     | .user _ n (a :: _) => n == "Option" && hasTy p a
     | _ => false)
  | .list items, T =>
    (match T with
     | .any => true
     | .user _ n (a :: _) => n == "List" && hasTyAll items a
     | _ => false)
  | .tuple items, T =>
    (match T with
     | .any => true
     | .tuple ts => hasTyZip items ts
     | _ => false)
def hasTyAll : List Val → Ty → Bool
  | [], _ => true
  | v :: vs, a => hasTy v a && hasTyAll vs a
def hasTyZip : List Val → List Ty → Bool
  | [], [] => true
  | v :: vs, t :: ts => hasTy v t && hasTyZip vs ts
  | _, _ => false
end

theorem hasTy_any (v : Val) : hasTy v .any = true := by
  cases v <;> simp [hasTy, isNamed]

theorem good_user_cases (k : Kind) (n : String) (args : List Ty) (h : good (.user k n args) = true) :
    (args = [] ∧ goodName0 n = true) ∨ ∃ a, args = [a] ∧ (n = "List" ∨ n = "Option") ∧ good a = true := by
  cases args with
  | nil => simp [good] at h; exact Or.inl ⟨rfl, h⟩
  | cons a rest =>
    cases rest with
    | nil => simp [good] at h; exact Or.inr ⟨a, rfl, h.1, h.2⟩
    | cons b rest => simp [good] at h

theorem sub_named (k k2 : Kind) (n : String) (args : List Ty) (hn : n ≠ "NoValue") :
    Ty.sub (.user k n []) (.user k2 n args) = true := by
  simp [Ty.sub, hn, Ty.subAll]

theorem sub_any_good (B : Ty) (hs : Ty.sub .any B = true) (hB : good B = true) : B = .any := by
  rcases Ty.sub_any_left B hs with rfl | rfl
  · rfl
  · cases hB

theorem isNamed_sub (A B : Ty) (n : String) (hn : n ≠ "NoValue") (hA : isNamed A n = true)
    (hs : Ty.sub A B = true) (hB : good B = true) : isNamed B n = true := by
  cases A with
  | any => rw [sub_any_good B hs hB]; rfl
  | user k m as =>
    obtain rfl : m = n := by simpa [isNamed] using hA
    rcases Ty.sub_user_left k m as B hn hs with rfl | rfl | ⟨k2, bs, rfl, _⟩
    · rfl
    · cases hB
    · simp [isNamed]
  | _ => simp [isNamed] at hA

theorem sub_unary {k : Kind} {n : String} {a : Ty} {as : List Ty} {B : Ty}
    (hn : n = "List" ∨ n = "Option") (hs : Ty.sub (.user k n (a :: as)) B = true)
    (hB : good B = true) :
    B = .any ∨ ∃ k2 b, B = .user k2 n [b] ∧ Ty.sub a b = true ∧ good b = true := by
  have hnv : n ≠ "NoValue" := by rcases hn with rfl | rfl <;> decide
  rcases Ty.sub_user_left k n _ B hnv hs with rfl | rfl | ⟨k2, bs, rfl, hsub⟩
  · exact Or.inl rfl
  · cases hB
  · rcases good_user_cases k2 n bs hB with ⟨_, hn0⟩ | ⟨b, rfl, _, gb⟩
    · rcases hn with rfl | rfl <;> simp [goodName0] at hn0
    · rw [Ty.subAll_cons, Ty.subAll_nil_right, Bool.and_true] at hsub
      exact Or.inr ⟨k2, b, rfl, hsub, gb⟩

mutual
theorem hasTy_sub : ∀ (v : Val) (A B : Ty), hasTy v A = true → Ty.sub A B = true → good B = true →
    hasTy v B = true
  | .int _, A, B, hv, hs, hB => isNamed_sub A B "Int" (by decide) hv hs hB
  | .str _, A, B, hv, hs, hB => isNamed_sub A B "String" (by decide) hv hs hB
  | .bool _, A, B, hv, hs, hB => isNamed_sub A B "Bool" (by decide) hv hs hB
  | .unit, A, B, hv, hs, hB => isNamed_sub A B "Unit" (by decide) hv hs hB
  | .none, A, B, hv, hs, hB => isNamed_sub A B "Option" (by decide) hv hs hB
  | .some p, A, B, hv, hs, hB => by
    cases A <;> simp [hasTy] at hv
    case any => rw [sub_any_good B hs hB]; rfl
    case user k n as =>
      cases as with
      | nil => simp at hv
      | cons a as =>
        simp at hv
        obtain ⟨rfl, hp⟩ := hv
        rcases sub_unary (Or.inr rfl) hs hB with rfl | ⟨k2, b, rfl, hab, gb⟩
        · rfl
        · simpa [hasTy] using hasTy_sub p a b hp hab gb
  | .list items, A, B, hv, hs, hB => by
    cases A <;> simp [hasTy] at hv
    case any => rw [sub_any_good B hs hB]; rfl
    case user k n as =>
      cases as with
      | nil => simp at hv
      | cons a as =>
        simp at hv
        obtain ⟨rfl, hp⟩ := hv
        rcases sub_unary (Or.inl rfl) hs hB with rfl | ⟨k2, b, rfl, hab, gb⟩
        · rfl
        · simpa [hasTy] using hasTyAll_sub items a b hp hab gb
  | .tuple items, A, B, hv, hs, hB => by
    cases A <;> simp [hasTy] at hv
    case any => rw [sub_any_good B hs hB]; rfl
    case tuple as =>
      rcases Ty.sub_tuple_left as B hs with rfl | rfl | ⟨bs, rfl, hl, hsub⟩
      · rfl
      · cases hB
      · simp only [good] at hB
        simpa [hasTy] using hasTyZip_sub items as bs hv hl hsub hB
theorem hasTyAll_sub : ∀ (vs : List Val) (a b : Ty), hasTyAll vs a = true → Ty.sub a b = true → good b = true →
    hasTyAll vs b = true
  | [], a, b, hv, hs, hB => rfl
  | v :: vs, a, b, hv, hs, hB => by
    simp only [hasTyAll, Bool.and_eq_true] at hv ⊢
    exact ⟨hasTy_sub v a b hv.1 hs hB, hasTyAll_sub vs a b hv.2 hs hB⟩
theorem hasTyZip_sub : ∀ (vs : List Val) (as bs : List Ty), hasTyZip vs as = true → as.length = bs.length →
    Ty.subAll as bs = true → goodL bs = true → hasTyZip vs bs = true
  | [], [], [], _, _, _, _ => rfl
  | v :: vs, a :: as, b :: bs, hv, hl, hs, hB => by
    simp only [hasTyZip, Ty.subAll_cons, goodL, Bool.and_eq_true, List.length_cons,
      Nat.add_right_cancel_iff] at hv hl hs hB ⊢
    exact ⟨hasTy_sub v a b hv.1 hs.1 hB.1, hasTyZip_sub vs as bs hv.2 hl hs.2 hB.2⟩
  | [], _ :: _, _, hv, _, _, _ => by simp [hasTyZip] at hv
  | _ :: _, [], _, hv, _, _, _ => by simp [hasTyZip] at hv
  | [], [], _ :: _, _, hl, _, _ => by simp at hl
  | _ :: _, _ :: _, [], _, hl, _, _ => by simp at hl
end

theorem sub_noValue (T : Ty) : Ty.sub Ty.noValue T = true :=
  Ty.sub_of_isNoValue _ T rfl

theorem sub_of_isNamed (k : Kind) (n : String) (T : Ty) (hn : n ≠ "NoValue")
    (h : isNamed T n = true) : Ty.sub (.user k n []) T = true := by
  cases T with
  | any => exact Ty.sub_any _
  | user k2 m args =>
    obtain rfl : m = n := by simpa [isNamed] using h
    exact sub_named k k2 m args hn
  | _ => simp [isNamed] at h

mutual
theorem hasTy_sub_typeOf : ∀ (v : Val) (T : Ty), hasTy v T = true → Ty.sub (typeOf v) T = true
  | .int _, T, h => sub_of_isNamed _ "Int" T (by decide) h
  | .str _, T, h => sub_of_isNamed _ "String" T (by decide) h
  | .bool _, T, h => sub_of_isNamed _ "Bool" T (by decide) h
  | .unit, T, h => sub_of_isNamed _ "Unit" T (by decide) h
  | .none, T, h => by
    cases T <;> simp [hasTy, isNamed] at h
    · exact Ty.sub_any _
    · subst h
      rename_i k args
      cases args <;>
        simp [typeOf, tOption, Ty.sub_user_user, Ty.subAll_cons, Ty.subAll_nil_left, Ty.subAll_nil_right, sub_noValue]
  | .some p, T, h => by
    cases T <;> simp [hasTy] at h
    · exact Ty.sub_any _
    · rename_i k n args
      cases args with
      | nil => simp at h
      | cons a rest =>
        simp at h
        obtain ⟨rfl, hp⟩ := h
        simp [typeOf, tOption, Ty.sub_user_user, Ty.subAll_cons, Ty.subAll_nil_left, hasTy_sub_typeOf p a hp]
  | .list items, T, h => by
    cases T <;> simp [hasTy] at h
    · exact Ty.sub_any _
    · rename_i k n args
      cases args with
      | nil => simp at h
      | cons a rest =>
        simp at h
        obtain ⟨rfl, hp⟩ := h
        simp [typeOf, tList, Ty.sub_user_user, Ty.subAll_cons, Ty.subAll_nil_left,
          hasTyAll_sub_typeOfLast items a hp]
  | .tuple items, T, h => by
    cases T <;> simp [hasTy] at h
    · exact Ty.sub_any _
    · rename_i ts
      have := hasTyZip_sub_typeOfs items ts h
      simp [typeOf, Ty.sub_tuple_tuple, this.1, this.2]
theorem hasTyAll_sub_typeOfLast : ∀ (vs : List Val) (a : Ty), hasTyAll vs a = true →
    Ty.sub (typeOfLast vs) a = true
  | [], a, h => by simp [typeOfLast, sub_noValue]
  | [v], a, h => by
    simp [hasTyAll] at h
    simp [typeOfLast, hasTy_sub_typeOf v a h]
  | v :: w :: rest, a, h => by
    simp [hasTyAll] at h
    simp [typeOfLast]
    exact hasTyAll_sub_typeOfLast (w :: rest) a (by simp [hasTyAll, h.2.1, h.2.2])
theorem hasTyZip_sub_typeOfs : ∀ (vs : List Val) (ts : List Ty), hasTyZip vs ts = true →
    (typeOfs vs).length = ts.length ∧ Ty.subAll (typeOfs vs) ts = true
  | [], ts, h => by
    cases ts <;> simp [hasTyZip] at h
    simp [typeOfs, Ty.subAll]
  | v :: vs, ts, h => by
    cases ts with
    | nil => simp [hasTyZip] at h
    | cons t ts =>
      simp [hasTyZip] at h
      have ih := hasTyZip_sub_typeOfs vs ts h.2
      simp [typeOfs, Ty.subAll, hasTy_sub_typeOf v t h.1, ih.1, ih.2]
end

theorem canon_int (v : Val) (h : hasTy v tInt = true) : ∃ i, v = .int i := by
  cases v <;> simp [hasTy, isNamed, tInt] at h ⊢
theorem canon_str (v : Val) (h : hasTy v tStr = true) : ∃ s, v = .str s := by
  cases v <;> simp [hasTy, isNamed, tStr] at h ⊢
theorem canon_bool (v : Val) (h : hasTy v tBool = true) : ∃ b, v = .bool b := by
  cases v <;> simp [hasTy, isNamed, tBool] at h ⊢
theorem hasTy_noValue (v : Val) (T : Ty) (hT : T.isNoValue = true) : hasTy v T = false := by
  cases T <;> simp [Ty.isNoValue] at hT
  subst hT
  rename_i k args
  cases v <;> simp [hasTy, isNamed]
  all_goals (cases args <;> simp)
theorem hasTy_unit : hasTy .unit tUnit = true := by simp [hasTy, isNamed, tUnit]
theorem hasTy_err (v : Val) : hasTy v .err = false := by
  cases v <;> simp [hasTy, isNamed]
theorem hasTy_fn (v : Val) (a : Option String) (b : List String) (c : List Ty) (d : Ty) :
    hasTy v (.fn a b c d) = false := by
  cases v <;> simp [hasTy, isNamed]

def blockOK : List (String × Ty) → List (String × Val) → Prop
  | [], [] => True
  | (k, T) :: g, (k', v) :: r => k = k' ∧ hasTy v T = true ∧ blockOK g r
  | _, _ => False

def envOK : Blocks Ty → Blocks Val → Prop
  | [], [] => True
  | g :: G, r :: R => blockOK g r ∧ envOK G R
  | _, _ => False

/-- Lookup, insertion and overwriting in one induction over a typed block. -/
theorem blockOK_ops : ∀ (g : List (String × Ty)) (r : List (String × Val)) (x : String), blockOK g r →
    (∀ T, lookupBlock g x = some T → ∃ v, lookupBlock r x = some v ∧ hasTy v T = true) ∧
    (lookupBlock g x = none → lookupBlock r x = none) ∧
    (∀ T v, hasTy v T = true → blockOK (setBlock g x T) (setBlock r x v)) ∧
    (∀ T v, lookupBlock g x = some T → hasTy v T = true → blockOK g (setBlock r x v))
  | [], [], x, _ => ⟨nofun, fun _ => rfl, fun T v hv => ⟨rfl, hv, trivial⟩, nofun⟩
  | (k, T0) :: g, (k', v0) :: r, x, h => by
    obtain ⟨rfl, hv0, hr⟩ := h
    obtain ⟨ih1, ih2, ih3, ih4⟩ := blockOK_ops g r x hr
    simp only [lookupBlock, setBlock]
    by_cases hx : (k == x) = true
    · simp only [hx, if_true]
      exact ⟨fun T h => ⟨v0, rfl, by cases h; exact hv0⟩, nofun, fun T v hv => ⟨rfl, hv, hr⟩,
        fun T v h hv => ⟨rfl, by cases h; exact hv, hr⟩⟩
    · simp only [hx]
      exact ⟨ih1, ih2, fun T v hv => ⟨rfl, hv0, ih3 T v hv⟩, fun T v h hv => ⟨rfl, hv0, ih4 T v h hv⟩⟩
  | [], _ :: _, _, h => h.elim
  | _ :: _, [], _, h => h.elim

theorem setBlock_ok (g : List (String × Ty)) (r : List (String × Val)) (x : String) (T : Ty) (v : Val)
    (h : blockOK g r) (hv : hasTy v T = true) : blockOK (setBlock g x T) (setBlock r x v) :=
  (blockOK_ops g r x h).2.2.1 T v hv

theorem envOK_ops : ∀ (G : Blocks Ty) (R : Blocks Val) (x : String), envOK G R →
    (∀ T, lookupB G x = some T → ∃ v, lookupB R x = some v ∧ hasTy v T = true) ∧
    (lookupB G x = none → lookupB R x = none) ∧
    (∀ T v, lookupB G x = some T → hasTy v T = true → envOK G (assignB R x v))
  | [], [], x, _ => ⟨nofun, fun _ => rfl, nofun⟩
  | g :: G, r :: R, x, h => by
    obtain ⟨hb1, hb2, _, hb4⟩ := blockOK_ops g r x h.1
    obtain ⟨ih1, ih2, ih3⟩ := envOK_ops G R x h.2
    simp only [lookupB, assignB]
    cases hg : lookupBlock g x with
    | some T0 =>
      obtain ⟨w, hw, hwt⟩ := hb1 T0 hg
      simp only [hw]
      exact ⟨fun T hT => ⟨w, rfl, by cases hT; exact hwt⟩, nofun,
        fun T v hT hv => ⟨hb4 T v (by cases hT; exact hg) hv, h.2⟩⟩
    | none =>
      simp only [hb2 hg]
      exact ⟨ih1, ih2, fun T v hT hv => ⟨h.1, ih3 T v hT hv⟩⟩
  | [], _ :: _, _, h => h.elim
  | _ :: _, [], _, h => h.elim

theorem lookupB_ok (G : Blocks Ty) (R : Blocks Val) (x : String) (h : envOK G R) :
    (∀ T, lookupB G x = some T → ∃ v, lookupB R x = some v ∧ hasTy v T = true) ∧
    (lookupB G x = none → lookupB R x = none) :=
  ⟨(envOK_ops G R x h).1, (envOK_ops G R x h).2.1⟩

theorem assignB_ok (G : Blocks Ty) (R : Blocks Val) (x : String) (T : Ty) (v : Val)
    (h : envOK G R) (hl : lookupB G x = some T) (hv : hasTy v T = true) : envOK G (assignB R x v) :=
  (envOK_ops G R x h).2.2 T v hl hv

theorem setB_ok (G : Blocks Ty) (R : Blocks Val) (x : String) (T : Ty) (v : Val)
    (h : envOK G R) (hv : hasTy v T = true) : envOK (setB G x T) (setB R x v) := by
  cases G <;> cases R <;> simp [envOK, setB] at h ⊢
  exact ⟨setBlock_ok _ _ x T v h.1 hv, h.2⟩

theorem envOK_push (G : Blocks Ty) (R : Blocks Val) (h : envOK G R) : envOK ([] :: G) ([] :: R) := by
  simp [envOK, blockOK, h]

theorem envOK_tail (G : Blocks Ty) (R : Blocks Val) (h : envOK G R) : envOK G.tail R.tail := by
  cases G <;> cases R <;> simp [envOK] at h ⊢
  exact h.2

theorem intBinop_ok (op : BinOp) (hop : isIntArith op = true ∨ op = .lt ∨ op = .le ∨ op = .gt ∨ op = .ge)
    (a b : Int64) :
    (∀ v, intBinop op a b = .ok v → hasTy v (if isIntArith op then tInt else tBool) = true) ∧
    (∀ e, intBinop op a b = .error e → e.isTypeError = false) := by
  constructor
  all_goals
    intro x h
    cases op <;> simp [isIntArith] at hop <;> simp only [intBinop] at h
    all_goals (repeat' split at h)
    all_goals (first | cases h | skip)
    all_goals simp [hasTy, isNamed, tInt, tBool, isIntArith, RErr.isTypeError]

theorem hop_int (op : BinOp) (h : isIntArith op = true ∨ op = .lt ∨ op = .le ∨ op = .gt ∨ op = .ge)
    (lv rv : Val) (h1 : hasTy lv tInt = true) (h2 : hasTy rv tInt = true) :
    (∀ v, binopVal op lv rv = .ok v → hasTy v (if isIntArith op then tInt else tBool) = true) ∧
    (∀ e, binopVal op lv rv = .error e → e.isTypeError = false) := by
  obtain ⟨a, rfl⟩ := canon_int lv h1
  obtain ⟨b, rfl⟩ := canon_int rv h2
  have hbv : binopVal op (.int a) (.int b) = intBinop op a b := by
    cases op <;> simp [isIntArith] at h <;> simp [binopVal]
  rw [hbv]
  exact intBinop_ok op h a b

/-- The pair `tcExpr` computes inline (`let (opnd, res) := …`) for the comparison, logical and `^` operators. -/
def opTys (op : BinOp) : Ty × Ty :=
  if op == .and || op == .or then (tBool, tBool)
  else if op == .concat then (tStr, tStr)
  else (tInt, tBool)

/-- `Any` for `==` / `!=`: no constraint on the operands. -/
def opOpnd (op : BinOp) : Ty :=
  if isIntArith op then tInt else if op == .eq || op == .ne then .any else (opTys op).1

def opRes (op : BinOp) : Ty :=
  if isIntArith op then tInt else if op == .eq || op == .ne then tBool else (opTys op).2

theorem opOpnd_good (op : BinOp) : good (opOpnd op) = true := by
  cases op <;> decide

theorem hop_all (op : BinOp) (lv rv : Val) (h1 : hasTy lv (opOpnd op) = true)
    (h2 : hasTy rv (opOpnd op) = true) :
    (∀ v, binopVal op lv rv = .ok v → hasTy v (opRes op) = true) ∧
    (∀ e, binopVal op lv rv = .error e → e.isTypeError = false) := by
  cases op
  case eq | ne => simp [binopVal, hasTy, isNamed, opRes, isIntArith, tBool]
  case and | or =>
    obtain ⟨a, rfl⟩ := canon_bool lv h1
    obtain ⟨b, rfl⟩ := canon_bool rv h2
    simp [binopVal, hasTy, isNamed, opRes, isIntArith, opTys, tBool]
  case concat =>
    obtain ⟨a, rfl⟩ := canon_str lv h1
    obtain ⟨b, rfl⟩ := canon_str rv h2
    simp [binopVal, hasTy, isNamed, opRes, isIntArith, opTys, tStr]
  all_goals exact hop_int _ (by simp [isIntArith]) lv rv h1 h2

mutual
/-- Types the checker INFERS on the fragment: like `good`, but without `Any`. -/
def gi : Ty → Bool
  | .tuple ts => giL ts
  | .user _ n [] => goodName0 n
  | .user _ n [a] => (n == "List" || n == "Option") && gi a
  | _ => false
def giL : List Ty → Bool
  | [] => true
  | t :: ts => gi t && giL ts
end

mutual
theorem gi_good : ∀ T : Ty, gi T = true → good T = true
  | .any, h => by simp [gi] at h
  | .err, h => by simp [gi] at h
  | .param _, h => by simp [gi] at h
  | .fn _ _ _ _, h => by simp [gi] at h
  | .tuple ts, h => by simp [gi] at h; simp [good, giL_good ts h]
  | .user _ n [], h => by simp [gi] at h; simp [good, h]
  | .user _ n [a], h => by simp [gi] at h; simp [good, h.1, gi_good a h.2]
  | .user _ n (_ :: _ :: _), h => by simp [gi] at h
theorem giL_good : ∀ ts : List Ty, giL ts = true → goodL ts = true
  | [], h => by simp [goodL]
  | t :: ts, h => by simp [giL] at h; simp [goodL, gi_good t h.1, giL_good ts h.2]
end

mutual
theorem Hint.toTy_gi : ∀ h : Hint, gi h.toTy = true
  | .int => by simp [Hint.toTy, tInt, gi, goodName0]
  | .bool => by simp [Hint.toTy, tBool, gi, goodName0]
  | .str => by simp [Hint.toTy, tStr, gi, goodName0]
  | .unit => by simp [Hint.toTy, tUnit, gi, goodName0]
  | .list h => by simp [Hint.toTy, tList, gi, Hint.toTy_gi h]
  | .option h => by simp [Hint.toTy, tOption, gi, Hint.toTy_gi h]
  | .tuple hs => by simp [Hint.toTy, gi, Hint.toTys_gi hs]
theorem Hint.toTys_gi : ∀ hs : List Hint, giL (Hint.toTys hs) = true
  | [] => by simp [Hint.toTys, giL]
  | h :: hs => by simp [Hint.toTys, giL, Hint.toTy_gi h, Hint.toTys_gi hs]
end

theorem Hint.toTy_good (h : Hint) : good h.toTy = true := gi_good _ (Hint.toTy_gi h)

theorem Hint.toTys_good : ∀ hs : List Hint, goodL (Hint.toTys hs) = true :=
  fun hs => giL_good _ (Hint.toTys_gi hs)

theorem gi_not_any (T : Ty) (h : gi T = true) : T.isAny = false := by
  cases T <;> simp [gi, Ty.isAny] at h ⊢

theorem gi_user_cases (k : Kind) (n : String) (args : List Ty) (h : gi (.user k n args) = true) :
    (args = [] ∧ goodName0 n = true) ∨ ∃ a, args = [a] ∧ (n = "List" ∨ n = "Option") ∧ gi a = true := by
  match args, h with
  | [], h => exact Or.inl ⟨rfl, h⟩
  | [a], h => simp [gi] at h; exact Or.inr ⟨a, rfl, h.1, h.2⟩
  | _ :: _ :: _, h => simp [gi] at h

theorem unify_gi_both :
    (∀ a b c, Ty.unify a b = some c → gi a = true → gi b = true → gi c = true) ∧
    (∀ as bs cs, as.length = bs.length → Ty.unifyArgs as bs = some cs →
      giL as = true → giL bs = true → giL cs = true) := by
  apply Ty.unify_ind
  · intro a b h ga gb
    simp [gi_not_any a ga, gi_not_any b gb] at h
  · intro a b _ _ gb; exact gb
  · intro a b _ ga _; exact ga
  · intro a ga _; exact ga
  · intro k n as bs cs hl hargs ih ga gb
    have hlen := Ty.unifyArgs_length as bs cs hl hargs
    rcases gi_user_cases k n as ga with ⟨rfl, hn⟩ | ⟨a, rfl, hn, g1⟩
    · match cs, hlen with
      | [], _ => exact ga
    · match bs, hl, gb, ih with
      | [b], _, gb, ih =>
        simp only [gi, Bool.and_eq_true] at gb
        match cs, hlen, ih (by simp [giL, g1]) (by simp [giL, gb.2]) with
        | [c], _, h => simp only [giL, Bool.and_true] at h; simp [gi, hn, h]
  · intro _ _; rfl
  · intro a b c as bs cs h1 h2 ga gb
    simp only [giL, Bool.and_eq_true] at ga gb ⊢
    exact ⟨h1 ga.1 gb.1, h2 ga.2 gb.2⟩

theorem unify_gi : ∀ (a b c : Ty), Ty.unify a b = some c → gi a = true → gi b = true → gi c = true :=
  unify_gi_both.1

theorem gi_noValue : gi Ty.noValue = true := by simp [Ty.noValue, gi, goodName0]

theorem unifyAllFrom_gi : ∀ (ts : List Ty) (acc c : Ty) (idx : Nat),
    Ty.unifyAllFrom acc idx ts = .ok c → gi acc = true → (∀ t ∈ ts, gi t = true) → gi c = true
  | [], acc, c, idx, h, ga, hts => by simp [Ty.unifyAllFrom] at h; subst h; exact ga
  | t :: ts, acc, c, idx, h, ga, hts => by
    simp [Ty.unifyAllFrom] at h
    split at h
    · cases h
    · rename_i u hu
      exact unifyAllFrom_gi ts u c (idx + 1) h (unify_gi acc t u hu ga (hts t (by simp)))
        (fun t' ht' => hts t' (by simp [ht']))

theorem hasTy_unify (v : Val) (a b c : Ty) (h : Ty.unify a b = some c) (ga : gi a = true) (gb : gi b = true) :
    (hasTy v a = true → hasTy v c = true) ∧ (hasTy v b = true → hasTy v c = true) := by
  have up := Ty.unify_upper a b c h
  have gc := gi_good c (unify_gi a b c h ga gb)
  exact ⟨fun hv => hasTy_sub v a c hv up.1 gc, fun hv => hasTy_sub v b c hv up.2 gc⟩

theorem hasTy_unifyAllFrom (v : Val) : ∀ (ts : List Ty) (acc c : Ty) (idx : Nat),
    Ty.unifyAllFrom acc idx ts = .ok c → gi acc = true → (∀ t ∈ ts, gi t = true) →
    (hasTy v acc = true → hasTy v c = true) ∧ (∀ t ∈ ts, hasTy v t = true → hasTy v c = true)
  | [], acc, c, idx, h, ga, hts => by simp [Ty.unifyAllFrom] at h; subst h; simp
  | t :: ts, acc, c, idx, h, ga, hts => by
    simp [Ty.unifyAllFrom] at h
    split at h
    · cases h
    · rename_i u hu
      have gt := hts t (by simp)
      have gu := unify_gi acc t u hu ga gt
      have st := hasTy_unify v acc t u hu ga gt
      have ih := hasTy_unifyAllFrom v ts u c (idx + 1) h gu (fun t' ht' => hts t' (by simp [ht']))
      refine ⟨fun hv => ih.1 (st.1 hv), ?_⟩
      intro t' ht' hv
      simp at ht'
      rcases ht' with rfl | ht'
      · exact ih.1 (st.2 hv)
      · exact ih.2 t' ht' hv

def GoodEnv (Γ : Blocks Ty) : Prop := ∀ b ∈ Γ, ∀ p ∈ b, gi p.2 = true

theorem lookupBlock_gi : ∀ (b : List (String × Ty)) (x : String) (T : Ty),
    (∀ p ∈ b, gi p.2 = true) → lookupBlock b x = some T → gi T = true
  | [], x, T, h, hl => by simp [lookupBlock] at hl
  | (k, T0) :: rest, x, T, h, hl => by
    simp only [lookupBlock] at hl
    split at hl
    · simp at hl; subst hl; exact h (k, T0) (by simp)
    · exact lookupBlock_gi rest x T (fun p hp => h p (by simp [hp])) hl

theorem lookupB_gi : ∀ (Γ : Blocks Ty) (x : String) (T : Ty), GoodEnv Γ → lookupB Γ x = some T → gi T = true
  | [], x, T, h, hl => by simp [lookupB] at hl
  | b :: rest, x, T, h, hl => by
    simp only [lookupB] at hl
    split at hl
    · rename_i v hv
      cases hl
      exact lookupBlock_gi b x T (h b (by simp)) hv
    · exact lookupB_gi rest x T (fun b' hb' => h b' (by simp [hb'])) hl

theorem setBlock_gi : ∀ (b : List (String × Ty)) (x : String) (T : Ty),
    (∀ p ∈ b, gi p.2 = true) → gi T = true → ∀ p ∈ setBlock b x T, gi p.2 = true
  | [], x, T, h, hT => by simp [setBlock, hT]
  | (k, T0) :: rest, x, T, h, hT => by
    simp only [setBlock]
    split
    · intro p hp
      simp at hp
      rcases hp with rfl | hp
      · exact hT
      · exact h p (by simp [hp])
    · intro p hp
      simp at hp
      rcases hp with rfl | hp
      · exact h (k, T0) (by simp)
      · exact setBlock_gi rest x T (fun p hp => h p (by simp [hp])) hT p hp

theorem GoodEnv_setB (Γ : Blocks Ty) (x : String) (T : Ty) (h : GoodEnv Γ) (hT : gi T = true) :
    GoodEnv (setB Γ x T) := by
  cases Γ with
  | nil => simp [setB]; exact h
  | cons b rest =>
    simp only [setB]
    intro b' hb'
    simp at hb'
    rcases hb' with rfl | hb'
    · exact setBlock_gi b x T (h b (by simp)) hT
    · exact h b' (by simp [hb'])

theorem GoodEnv_cons {g : List (String × Ty)} {Γ : Blocks Ty} (hg : ∀ p ∈ g, gi p.2 = true)
    (h : GoodEnv Γ) : GoodEnv (g :: Γ) := by
  intro b hb
  rcases List.mem_cons.mp hb with rfl | hb
  · exact hg
  · exact h b hb

theorem GoodEnv_push (Γ : Blocks Ty) (h : GoodEnv Γ) : GoodEnv ([] :: Γ) :=
  GoodEnv_cons (by simp) h

theorem GoodEnv_tail (Γ : Blocks Ty) (h : GoodEnv Γ) : GoodEnv Γ.tail := by
  intro b hb
  exact h b (List.mem_of_mem_tail hb)

/-- `globalOf` on a name that is not a function of the program, as a table. -/
def builtins : List (String × Global) :=
  [("Some", .someC), ("None", .val (tOption Ty.noValue)), ("True", .val tBool), ("False", .val tBool),
   ("Unit", .val tUnit), ("println", .printLike), ("print", .printLike), ("string_repr", .stringRepr)]

theorem globalOf_cases (P : Program) (x : String) (g : Global) (h : globalOf P x = some g) :
    (∃ d, findFun P x = some d ∧ g = .fn (paramTys d) d.ret.toTy) ∨
    (findFun P x = none ∧ (x, g) ∈ builtins) := by
  unfold globalOf at h
  cases hf : findFun P x with
  | some d => rw [hf] at h; exact Or.inl ⟨d, rfl, by simpa using h.symm⟩
  | none =>
    rw [hf] at h
    refine Or.inr ⟨rfl, ?_⟩
    simp only [beq_iff_eq, Bool.or_eq_true] at h
    by_cases h1 : x = "Some"
    · rw [if_pos h1] at h; cases h; subst h1; simp [builtins]
    rw [if_neg h1] at h
    by_cases h2 : x = "None"
    · rw [if_pos h2] at h; cases h; subst h2; simp [builtins]
    rw [if_neg h2] at h
    by_cases h3 : x = "True" ∨ x = "False"
    · rw [if_pos h3] at h; cases h; rcases h3 with rfl | rfl <;> simp [builtins]
    rw [if_neg h3] at h
    by_cases h4 : x = "Unit"
    · rw [if_pos h4] at h; cases h; subst h4; simp [builtins]
    rw [if_neg h4] at h
    by_cases h5 : x = "println" ∨ x = "print"
    · rw [if_pos h5] at h; cases h; rcases h5 with rfl | rfl <;> simp [builtins]
    rw [if_neg h5] at h
    by_cases h6 : x = "string_repr"
    · rw [if_pos h6] at h; cases h; subst h6; simp [builtins]
    rw [if_neg h6] at h
    cases h

theorem globalOf_none (P : Program) (x : String) (h : isGlobalName P x = false) : globalOf P x = none := by
  simp [isGlobalName, reservedNames] at h
  simp [globalOf, h]

theorem globalOf_fn (P : Program) (f : String) (ps : List Ty) (r : Ty) (h : globalOf P f = some (.fn ps r)) :
    ∃ d, findFun P f = some d ∧ ps = paramTys d ∧ r = d.ret.toTy := by
  rcases globalOf_cases P f _ h with ⟨d, hd, hg⟩ | ⟨_, hm⟩
  · cases hg; exact ⟨d, hd, rfl, rfl⟩
  · simp [builtins] at hm

theorem globalOf_val (P : Program) (x : String) (T : Ty) (h : globalOf P x = some (.val T)) :
    T.isNoValue = false := by
  rcases globalOf_cases P x _ h with ⟨d, hd, hg⟩ | ⟨_, hm⟩
  · cases hg
  · simp [builtins] at hm
    rcases hm with ⟨_, rfl⟩ | ⟨_, rfl⟩ | ⟨_, rfl⟩ | ⟨_, rfl⟩ <;> rfl

/-- `variantOf` on a name that is not a function of the program, as a table (`none`: not a variant). -/
def variants : List (String × Option (String × Bool)) :=
  [("Some", some ("Option", true)), ("None", some ("Option", false)), ("True", some ("Bool", false)),
   ("False", some ("Bool", false)), ("Unit", some ("Unit", false)), ("Ok", some ("Result", true)),
   ("Err", some ("Result", true)), ("println", none), ("print", none), ("string_repr", none)]

theorem variantOf_cases (P : Program) (v : String) (r : Option (String × Bool))
    (h : variantOf P v = some r) :
    ((findFun P v).isSome = true ∧ r = none) ∨ (findFun P v = none ∧ (v, r) ∈ variants) := by
  unfold variantOf at h
  cases hf : findFun P v with
  | some d => rw [hf] at h; cases h; exact Or.inl ⟨rfl, rfl⟩
  | none =>
    rw [hf] at h
    refine Or.inr ⟨rfl, ?_⟩
    simp only [beq_iff_eq, Bool.or_eq_true] at h
    by_cases h1 : v = "Some"
    · rw [if_pos h1] at h; cases h; subst h1; simp [variants]
    rw [if_neg h1] at h
    by_cases h2 : v = "None"
    · rw [if_pos h2] at h; cases h; subst h2; simp [variants]
    rw [if_neg h2] at h
    by_cases h3 : v = "True" ∨ v = "False"
    · rw [if_pos h3] at h; cases h; rcases h3 with rfl | rfl <;> simp [variants]
    rw [if_neg h3] at h
    by_cases h4 : v = "Unit"
    · rw [if_pos h4] at h; cases h; subst h4; simp [variants]
    rw [if_neg h4] at h
    by_cases h5 : v = "Ok" ∨ v = "Err"
    · rw [if_pos h5] at h; cases h; rcases h5 with rfl | rfl <;> simp [variants]
    rw [if_neg h5] at h
    by_cases h6 : (v = "println" ∨ v = "print") ∨ v = "string_repr"
    · rw [if_pos h6] at h; cases h; rcases h6 with (rfl | rfl) | rfl <;> simp [variants]
    rw [if_neg h6] at h
    cases h

theorem patternDiags_nil (P : Program) (sn : Option String) (v : String) (hp : Bool) (hv : v ≠ "_")
    (h : patternDiags P sn v hp = []) :
    ∃ en, (v, some (en, hp)) ∈ variants ∧ ∀ n, sn = some n → n = "NoValue" ∨ en = n := by
  unfold patternDiags at h
  rw [if_neg (by simpa using hv)] at h
  cases hvo : variantOf P v with
  | none => rw [hvo] at h; cases h
  | some r =>
    rw [hvo] at h
    match r, hvo, h with
    | none, _, h => cases h
    | some (en, ctor), hvo, h =>
      obtain ⟨h1, h2⟩ := List.append_eq_nil_iff.mp h
      have hc : hp = ctor := by
        cases hp <;> cases ctor <;> first | rfl | cases h1
      subst hc
      refine ⟨en, ?_, ?_⟩
      · rcases variantOf_cases P v _ hvo with ⟨_, hr⟩ | ⟨_, hm⟩
        · cases hr
        · exact hm
      · intro n hn
        subst hn
        by_cases hnv : n = "NoValue"
        · exact Or.inl hnv
        · simp only [beq_iff_eq, hnv, if_false] at h2
          by_cases hen : en = n
          · exact Or.inr hen
          · simp [hen] at h2

theorem triple_exists {α β γ : Type} (X : α × β × γ) : ∃ a b c, X = (a, b, c) := ⟨_, _, _, rfl⟩

theorem inferVar_env (P : Program) (Γ Γ' : Blocks Ty) (x : String) (T : Ty)
    (h : inferVar P Γ x = (T, Γ', [])) : Γ' = Γ := by
  unfold inferVar at h
  split at h
  · simp at h; exact h.2.symm
  · split at h
    · simp at h; exact h.2.symm
    · simp at h

theorem varForAssign_env (P : Program) (Γ Γ' : Blocks Ty) (x : String) (T : Ty)
    (h : varForAssign P Γ x = (T, Γ', [])) : Γ' = Γ ∧ lookupB Γ x = some T := by
  unfold varForAssign at h
  split at h
  · rename_i T0 hl; simp at h; exact ⟨h.2.symm, by rw [hl, h.1]⟩
  · split at h <;> simp at h

/-- The first disjunct (the callee is a local whose recorded type no value has) is refuted at run time by `envOK`. -/
theorem callTy_inv {P : Program} {Γ Γ' : Blocks Ty} {f : String} {tys : List Ty} {T : Ty}
    (h : callTy P Γ f tys = (T, Γ', [])) :
    Γ' = Γ ∧
    ((∃ T0, lookupB Γ f = some T0 ∧ (∀ w, hasTy w T0 = false) ∧ (gi T0 = true → T = Ty.noValue)) ∨
     (lookupB Γ f = none ∧
      ((∃ d, findFun P f = some d ∧ globalOf P f = some (.fn (paramTys d) d.ret.toTy) ∧
          (paramTys d).length = tys.length ∧
          (List.zip (paramTys d) tys).filterMap
            (fun pa => if Ty.sub pa.2 pa.1 then none else some Diag.mismatch) = [] ∧
          T = d.ret.toTy) ∨
       (globalOf P f = some .printLike ∧ ∃ a, tys = [a] ∧ Ty.sub a tStr = true ∧ T = tUnit) ∨
       (globalOf P f = some .stringRepr ∧ ∃ a, tys = [a] ∧ T = tStr) ∨
       (globalOf P f = some .someC ∧ ∃ a, tys = [a] ∧ T = tOption a)))) := by
  unfold callTy at h
  cases hl : lookupB Γ f with
  | some T0 =>
    rw [hl] at h
    have key : Γ' = Γ ∧ (∀ w, hasTy w T0 = false) ∧ (gi T0 = true → T = Ty.noValue) := by
      cases T0 with
      | err =>
        simp only [Prod.mk.injEq] at h
        exact ⟨h.2.1.symm, hasTy_err, fun g => by simp [gi] at g⟩
      | fn n tp ps r =>
        refine ⟨?_, fun w => hasTy_fn w _ _ _ _, fun g => by simp [gi] at g⟩
        simp only at h
        split at h <;> simp only [Prod.mk.injEq] at h <;> exact h.2.1.symm
      | _ =>
        simp only at h
        split at h
        · rename_i hnv
          simp only [Prod.mk.injEq] at h
          exact ⟨h.2.1.symm, fun w => hasTy_noValue w _ hnv, fun _ => h.1.symm⟩
        · simp at h
    exact ⟨key.1, Or.inl ⟨T0, rfl, key.2⟩⟩
  | none =>
    rw [hl] at h
    cases hgl : globalOf P f with
    | none => rw [hgl] at h; simp at h
    | some g =>
      rw [hgl] at h
      cases g with
      | fn ps r =>
        obtain ⟨d, hd, rfl, rfl⟩ := globalOf_fn P f ps r hgl
        simp only at h
        split at h
        · rename_i hlen
          simp only [Prod.mk.injEq] at h
          exact ⟨h.2.1.symm, Or.inr ⟨rfl, Or.inl ⟨d, hd, rfl, by simpa using hlen, h.2.2, h.1.symm⟩⟩⟩
        · simp at h
      | printLike =>
        match tys, h with
        | [a], h =>
          simp only [Prod.mk.injEq] at h
          refine ⟨h.2.1.symm, Or.inr ⟨rfl, Or.inr (Or.inl ⟨rfl, a, rfl, ?_, h.1.symm⟩)⟩⟩
          by_cases hs : Ty.sub a tStr = true
          · exact hs
          · simp [hs] at h
        | [], h => simp at h
        | _ :: _ :: _, h => simp at h
      | stringRepr =>
        match tys, h with
        | [a], h =>
          simp only [Prod.mk.injEq] at h
          exact ⟨h.2.1.symm, Or.inr ⟨rfl, Or.inr (Or.inr (Or.inl ⟨rfl, a, rfl, h.1.symm⟩))⟩⟩
        | [], h => simp at h
        | _ :: _ :: _, h => simp at h
      | someC =>
        match tys, h with
        | [a], h =>
          simp only [Prod.mk.injEq] at h
          exact ⟨h.2.1.symm, Or.inr ⟨rfl, Or.inr (Or.inr (Or.inr ⟨rfl, a, rfl, h.1.symm⟩))⟩⟩
        | [], h => simp at h
        | _ :: _ :: _, h => simp at h
      | val T0 =>
        simp only [globalOf_val P f T0 hgl, Bool.false_eq_true, if_false] at h
        simp at h

theorem setB_cons {α : Type} (g : List (String × α)) (G : Blocks α) (x : String) (v : α) :
    setB (g :: G) x v = setBlock g x v :: G := rfl

/-! What an accepted check consists of: one lemma per arm of `tcExpr` that has parts or side tests (none for
literals, `break`, `continue`) and one per list shape of `tcSeq` / `tcItems` / `tcCases`. In
`T = T0 ∧ SubExp T0 exp`, `T0` is the type the arm computes. -/

def SubExp (T : Ty) (exp : Option Ty) : Prop := ∀ E, exp = some E → Ty.sub T E = true

theorem fin_nil {exp : Option Ty} {T0 T : Ty} {Γ0 Γ' : Blocks Ty} {d : List Diag}
    (h : fin exp T0 Γ0 d = (T, Γ', [])) : Γ0 = Γ' ∧ d = [] ∧ T = T0 ∧ SubExp T0 exp := by
  unfold fin at h
  split at h
  · simp only [Prod.mk.injEq] at h
    exact ⟨h.2.1, h.2.2, h.1.symm, nofun⟩
  · rename_i E
    split at h
    · rename_i hs
      simp only [Prod.mk.injEq] at h
      refine ⟨h.2.1, h.2.2, h.1.symm, fun E' hE => ?_⟩
      cases hE; exact hs
    · simp at h

theorem append_nil2 {α : Type} {a b : List α} (h : a ++ b = []) : a = [] ∧ b = [] :=
  List.append_eq_nil_iff.mp h

theorem append_nil3 {α : Type} {a b c : List α} (h : a ++ b ++ c = []) : a = [] ∧ b = [] ∧ c = [] :=
  ⟨(append_nil2 (append_nil2 h).1).1, (append_nil2 (append_nil2 h).1).2, (append_nil2 h).2⟩

section accepted
variable {P : Program} {ret : Ty} {exp : Option Ty} {Γ Γ' : Blocks Ty} {T : Ty}

theorem tc_var {x : String} (h : tcExpr P ret exp Γ (.var x) = (T, Γ', [])) :
    ∃ T1, inferVar P Γ x = (T1, Γ', []) ∧ T = T1 ∧ SubExp T1 exp := by
  obtain ⟨T1, Γ1, d1, h1⟩ := triple_exists (inferVar P Γ x)
  simp only [tcExpr, h1] at h
  obtain ⟨rfl, rfl, hf⟩ := fin_nil h
  exact ⟨T1, h1, hf⟩

theorem tc_paren {e : TExpr} (h : tcExpr P ret exp Γ (.paren e) = (T, Γ', [])) :
    ∃ T1, tcExpr P ret none Γ e = (T1, Γ', []) ∧ T = T1 ∧ SubExp T1 exp := by
  obtain ⟨T1, Γ1, d1, h1⟩ := triple_exists (tcExpr P ret none Γ e)
  simp only [tcExpr, h1] at h
  obtain ⟨rfl, rfl, hf⟩ := fin_nil h
  exact ⟨T1, h1, hf⟩

theorem tc_ret {e : TExpr} (h : tcExpr P ret exp Γ (.ret e) = (T, Γ', [])) :
    ∃ T1, tcExpr P ret (some ret) Γ e = (T1, Γ', []) ∧ T = Ty.noValue ∧ SubExp Ty.noValue exp := by
  obtain ⟨T1, Γ1, d1, h1⟩ := triple_exists (tcExpr P ret (some ret) Γ e)
  simp only [tcExpr, h1] at h
  obtain ⟨rfl, rfl, hf⟩ := fin_nil h
  exact ⟨T1, h1, hf⟩

theorem tc_retUnit (h : tcExpr P ret exp Γ .retUnit = (T, Γ', [])) :
    Γ' = Γ ∧ Ty.sub tUnit ret = true ∧ T = Ty.noValue ∧ SubExp Ty.noValue exp := by
  simp only [tcExpr] at h
  obtain ⟨rfl, hd, hf⟩ := fin_nil h
  refine ⟨rfl, ?_, hf⟩
  by_cases hs : Ty.sub tUnit ret = true
  · exact hs
  · rw [if_neg hs] at hd; cases hd

theorem tc_let_hint {x : String} {hh : Hint} {e : TExpr}
    (h : tcExpr P ret exp Γ (.letE x (some hh) e) = (T, Γ', [])) :
    ∃ T1 Γ1, tcExpr P ret (some hh.toTy) Γ e = (T1, Γ1, []) ∧ Γ' = setB Γ1 x hh.toTy ∧
      T = tUnit ∧ SubExp tUnit exp := by
  obtain ⟨T1, Γ1, d1, h1⟩ := triple_exists (tcExpr P ret (some hh.toTy) Γ e)
  simp only [tcExpr, h1] at h
  obtain ⟨hΓ, rfl, hf⟩ := fin_nil h
  exact ⟨T1, Γ1, h1, hΓ.symm, hf⟩

theorem tc_let {x : String} {e : TExpr}
    (h : tcExpr P ret exp Γ (.letE x none e) = (T, Γ', [])) :
    ∃ T1 Γ1, tcExpr P ret none Γ e = (T1, Γ1, []) ∧ Γ' = setB Γ1 x T1 ∧
      T = tUnit ∧ SubExp tUnit exp := by
  obtain ⟨T1, Γ1, d1, h1⟩ := triple_exists (tcExpr P ret none Γ e)
  simp only [tcExpr, h1] at h
  obtain ⟨hΓ, rfl, hf⟩ := fin_nil h
  exact ⟨T1, Γ1, h1, hΓ.symm, hf⟩

theorem tc_assign {x : String} {e : TExpr} (h : tcExpr P ret exp Γ (.assign x e) = (T, Γ', [])) :
    ∃ T1 T2, lookupB Γ x = some T1 ∧ tcExpr P ret (some T1) Γ e = (T2, Γ', []) ∧
      T = tUnit ∧ SubExp tUnit exp := by
  obtain ⟨T1, Γ1, d1, h1⟩ := triple_exists (varForAssign P Γ x)
  obtain ⟨T2, Γ2, d2, h2⟩ := triple_exists (tcExpr P ret (some T1) Γ1 e)
  simp only [tcExpr, h1, h2] at h
  obtain ⟨rfl, hd, hf⟩ := fin_nil h
  obtain ⟨rfl, rfl⟩ := append_nil2 hd
  obtain ⟨rfl, hl⟩ := varForAssign_env P Γ Γ1 x T1 h1
  exact ⟨T1, T2, hl, h2, hf⟩

theorem tc_update {isAdd : Bool} {x : String} {e : TExpr}
    (h : tcExpr P ret exp Γ (.update isAdd x e) = (T, Γ', [])) :
    ∃ T1 T2, lookupB Γ x = some T1 ∧ Ty.sub T1 tInt = true ∧
      tcExpr P ret (some tInt) Γ e = (T2, Γ', []) ∧ T = tUnit ∧ SubExp tUnit exp := by
  obtain ⟨T1, Γ1, d1, h1⟩ := triple_exists (varForAssign P Γ x)
  obtain ⟨T2, Γ2, d2, h2⟩ := triple_exists (tcExpr P ret (some tInt) Γ1 e)
  simp only [tcExpr, h1, h2] at h
  obtain ⟨rfl, hd, hf⟩ := fin_nil h
  obtain ⟨rfl, hs, rfl⟩ := append_nil3 hd
  obtain ⟨rfl, hl⟩ := varForAssign_env P Γ Γ1 x T1 h1
  refine ⟨T1, T2, hl, ?_, h2, hf⟩
  by_cases hs' : Ty.sub T1 tInt = true
  · exact hs'
  · rw [if_neg hs'] at hs; cases hs

theorem tc_if_infer {c : TExpr} {thn els : List TExpr}
    (h : tcExpr P ret none Γ (.ifE c thn true els) = (T, Γ', [])) :
    ∃ T1 Γ1 T2 Γ2 T3 Γ3, tcExpr P ret (some tBool) Γ c = (T1, Γ1, []) ∧
      tcSeq P ret none ([] :: Γ1) thn = (T2, Γ2, []) ∧
      tcSeq P ret none ([] :: Γ2.tail) els = (T3, Γ3, []) ∧
      Ty.unify T2 T3 = some T ∧ Γ' = Γ3.tail := by
  obtain ⟨T1, Γ1, d1, h1⟩ := triple_exists (tcExpr P ret (some tBool) Γ c)
  obtain ⟨T2, Γ2, d2, h2⟩ := triple_exists (tcSeq P ret none ([] :: Γ1) thn)
  obtain ⟨T3, Γ3, d3, h3⟩ := triple_exists (tcSeq P ret none ([] :: Γ2.tail) els)
  simp only [tcExpr, if_true, h1, h2, h3] at h
  cases hu : Ty.unify T2 T3 with
  | none => rw [hu] at h; simp at h
  | some U =>
    rw [hu] at h
    simp only [Prod.mk.injEq] at h
    obtain ⟨rfl, rfl, hd⟩ := h
    obtain ⟨rfl, rfl, rfl⟩ := append_nil3 hd
    exact ⟨T1, Γ1, T2, Γ2, T3, Γ3, h1, h2, h3, hu, rfl⟩

theorem tc_if_check {c : TExpr} {thn els : List TExpr} {E : Ty}
    (h : tcExpr P ret (some E) Γ (.ifE c thn true els) = (T, Γ', [])) :
    ∃ T1 Γ1 T2 Γ2 T3 Γ3, tcExpr P ret (some tBool) Γ c = (T1, Γ1, []) ∧
      tcSeq P ret (some E) ([] :: Γ1) thn = (T2, Γ2, []) ∧
      tcSeq P ret (some E) ([] :: Γ2.tail) els = (T3, Γ3, []) ∧
      Γ' = Γ3.tail ∧ T = E := by
  obtain ⟨T1, Γ1, d1, h1⟩ := triple_exists (tcExpr P ret (some tBool) Γ c)
  obtain ⟨T2, Γ2, d2, h2⟩ := triple_exists (tcSeq P ret (some E) ([] :: Γ1) thn)
  obtain ⟨T3, Γ3, d3, h3⟩ := triple_exists (tcSeq P ret (some E) ([] :: Γ2.tail) els)
  simp only [tcExpr, if_true, h1, h2, h3] at h
  obtain ⟨hΓ, hd, hf⟩ := fin_nil h
  obtain ⟨rfl, rfl, rfl⟩ := append_nil3 hd
  exact ⟨T1, Γ1, T2, Γ2, T3, Γ3, h1, h2, h3, hΓ.symm, hf.1⟩

theorem tc_if_noelse {c : TExpr} {thn els : List TExpr}
    (h : tcExpr P ret exp Γ (.ifE c thn false els) = (T, Γ', [])) :
    ∃ T1 Γ1 T2 Γ2, tcExpr P ret (some tBool) Γ c = (T1, Γ1, []) ∧
      tcSeq P ret none ([] :: Γ1) thn = (T2, Γ2, []) ∧
      Γ' = Γ2.tail ∧ T = tUnit ∧ SubExp tUnit exp := by
  obtain ⟨T1, Γ1, d1, h1⟩ := triple_exists (tcExpr P ret (some tBool) Γ c)
  obtain ⟨T2, Γ2, d2, h2⟩ := triple_exists (tcSeq P ret none ([] :: Γ1) thn)
  simp only [tcExpr, Bool.false_eq_true, if_false, h1, h2] at h
  obtain ⟨hΓ, hd, hf⟩ := fin_nil h
  obtain ⟨rfl, rfl⟩ := append_nil2 hd
  exact ⟨T1, Γ1, T2, Γ2, h1, h2, hΓ.symm, hf⟩

theorem tc_while {c : TExpr} {body : List TExpr}
    (h : tcExpr P ret exp Γ (.whileE c body) = (T, Γ', [])) :
    ∃ T1 Γ1 T2 Γ2, tcExpr P ret (some tBool) Γ c = (T1, Γ1, []) ∧
      tcSeq P ret none ([] :: Γ1) body = (T2, Γ2, []) ∧
      Γ' = Γ2.tail ∧ T = tUnit ∧ SubExp tUnit exp := by
  obtain ⟨T1, Γ1, d1, h1⟩ := triple_exists (tcExpr P ret (some tBool) Γ c)
  obtain ⟨T2, Γ2, d2, h2⟩ := triple_exists (tcSeq P ret none ([] :: Γ1) body)
  simp only [tcExpr, h1, h2] at h
  obtain ⟨hΓ, hd, hf⟩ := fin_nil h
  obtain ⟨rfl, rfl⟩ := append_nil2 hd
  exact ⟨T1, Γ1, T2, Γ2, h1, h2, hΓ.symm, hf⟩

theorem tc_for {x : String} {e : TExpr} {body : List TExpr}
    (h : tcExpr P ret exp Γ (.forE x e body) = (T, Γ', [])) :
    ∃ T1 Γ1 T2 Γ2, tcExpr P ret (some (tList .any)) Γ e = (T1, Γ1, []) ∧
      tcSeq P ret none ([] :: setB ([] :: Γ1) x (forElemTy T1)) body = (T2, Γ2, []) ∧
      Γ' = Γ2.tail.tail ∧ T = tUnit ∧ SubExp tUnit exp := by
  obtain ⟨T1, Γ1, d1, h1⟩ := triple_exists (tcExpr P ret (some (tList .any)) Γ e)
  obtain ⟨T2, Γ2, d2, h2⟩ := triple_exists (tcSeq P ret none ([] :: setB ([] :: Γ1) x (forElemTy T1)) body)
  simp only [tcExpr, h1, h2] at h
  obtain ⟨hΓ, hd, hf⟩ := fin_nil h
  obtain ⟨rfl, rfl⟩ := append_nil2 hd
  exact ⟨T1, Γ1, T2, Γ2, h1, h2, hΓ.symm, hf⟩

theorem tc_match {s : TExpr} {cases : List Case}
    (h : tcExpr P ret exp Γ (.matchE s cases) = (T, Γ', [])) :
    ∃ T1 Γ1 Ts, tcExpr P ret none Γ s = (T1, Γ1, []) ∧
      tcCases P ret (matchMode exp) T1 Γ1 cases = (Ts, Γ', []) ∧
      (!(scrutIsEnum T1) && (allUnderscore cases || T1.isTuple)) = false ∧
      (∀ n, tyName T1 = some n → exhaustive n (caseNames cases) = []) ∧
      SubExp T exp ∧ (matchMode exp = none → Ty.unifyAll Ts = .ok T) := by
  obtain ⟨T1, Γ1, d1, h1⟩ := triple_exists (tcExpr P ret none Γ s)
  obtain ⟨Ts, Γ2, d2, h2⟩ := triple_exists (tcCases P ret (matchMode exp) T1 Γ1 cases)
  simp only [tcExpr, h1, h2] at h
  have key : ∃ X, fin exp X Γ2 (d1 ++
      (if (!(scrutIsEnum T1) && (allUnderscore cases || T1.isTuple)) = true then [Diag.matchNotEnum] else []) ++
      (match tyName T1 with
        | some n => exhaustive n (caseNames cases)
        | none => []) ++ d2) = (T, Γ', []) ∧
      (matchMode exp = none → Ty.unifyAll Ts = .ok X) := by
    cases hmm : matchMode exp with
    | none =>
      rw [hmm] at h
      simp only at h
      cases hu : Ty.unifyAll Ts with
      | ok U => rw [hu] at h; exact ⟨U, h, fun _ => rfl⟩
      | error i =>
        rw [hu] at h
        have := (fin_nil h).2.1
        simp at this
    | some E =>
      rw [hmm] at h
      simp only at h
      cases hu : Ty.unifyAll Ts with
      | ok U => rw [hu] at h; exact ⟨_, h, fun hn => by cases hn⟩
      | error i => rw [hu] at h; exact ⟨_, h, fun hn => by cases hn⟩
  obtain ⟨X, hfin, hX⟩ := key
  obtain ⟨rfl, hd, rfl, hx⟩ := fin_nil hfin
  simp only [List.append_eq_nil_iff] at hd
  obtain ⟨⟨⟨rfl, hne⟩, hex⟩, rfl⟩ := hd
  refine ⟨T1, Γ1, Ts, h1, h2, ?_, ?_, hx, hX⟩
  · cases hc : (!(scrutIsEnum T1) && (allUnderscore cases || T1.isTuple))
    · rfl
    · rw [hc] at hne; cases hne
  · intro n hn
    rw [hn] at hex
    exact hex

theorem tc_list_check {items : List TExpr} {a : Ty} (ha : listExpected exp = some a)
    (h : tcExpr P ret exp Γ (.list items) = (T, Γ', [])) :
    ∃ Ts, tcItems P ret (some a) Γ items = (Ts, Γ', []) ∧
      T = (tList (unifyAllOr Ts .err)) ∧ SubExp (tList (unifyAllOr Ts .err)) exp := by
  obtain ⟨Ts, Γ1, d1, h1⟩ := triple_exists (tcItems P ret (some a) Γ items)
  simp only [tcExpr, ha, h1] at h
  obtain ⟨rfl, rfl, hf⟩ := fin_nil h
  exact ⟨Ts, h1, hf⟩

theorem tc_list_infer {items : List TExpr} (ha : listExpected exp = none)
    (h : tcExpr P ret exp Γ (.list items) = (T, Γ', [])) :
    ∃ Ts U, tcItems P ret none Γ items = (Ts, Γ', []) ∧ Ty.unifyAll Ts = .ok U ∧
      T = (tList U) ∧ SubExp (tList U) exp := by
  obtain ⟨Ts, Γ1, d1, h1⟩ := triple_exists (tcItems P ret none Γ items)
  simp only [tcExpr, ha, h1] at h
  cases hu : Ty.unifyAll Ts with
  | error i =>
    rw [hu] at h
    have := (fin_nil h).2.1
    simp at this
  | ok U =>
    rw [hu] at h
    obtain ⟨rfl, rfl, hf⟩ := fin_nil h
    exact ⟨Ts, U, h1, hu, hf⟩

theorem tc_tuple {items : List TExpr} (h : tcExpr P ret exp Γ (.tuple items) = (T, Γ', [])) :
    ∃ Ts, tcItems P ret none Γ items = (Ts, Γ', []) ∧ T = (.tuple Ts) ∧ SubExp (.tuple Ts) exp := by
  obtain ⟨Ts, Γ1, d1, h1⟩ := triple_exists (tcItems P ret none Γ items)
  simp only [tcExpr, h1] at h
  obtain ⟨rfl, rfl, hf⟩ := fin_nil h
  exact ⟨Ts, h1, hf⟩

theorem tc_call {f : String} {args : List TExpr} (h : tcExpr P ret exp Γ (.call f args) = (T, Γ', [])) :
    ∃ Ts Γ1 T2, tcItems P ret none Γ args = (Ts, Γ1, []) ∧ callTy P Γ1 f Ts = (T2, Γ', []) ∧
      T = T2 ∧ SubExp T2 exp := by
  obtain ⟨Ts, Γ1, d1, h1⟩ := triple_exists (tcItems P ret none Γ args)
  obtain ⟨T2, Γ2, d2, h2⟩ := triple_exists (callTy P Γ1 f Ts)
  simp only [tcExpr, h1, h2] at h
  obtain ⟨rfl, hd, hf⟩ := fin_nil h
  obtain ⟨rfl, rfl⟩ := append_nil2 hd
  exact ⟨Ts, Γ1, T2, h1, h2, hf⟩

theorem tcSeq_nil (h : tcSeq P ret exp Γ [] = (T, Γ', [])) :
    T = tUnit ∧ Γ' = Γ ∧ SubExp tUnit exp := by
  simp only [tcSeq, Prod.mk.injEq] at h
  obtain ⟨rfl, rfl, hd⟩ := h
  refine ⟨rfl, rfl, ?_⟩
  intro E hE
  subst hE
  by_cases hs : Ty.sub tUnit E = true
  · exact hs
  · simp [hs] at hd

theorem tcSeq_cons2 {e e2 : TExpr} {rest : List TExpr}
    (h : tcSeq P ret exp Γ (e :: e2 :: rest) = (T, Γ', [])) :
    ∃ T1 Γ1, tcExpr P ret none Γ e = (T1, Γ1, []) ∧ tcSeq P ret exp Γ1 (e2 :: rest) = (T, Γ', []) := by
  obtain ⟨T1, Γ1, d1, h1⟩ := triple_exists (tcExpr P ret none Γ e)
  obtain ⟨T2, Γ2, d2, h2⟩ := triple_exists (tcSeq P ret exp Γ1 (e2 :: rest))
  simp only [tcSeq, h1, h2] at h
  simp only [Prod.mk.injEq] at h
  obtain ⟨rfl, rfl, hd⟩ := h
  obtain ⟨rfl, rfl⟩ := append_nil2 hd
  exact ⟨T1, Γ1, h1, h2⟩

theorem tcSeq_cons_eq {e e2 : TExpr} {rest : List TExpr} {T1 : Ty} {Γ1 : Blocks Ty}
    (h1 : tcExpr P ret none Γ e = (T1, Γ1, [])) (h2 : tcSeq P ret exp Γ1 (e2 :: rest) = (T, Γ', [])) :
    tcSeq P ret exp Γ (e :: e2 :: rest) = (T, Γ', []) := by
  simp [tcSeq, h1, h2]

theorem tcItems_cons {e : TExpr} {rest : List TExpr} {Ts : List Ty}
    (h : tcItems P ret exp Γ (e :: rest) = (Ts, Γ', [])) :
    ∃ T1 Γ1 Tr, tcExpr P ret exp Γ e = (T1, Γ1, []) ∧ tcItems P ret exp Γ1 rest = (Tr, Γ', []) ∧
      Ts = T1 :: Tr := by
  obtain ⟨T1, Γ1, d1, h1⟩ := triple_exists (tcExpr P ret exp Γ e)
  obtain ⟨T2, Γ2, d2, h2⟩ := triple_exists (tcItems P ret exp Γ1 rest)
  simp only [tcItems, h1, h2] at h
  simp only [Prod.mk.injEq] at h
  obtain ⟨rfl, rfl, hd⟩ := h
  obtain ⟨rfl, rfl⟩ := append_nil2 hd
  exact ⟨T1, Γ1, T2, h1, h2, rfl⟩

def caseEnv (Γ : Blocks Ty) (Ts0 : Ty) (v : String) : Option String → Blocks Ty
  | some x => setB ([] :: Γ) x (payloadTy Ts0 v)
  | none => [] :: Γ

theorem tcCases_cons {mode : Option Ty} {Ts0 : Ty} {v : String} {payload : Option String}
    {body : List TExpr} {rest : List Case} {Ts : List Ty}
    (h : tcCases P ret mode Ts0 Γ (.mk v payload body :: rest) = (Ts, Γ', [])) :
    ∃ T1 Γ1 Tr, tcSeq P ret mode ([] :: caseEnv Γ Ts0 v payload) body = (T1, Γ1, []) ∧
      patternDiags P (tyName Ts0) v payload.isSome = [] ∧
      tcCases P ret mode Ts0 Γ1.tail.tail rest = (Tr, Γ', []) ∧ Ts = T1 :: Tr := by
  simp only [tcCases] at h
  change (match tcSeq P ret mode ([] :: caseEnv Γ Ts0 v payload) body with
    | (T, Γ1, d1) => match tcCases P ret mode Ts0 Γ1.tail.tail rest with
      | (Tr, Γ2, d3) => (T :: Tr, Γ2, d1 ++ patternDiags P (tyName Ts0) v payload.isSome ++ d3)) =
    (Ts, Γ', []) at h
  obtain ⟨T1, Γ1, d1, h1⟩ := triple_exists (tcSeq P ret mode ([] :: caseEnv Γ Ts0 v payload) body)
  obtain ⟨T2, Γ2, d2, h2⟩ := triple_exists (tcCases P ret mode Ts0 Γ1.tail.tail rest)
  simp only [h1, h2, Prod.mk.injEq] at h
  obtain ⟨rfl, rfl, hd⟩ := h
  obtain ⟨rfl, hp, rfl⟩ := append_nil3 hd
  exact ⟨T1, Γ1, T2, h1, hp, h2, rfl⟩

end accepted

theorem tc_binop {P : Program} {ret : Ty} {exp : Option Ty} {Γ Γ' : Blocks Ty} {T : Ty}
    {op : BinOp} {l r : TExpr} (h : tcExpr P ret exp Γ (.binop op l r) = (T, Γ', [])) :
    ∃ e1 T1 Γ1 T2, tcExpr P ret e1 Γ l = (T1, Γ1, []) ∧ tcExpr P ret e1 Γ1 r = (T2, Γ', []) ∧
      T = opRes op ∧ SubExp (opRes op) exp ∧
      ((e1 = none ∧ Ty.sub T1 (opOpnd op) = true ∧ Ty.sub T2 (opOpnd op) = true) ∨
        e1 = some (opOpnd op)) := by
  cases ha : isIntArith op with
  | true =>
    rw [show opRes op = tInt by simp [opRes, ha], show opOpnd op = tInt by simp [opOpnd, ha]]
    obtain ⟨T1, Γ1, d1, h1⟩ := triple_exists (tcExpr P ret none Γ l)
    obtain ⟨T2, Γ2, d2, h2⟩ := triple_exists (tcExpr P ret none Γ1 r)
    simp only [tcExpr, ha, if_true, h1, h2] at h
    obtain ⟨T3, d3, h3⟩ : ∃ a b, intBinopTy op T1 T2 = (a, b) := ⟨_, _, rfl⟩
    rw [h3] at h
    obtain ⟨rfl, hd, hf⟩ := fin_nil h
    obtain ⟨rfl, rfl, rfl⟩ := append_nil3 hd
    -- with no diagnostic `infer_int_binop` took its last branch, where both operand tests passed
    unfold intBinopTy at h3
    by_cases c1 : (hasFloatTwin op && Ty.subNotError T1 tFloat && Ty.subNotError T2 tFloat) = true
    · rw [if_pos c1] at h3; cases h3
    rw [if_neg c1] at h3
    by_cases c2 : (op == .add && Ty.subNotError T1 tStr && Ty.subNotError T2 tStr) = true
    · rw [if_pos c2] at h3; cases h3
    rw [if_neg c2] at h3
    by_cases s1 : Ty.sub T1 tInt = true
    · by_cases s2 : Ty.sub T2 tInt = true
      · simp only [Prod.mk.injEq] at h3
        rw [← h3.1] at hf
        exact ⟨none, T1, Γ1, T2, h1, h2, hf.1, hf.2, Or.inl ⟨rfl, s1, s2⟩⟩
      · simp [s1, s2] at h3
    · simp [s1] at h3
  | false =>
    cases he : (op == .eq || op == .ne) with
    | true =>
      rw [show opRes op = tBool by simp [opRes, ha, he], show opOpnd op = .any by simp [opOpnd, ha, he]]
      obtain ⟨T1, Γ1, d1, h1⟩ := triple_exists (tcExpr P ret none Γ l)
      obtain ⟨T2, Γ2, d2, h2⟩ := triple_exists (tcExpr P ret none Γ1 r)
      simp only [tcExpr, ha, he, if_true, Bool.false_eq_true, if_false, h1, h2] at h
      obtain ⟨rfl, hd, hf⟩ := fin_nil h
      obtain ⟨rfl, rfl⟩ := append_nil2 hd
      exact ⟨none, T1, Γ1, T2, h1, h2, hf.1, hf.2, Or.inl ⟨rfl, Ty.sub_any _, Ty.sub_any _⟩⟩
    | false =>
      rw [show opRes op = (opTys op).2 by simp [opRes, ha, he],
        show opOpnd op = (opTys op).1 by simp [opOpnd, ha, he]]
      simp only [tcExpr, ha, he, Bool.false_eq_true, if_false] at h
      change (match opTys op with
        | (opnd, res) => match tcExpr P ret (some opnd) Γ l with
          | (_, Γ1, d1) => match tcExpr P ret (some opnd) Γ1 r with
            | (_, Γ2, d2) => fin exp res Γ2 (d1 ++ d2)) = (T, Γ', []) at h
      obtain ⟨opnd, res, ho⟩ : ∃ a b, opTys op = (a, b) := ⟨_, _, rfl⟩
      rw [ho] at h ⊢
      simp only at h
      obtain ⟨T1, Γ1, d1, h1⟩ := triple_exists (tcExpr P ret (some opnd) Γ l)
      obtain ⟨T2, Γ2, d2, h2⟩ := triple_exists (tcExpr P ret (some opnd) Γ1 r)
      simp only [h1, h2] at h
      obtain ⟨rfl, hd, hf⟩ := fin_nil h
      obtain ⟨rfl, rfl⟩ := append_nil2 hd
      exact ⟨_, T1, Γ1, T2, h1, h2, hf.1, hf.2, Or.inr rfl⟩

theorem gi_opRes (op : BinOp) : gi (opRes op) = true := by
  cases op <;> decide

theorem gi_tInt : gi tInt = true := by simp [gi, tInt, goodName0]
theorem gi_tStr : gi tStr = true := by simp [gi, tStr, goodName0]
theorem gi_tBool : gi tBool = true := by simp [gi, tBool, goodName0]
theorem gi_tUnit : gi tUnit = true := by simp [gi, tUnit, goodName0]

theorem giL_of_forall : ∀ ts : List Ty, (∀ t ∈ ts, gi t = true) → giL ts = true
  | [], h => by simp [giL]
  | t :: ts, h => by simp [giL, h t (by simp), giL_of_forall ts (fun t' ht' => h t' (by simp [ht']))]

theorem callTy_gi (P : Program) (Γ Γ' : Blocks Ty) (f : String) (tys : List Ty) (T : Ty)
    (h : callTy P Γ f tys = (T, Γ', [])) (hΓ : GoodEnv Γ) (ht : ∀ t ∈ tys, gi t = true) : gi T = true := by
  rcases (callTy_inv h).2 with ⟨T0, hg, _, hT⟩ |
    ⟨_, ⟨d, _, _, _, _, rfl⟩ | ⟨_, a, _, _, rfl⟩ | ⟨_, a, _, rfl⟩ | ⟨_, a, rfl, rfl⟩⟩
  · rw [hT (lookupB_gi Γ f T0 hΓ hg)]; exact gi_noValue
  · exact Hint.toTy_gi _
  · exact gi_tUnit
  · exact gi_tStr
  · simpa [tOption, gi] using ht a (by simp)

theorem inferVar_global (P : Program) (Γ Γ' : Blocks Ty) (x : String) (T : Ty)
    (hs : ((isValueGlobal x && (findFun P x).isNone) || !(isGlobalName P x)) = true)
    (hl : lookupB Γ x = none) (h : inferVar P Γ x = (T, Γ', [])) :
    ∃ v, globalVal x = some v ∧ hasTy v T = true ∧ gi T = true := by
  unfold inferVar at h
  rw [hl] at h
  simp at hs
  rcases hs with ⟨hvg, hff⟩ | hng
  · simp [isValueGlobal] at hvg
    rcases hvg with ((rfl | rfl) | rfl) | rfl
    all_goals
      simp [globalOf, hff, Global.ty] at h
      rw [← h.1]
      simp [globalVal, hasTy, isNamed, gi, tOption, tBool, tUnit, Ty.noValue, goodName0]
  · rw [globalOf_none P x hng] at h
    cases h

theorem payloadTy_gi (P : Program) (Ts : Ty) (v : String) (hg : gi Ts = true) (hnt : Ts.isTuple = false)
    (hv : v ≠ "_") (hp : patternDiags P (tyName Ts) v true = []) : gi (payloadTy Ts v) = true := by
  unfold payloadTy
  by_cases hnv : Ts.isNoValue = true
  · rw [if_pos hnv]; exact gi_noValue
  rw [if_neg hnv]
  cases Ts with
  | user k n args =>
    -- the pattern is a constructor of the scrutinee's enum, which can only be `Option`
    obtain ⟨en, hm, hsn⟩ := patternDiags_nil P _ v true hv hp
    rcases hsn n rfl with h | rfl
    · exact absurd (by simp [Ty.isNoValue, h]) hnv
    simp [variants] at hm
    rcases gi_user_cases k en args hg with ⟨rfl, hn0⟩ | ⟨a, rfl, hn, ga⟩
    · rcases hm with ⟨_, rfl⟩ | ⟨_, rfl⟩ | ⟨_, rfl⟩ <;> simp [goodName0] at hn0
    · rcases hm with ⟨rfl, rfl⟩ | ⟨_, rfl⟩ | ⟨_, rfl⟩
      · simpa [enumVariants] using ga
      · simp at hn
      · simp at hn
  | tuple _ => simp [Ty.isTuple] at hnt
  | _ => simp [gi] at hg

theorem unifyAll_gi (ts : List Ty) (c : Ty) (h : Ty.unifyAll ts = .ok c) (hts : ∀ t ∈ ts, gi t = true) :
    gi c = true := unifyAllFrom_gi ts Ty.noValue c 0 h gi_noValue hts

theorem caseEnv_tail (Γ : Blocks Ty) (Ts0 : Ty) (v : String) (payload : Option String) :
    (caseEnv Γ Ts0 v payload).tail = Γ := by
  cases payload <;> rfl

theorem GoodEnv_caseEnv (Γ : Blocks Ty) (Ts0 : Ty) (v : String) (payload : Option String)
    (h : GoodEnv Γ) (hp : payload.isSome = true → gi (payloadTy Ts0 v) = true) :
    GoodEnv (caseEnv Γ Ts0 v payload) := by
  cases payload with
  | none => exact GoodEnv_push Γ h
  | some x => exact GoodEnv_setB _ x _ (GoodEnv_push Γ h) (hp rfl)

theorem tc_chk_infer (P : Program) (ret E T : Ty) (Γ Γ' : Blocks Ty) (e : TExpr)
    (hi : iterOK e = true) (h : tcExpr P ret (some E) Γ e = (T, Γ', [])) :
    tcExpr P ret none Γ e = (T, Γ', []) ∧ Ty.sub T E = true := by
  cases e <;> simp [iterOK] at hi
  case var x =>
    obtain ⟨T1, h1, hf⟩ := tc_var h
    obtain ⟨rfl, hsub⟩ := hf
    exact ⟨by simp [tcExpr, h1, fin], hsub E rfl⟩
  case paren e' =>
    obtain ⟨T1, h1, hf⟩ := tc_paren h
    obtain ⟨rfl, hsub⟩ := hf
    exact ⟨by simp [tcExpr, h1, fin], hsub E rfl⟩
  case call f args =>
    obtain ⟨Ts, Γ1, T2, h1, h2, hf⟩ := tc_call h
    obtain ⟨rfl, hsub⟩ := hf
    exact ⟨by simp [tcExpr, h1, h2, fin], hsub E rfl⟩

/-- The judgement forms. An expression has no bindings after it: it leaves them as they are. -/
inductive Judg where
  | expr (exp : Option Ty) (Γ : Blocks Ty) (e : TExpr) (T : Ty)
  | stmt (exp : Option Ty) (Γ : Blocks Ty) (e : TExpr) (T : Ty) (Γ' : Blocks Ty)
  | block (exp : Option Ty) (Γ : Blocks Ty) (es : List TExpr) (T : Ty) (Γ' : Blocks Ty)
  | items (exp : Option Ty) (Γ : Blocks Ty) (es : List TExpr) (Ts : List Ty)
  | cases (mode : Option Ty) (Ts0 : Ty) (Γ : Blocks Ty) (cs : List Case) (Ts : List Ty)

open Judg in
/-- One rule per arm of the checker. Not purely syntactic: `glob` asks for the value of the global and a type it
has (which is what `infer_var` yields for `None` / `True` / `False` / `Unit`), and `call` keeps the checker's
`callTy` as its premise (`callTy_inv`). One inductive family over the judgement forms, so that `induction` applies. -/
inductive Typed (P : Program) (ret : Ty) : Judg → Prop
  | int {exp Γ v} : SubExp tInt exp → Typed P ret (expr exp Γ (.int v) tInt)
  | str {exp Γ s} : SubExp tStr exp → Typed P ret (expr exp Γ (.str s) tStr)
  | loc {exp Γ x T} : lookupB Γ x = some T → SubExp T exp → Typed P ret (expr exp Γ (.var x) T)
  | glob {exp Γ x v T} : lookupB Γ x = none → globalVal x = some v → hasTy v T = true → gi T = true →
      SubExp T exp → Typed P ret (expr exp Γ (.var x) T)
  | paren {exp Γ e T} : Typed P ret (expr none Γ e T) → SubExp T exp → Typed P ret (expr exp Γ (.paren e) T)
  | binop {exp Γ op l r m T1 T2} : Typed P ret (expr m Γ l T1) → Typed P ret (expr m Γ r T2) →
      (m = none ∧ Ty.sub T1 (opOpnd op) = true ∧ Ty.sub T2 (opOpnd op) = true ∨ m = some (opOpnd op)) →
      SubExp (opRes op) exp → Typed P ret (expr exp Γ (.binop op l r) (opRes op))
  | assign {exp Γ x e T1 T2} : lookupB Γ x = some T1 → Typed P ret (expr (some T1) Γ e T2) →
      SubExp tUnit exp → Typed P ret (expr exp Γ (.assign x e) tUnit)
  | update {exp Γ a x e T1 T2} : lookupB Γ x = some T1 → Ty.sub T1 tInt = true →
      Typed P ret (expr (some tInt) Γ e T2) → SubExp tUnit exp → Typed P ret (expr exp Γ (.update a x e) tUnit)
  | ifInfer {Γ c thn els T1 T2 Γ2 T3 Γ3 T} : Typed P ret (expr (some tBool) Γ c T1) →
      Typed P ret (block none ([] :: Γ) thn T2 Γ2) → Typed P ret (block none ([] :: Γ) els T3 Γ3) →
      Ty.unify T2 T3 = some T → Typed P ret (expr none Γ (.ifE c thn true els) T)
  | ifCheck {Γ c thn els T1 T2 Γ2 T3 Γ3 E} : Typed P ret (expr (some tBool) Γ c T1) →
      Typed P ret (block (some E) ([] :: Γ) thn T2 Γ2) → Typed P ret (block (some E) ([] :: Γ) els T3 Γ3) →
      Typed P ret (expr (some E) Γ (.ifE c thn true els) E)
  | ifNoElse {exp Γ c thn els T1 T2 Γ2} : Typed P ret (expr (some tBool) Γ c T1) →
      Typed P ret (block none ([] :: Γ) thn T2 Γ2) → SubExp tUnit exp →
      Typed P ret (expr exp Γ (.ifE c thn false els) tUnit)
  | whileE {exp Γ c body T1 T2 Γ2} : Typed P ret (expr (some tBool) Γ c T1) →
      Typed P ret (block none ([] :: Γ) body T2 Γ2) → SubExp tUnit exp →
      Typed P ret (expr exp Γ (.whileE c body) tUnit)
  | forE {exp Γ x e body T1 T2 Γ2} : Typed P ret (expr none Γ e T1) → Ty.sub T1 (tList .any) = true →
      Typed P ret (block none ([] :: setB ([] :: Γ) x (forElemTy T1)) body T2 Γ2) → SubExp tUnit exp →
      Typed P ret (expr exp Γ (.forE x e body) tUnit)
  | matchE {exp Γ s cs T1 Ts X} : Typed P ret (expr none Γ s T1) →
      Typed P ret (cases (matchMode exp) T1 Γ cs Ts) →
      (!(scrutIsEnum T1) && (allUnderscore cs || T1.isTuple)) = false →
      (∀ n, tyName T1 = some n → exhaustive n (caseNames cs) = []) →
      (matchMode exp = none → Ty.unifyAll Ts = .ok X) → SubExp X exp →
      Typed P ret (expr exp Γ (.matchE s cs) X)
  | ret {exp Γ e T1} : Typed P ret (expr (some ret) Γ e T1) → Typed P ret (expr exp Γ (.ret e) Ty.noValue)
  | retUnit {exp Γ} : Ty.sub tUnit ret = true → Typed P ret (expr exp Γ .retUnit Ty.noValue)
  | brk {exp Γ} : Typed P ret (expr exp Γ .brk Ty.noValue)
  | cont {exp Γ} : Typed P ret (expr exp Γ .cont Ty.noValue)
  | listCheck {exp Γ es a Ts} : listExpected exp = some a → Typed P ret (items (some a) Γ es Ts) →
      SubExp (tList (unifyAllOr Ts .err)) exp → Typed P ret (expr exp Γ (.list es) (tList (unifyAllOr Ts .err)))
  | listInfer {exp Γ es Ts U} : listExpected exp = none → Typed P ret (items none Γ es Ts) →
      Ty.unifyAll Ts = .ok U → SubExp (tList U) exp → Typed P ret (expr exp Γ (.list es) (tList U))
  | tuple {exp Γ es Ts} : Typed P ret (items none Γ es Ts) → SubExp (.tuple Ts) exp →
      Typed P ret (expr exp Γ (.tuple es) (.tuple Ts))
  | call {exp Γ f args Ts T} : Typed P ret (items none Γ args Ts) → callTy P Γ f Ts = (T, Γ, []) →
      SubExp T exp → Typed P ret (expr exp Γ (.call f args) T)
  | letHint {exp Γ x hh e T1} : Typed P ret (expr (some hh.toTy) Γ e T1) → SubExp tUnit exp →
      Typed P ret (stmt exp Γ (.letE x (some hh) e) tUnit (setB Γ x hh.toTy))
  | letE {exp Γ x e T1} : Typed P ret (expr none Γ e T1) → SubExp tUnit exp →
      Typed P ret (stmt exp Γ (.letE x none e) tUnit (setB Γ x T1))
  | exprS {exp Γ e T} : Typed P ret (expr exp Γ e T) → Typed P ret (stmt exp Γ e T Γ)
  | nil {exp Γ} : SubExp tUnit exp → Typed P ret (block exp Γ [] tUnit Γ)
  | one {exp Γ e T Γ'} : Typed P ret (stmt exp Γ e T Γ') → Typed P ret (block exp Γ [e] T Γ')
  | cons {exp Γ e e2 rest T1 Γ1 T Γ'} : Typed P ret (stmt none Γ e T1 Γ1) →
      Typed P ret (block exp Γ1 (e2 :: rest) T Γ') → Typed P ret (block exp Γ (e :: e2 :: rest) T Γ')
  | inil {exp Γ} : Typed P ret (items exp Γ [] [])
  | icons {exp Γ e rest T Ts} : Typed P ret (expr exp Γ e T) → Typed P ret (items exp Γ rest Ts) →
      Typed P ret (items exp Γ (e :: rest) (T :: Ts))
  | cnil {mode Ts0 Γ} : Typed P ret (cases mode Ts0 Γ [] [])
  | ccons {mode Ts0 Γ v payload body rest T1 Γ1 Tr} :
      Typed P ret (block mode ([] :: caseEnv Γ Ts0 v payload) body T1 Γ1) →
      patternDiags P (tyName Ts0) v payload.isSome = [] → (v != "_" || payload.isNone) = true →
      Typed P ret (cases mode Ts0 Γ rest Tr) →
      Typed P ret (cases mode Ts0 Γ (.mk v payload body :: rest) (T1 :: Tr))

section typed
variable {P : Program} {ret : Ty}

theorem Typed.tail {j : Judg} (h : Typed P ret j) :
    match j with
    | .stmt _ Γ _ _ Γ' | .block _ Γ _ _ Γ' => ∀ g G, Γ = g :: G → ∃ g', Γ' = g' :: G
    | _ => True := by
  induction h with
  | letHint | letE | exprS | nil => rintro g G rfl; exact ⟨_, rfl⟩
  | one _ ih => exact ih
  | cons _ _ ih1 ih2 =>
    rintro g G rfl
    obtain ⟨g1, rfl⟩ := ih1 g G rfl
    exact ih2 g1 G rfl
  | _ => trivial

theorem Typed.tail_eq {exp : Option Ty} {es : List TExpr} {T : Ty} {g : List (String × Ty)} {G Γ' : Blocks Ty}
    (h : Typed P ret (.block exp (g :: G) es T Γ')) : Γ'.tail = G := by
  obtain ⟨g', rfl⟩ := h.tail g G rfl; rfl

theorem Typed.stmt_tail {exp : Option Ty} {Γ Γ' : Blocks Ty} {e : TExpr} {T : Ty}
    (h : Typed P ret (.stmt exp Γ e T Γ')) : Γ'.tail = Γ.tail := by
  cases h <;> first | rfl | (cases Γ <;> rfl)

end typed

theorem stmt_typed {P : Program} {d : Nat}
    (ihE : ∀ e ret exp Γ T Γ', okE P d e = true → tcExpr P ret exp Γ e = (T, Γ', []) →
      Typed P ret (.expr exp Γ e T) ∧ Γ' = Γ)
    {e : TExpr} {ret : Ty} {exp : Option Ty} {Γ Γ' : Blocks Ty} {T : Ty}
    (hs : okS P d e = true) (h : tcExpr P ret exp Γ e = (T, Γ', [])) : Typed P ret (.stmt exp Γ e T Γ') := by
  cases e with
  | letE x hint e' =>
    simp only [okS] at hs
    cases hint with
    | some hh =>
      obtain ⟨T1, Γ1, h1, rfl, rfl, hx⟩ := tc_let_hint h
      obtain ⟨d1, rfl⟩ := ihE _ _ _ _ _ _ hs h1
      exact .letHint d1 hx
    | none =>
      obtain ⟨T1, Γ1, h1, rfl, rfl, hx⟩ := tc_let h
      obtain ⟨d1, rfl⟩ := ihE _ _ _ _ _ _ hs h1
      exact .letE d1 hx
  | _ =>
    simp only [okS] at hs
    obtain ⟨d1, rfl⟩ := ihE _ ret exp Γ T Γ' hs h
    exact .exprS d1

/-- The one induction over the depth bound, and the only place where `okE` … `okC` are unfolded; each arm rests
on the `tc_*` inversion of its form. -/
theorem typed_of_accepted (P : Program) : ∀ d,
    (∀ e ret exp Γ T Γ', okE P d e = true → tcExpr P ret exp Γ e = (T, Γ', []) →
      Typed P ret (.expr exp Γ e T) ∧ Γ' = Γ) ∧
    (∀ es ret exp Γ T Γ', okL P d es = true → tcSeq P ret exp Γ es = (T, Γ', []) →
      Typed P ret (.block exp Γ es T Γ')) ∧
    (∀ es ret exp Γ Ts Γ', okA P d es = true → tcItems P ret exp Γ es = (Ts, Γ', []) →
      Typed P ret (.items exp Γ es Ts) ∧ Γ' = Γ) ∧
    (∀ cs ret mode Ts0 Γ Ts Γ', okC P d cs = true → tcCases P ret mode Ts0 Γ cs = (Ts, Γ', []) →
      Typed P ret (.cases mode Ts0 Γ cs Ts) ∧ Γ' = Γ) := by
  intro d
  induction d with
  | zero => simp [okE, okL, okA, okC]
  | succ d ih =>
    obtain ⟨ihE, ihL, ihA, ihC⟩ := ih
    have blk : ∀ {es ret exp Γ T Γ'}, okL P d es = true → tcSeq P ret exp ([] :: Γ) es = (T, Γ', []) →
        Typed P ret (.block exp ([] :: Γ) es T Γ') ∧ Γ'.tail = Γ :=
      fun hs h => ⟨ihL _ _ _ _ _ _ hs h, (ihL _ _ _ _ _ _ hs h).tail_eq⟩
    refine ⟨?_, ?_, ?_, ?_⟩
    · intro e ret exp Γ T Γ' hs h
      cases e with
      | int v =>
        simp only [tcExpr] at h
        obtain ⟨rfl, _, rfl, hx⟩ := fin_nil h
        exact ⟨.int hx, rfl⟩
      | var x =>
        simp only [okE] at hs
        obtain ⟨T1, h1, rfl, hx⟩ := tc_var h
        obtain rfl := inferVar_env P Γ Γ' x _ h1
        refine ⟨?_, rfl⟩
        cases hl : lookupB Γ' x with
        | some T0 =>
          obtain rfl : T0 = T := by simpa [inferVar, hl] using h1
          exact .loc hl hx
        | none =>
          obtain ⟨v, hv, ht, hg⟩ := inferVar_global P Γ' Γ' x T hs hl h1
          exact .glob hl hv ht hg hx
      | brk =>
        simp only [tcExpr] at h
        obtain ⟨rfl, _, rfl, _⟩ := fin_nil h
        exact ⟨.brk, rfl⟩
      | ifE c thn hasElse els =>
        simp only [okE, Bool.and_eq_true] at hs
        obtain ⟨⟨hsc, hst⟩, hse⟩ := hs
        cases hasElse with
        | true =>
          cases exp with
          | none =>
            obtain ⟨T1, Γ1, T2, Γ2, T3, Γ3, h1, h2, h3, hU, rfl⟩ := tc_if_infer h
            obtain ⟨d1, rfl⟩ := ihE _ _ _ _ _ _ hsc h1
            obtain ⟨d2, e2⟩ := blk hst h2
            rw [e2] at h3
            obtain ⟨d3, e3⟩ := blk hse h3
            exact ⟨.ifInfer d1 d2 d3 hU, e3⟩
          | some E =>
            obtain ⟨T1, Γ1, T2, Γ2, T3, Γ3, h1, h2, h3, rfl, rfl⟩ := tc_if_check h
            obtain ⟨d1, rfl⟩ := ihE _ _ _ _ _ _ hsc h1
            obtain ⟨d2, e2⟩ := blk hst h2
            rw [e2] at h3
            obtain ⟨d3, e3⟩ := blk hse h3
            exact ⟨.ifCheck d1 d2 d3, e3⟩
        | false =>
          obtain ⟨T1, Γ1, T2, Γ2, h1, h2, rfl, rfl, hx⟩ := tc_if_noelse h
          obtain ⟨d1, rfl⟩ := ihE _ _ _ _ _ _ hsc h1
          obtain ⟨d2, e2⟩ := blk hst h2
          exact ⟨.ifNoElse d1 d2 hx, e2⟩
      | whileE c body =>
        simp only [okE, Bool.and_eq_true] at hs
        obtain ⟨T1, Γ1, T2, Γ2, h1, h2, rfl, rfl, hx⟩ := tc_while h
        obtain ⟨d1, rfl⟩ := ihE _ _ _ _ _ _ hs.1 h1
        obtain ⟨d2, e2⟩ := blk hs.2 h2
        exact ⟨.whileE d1 d2 hx, e2⟩
      | str v =>
        simp only [tcExpr] at h
        obtain ⟨rfl, _, rfl, hx⟩ := fin_nil h
        exact ⟨.str hx, rfl⟩
      | cont =>
        simp only [tcExpr] at h
        obtain ⟨rfl, _, rfl, _⟩ := fin_nil h
        exact ⟨.cont, rfl⟩
      | retUnit =>
        obtain ⟨rfl, hsub, rfl, _⟩ := tc_retUnit h
        exact ⟨.retUnit hsub, rfl⟩
      | letE x hint e => simp [okE] at hs
      | paren e =>
        simp only [okE] at hs
        obtain ⟨T1, h1, rfl, hx⟩ := tc_paren h
        obtain ⟨d1, rfl⟩ := ihE _ _ _ _ _ _ hs h1
        exact ⟨.paren d1 hx, rfl⟩
      | ret e =>
        simp only [okE] at hs
        obtain ⟨T1, h1, rfl, _⟩ := tc_ret h
        obtain ⟨d1, rfl⟩ := ihE _ _ _ _ _ _ hs h1
        exact ⟨.ret d1, rfl⟩
      | binop op l r =>
        simp only [okE, Bool.and_eq_true] at hs
        obtain ⟨m, T1, Γ1, T2, h1, h2, rfl, hx, hm⟩ := tc_binop h
        obtain ⟨d1, rfl⟩ := ihE _ _ _ _ _ _ hs.1 h1
        obtain ⟨d2, rfl⟩ := ihE _ _ _ _ _ _ hs.2 h2
        exact ⟨.binop d1 d2 hm hx, rfl⟩
      | assign x e =>
        simp only [okE] at hs
        obtain ⟨T1, T2, hl, h2, rfl, hx⟩ := tc_assign h
        obtain ⟨d2, rfl⟩ := ihE _ _ _ _ _ _ hs h2
        exact ⟨.assign hl d2 hx, rfl⟩
      | update isAdd x e =>
        simp only [okE] at hs
        obtain ⟨T1, T2, hl, hsub, h2, rfl, hx⟩ := tc_update h
        obtain ⟨d2, rfl⟩ := ihE _ _ _ _ _ _ hs h2
        exact ⟨.update hl hsub d2 hx, rfl⟩
      | forE x e body =>
        simp only [okE, Bool.and_eq_true] at hs
        obtain ⟨T1, Γ1, T2, Γ2, h1, h2, rfl, rfl, hx⟩ := tc_for h
        -- the iterable of the fragment is checked by inferring and comparing
        obtain ⟨h1, hsub⟩ := tc_chk_infer P ret _ T1 Γ Γ1 e hs.1.1 h1
        obtain ⟨d1, rfl⟩ := ihE _ _ _ _ _ _ hs.1.2 h1
        obtain ⟨d2, e2⟩ := blk hs.2 h2
        exact ⟨.forE d1 hsub d2 hx, by rw [e2]; rfl⟩
      | matchE s cs =>
        simp only [okE, Bool.and_eq_true] at hs
        obtain ⟨T1, Γ1, Ts, h1, h2, hne, hex, hx, hX⟩ := tc_match h
        obtain ⟨d1, rfl⟩ := ihE _ _ _ _ _ _ hs.1 h1
        obtain ⟨d2, rfl⟩ := ihC _ _ _ _ _ _ _ hs.2 h2
        exact ⟨.matchE d1 d2 hne hex hX hx, rfl⟩
      | list items =>
        simp only [okE] at hs
        cases ha : listExpected exp with
        | some a =>
          obtain ⟨Ts, h1, rfl, hx⟩ := tc_list_check ha h
          obtain ⟨d1, rfl⟩ := ihA _ _ _ _ _ _ hs h1
          exact ⟨.listCheck ha d1 hx, rfl⟩
        | none =>
          obtain ⟨Ts, U, h1, hU, rfl, hx⟩ := tc_list_infer ha h
          obtain ⟨d1, rfl⟩ := ihA _ _ _ _ _ _ hs h1
          exact ⟨.listInfer ha d1 hU hx, rfl⟩
      | tuple items =>
        simp only [okE] at hs
        obtain ⟨Ts, h1, rfl, hx⟩ := tc_tuple h
        obtain ⟨d1, rfl⟩ := ihA _ _ _ _ _ _ hs h1
        exact ⟨.tuple d1 hx, rfl⟩
      | call f args =>
        simp only [okE] at hs
        obtain ⟨Ts, Γ1, T2, h1, h2, rfl, hx⟩ := tc_call h
        obtain ⟨d1, rfl⟩ := ihA _ _ _ _ _ _ hs h1
        obtain rfl := (callTy_inv h2).1
        exact ⟨.call d1 h2 hx, rfl⟩
    · intro es ret exp Γ T Γ' hs h
      match es, hs, h with
      | [], _, h =>
        obtain ⟨rfl, rfl, hsub⟩ := tcSeq_nil h
        exact .nil hsub
      | [e], hs, h =>
        simp only [okL, Bool.and_eq_true] at hs
        simp only [tcSeq] at h
        exact .one (stmt_typed ihE hs.1 h)
      | e :: e2 :: rest, hs, h =>
        simp only [okL, Bool.and_eq_true] at hs
        obtain ⟨T1, Γ1, h1, h2⟩ := tcSeq_cons2 h
        exact .cons (stmt_typed ihE hs.1 h1) (ihL (e2 :: rest) ret exp Γ1 T Γ' hs.2 h2)
    · intro es ret exp Γ Ts Γ' hs h
      cases es with
      | nil =>
        simp only [tcItems, Prod.mk.injEq] at h
        obtain ⟨rfl, rfl, _⟩ := h
        exact ⟨.inil, rfl⟩
      | cons e rest =>
        simp only [okA, Bool.and_eq_true] at hs
        obtain ⟨T1, Γ1, Tr, h1, h2, rfl⟩ := tcItems_cons h
        obtain ⟨d1, rfl⟩ := ihE _ _ _ _ _ _ hs.1 h1
        obtain ⟨d2, rfl⟩ := ihA _ _ _ _ _ _ hs.2 h2
        exact ⟨.icons d1 d2, rfl⟩
    · intro cs ret mode Ts0 Γ Ts Γ' hs h
      cases cs with
      | nil =>
        simp only [tcCases, Prod.mk.injEq] at h
        obtain ⟨rfl, rfl, _⟩ := h
        exact ⟨.cnil, rfl⟩
      | cons c rest =>
        obtain ⟨v, payload, body⟩ := c
        simp only [okC, Bool.and_eq_true] at hs
        obtain ⟨T1, Γ1, Tr, h1, hp, h2, rfl⟩ := tcCases_cons h
        obtain ⟨d1, e1⟩ := blk hs.1.2 h1
        rw [e1, caseEnv_tail] at h2
        obtain ⟨d2, rfl⟩ := ihC _ _ _ _ _ _ _ hs.2 h2
        exact ⟨.ccons d1 hp hs.1.1 d2, rfl⟩

/-- Checking an expression of the fragment leaves the bindings unchanged (when no diagnostic is
produced); checking a block only changes its own innermost scope. -/
theorem tc_inv (P : Program) : ∀ d,
    (∀ e ret exp Γ T Γ', okE P d e = true → tcExpr P ret exp Γ e = (T, Γ', []) → Γ' = Γ) ∧
    (∀ es ret exp g G T Γ', okL P d es = true → tcSeq P ret exp (g :: G) es = (T, Γ', []) →
      ∃ g', Γ' = g' :: G) ∧
    (∀ es ret exp Γ Ts Γ', okA P d es = true → tcItems P ret exp Γ es = (Ts, Γ', []) → Γ' = Γ) ∧
    (∀ cs ret mode Ts0 Γ Ts Γ', okC P d cs = true → tcCases P ret mode Ts0 Γ cs = (Ts, Γ', []) → Γ' = Γ) :=
  fun d =>
    ⟨fun e ret exp Γ T Γ' hs h => ((typed_of_accepted P d).1 e ret exp Γ T Γ' hs h).2,
     fun es ret exp g G T Γ' hs h => ((typed_of_accepted P d).2.1 es ret exp _ T Γ' hs h).tail g G rfl,
     fun es ret exp Γ Ts Γ' hs h => ((typed_of_accepted P d).2.2.1 es ret exp Γ Ts Γ' hs h).2,
     fun cs ret mode Ts0 Γ Ts Γ' hs h => ((typed_of_accepted P d).2.2.2 cs ret mode Ts0 Γ Ts Γ' hs h).2⟩

section typed
variable {P : Program} {ret : Ty}

theorem isTuple_of_scrut {T1 : Ty} {cs : List Case}
    (h : (!(scrutIsEnum T1) && (allUnderscore cs || T1.isTuple)) = false) : T1.isTuple = false := by
  cases T1 <;> simp [Ty.isTuple, scrutIsEnum] at h ⊢

theorem Typed.gi {j : Judg} (h : Typed P ret j) :
    match j with
    | .expr exp Γ _ T | .block exp Γ _ T _ => exp = none → GoodEnv Γ → gi T = true
    | .stmt exp Γ _ T Γ' => GoodEnv Γ → (exp = none → gi T = true) ∧ GoodEnv Γ'
    | .items exp Γ _ Ts => exp = none → GoodEnv Γ → ∀ t ∈ Ts, gi t = true
    | .cases mode Ts0 Γ _ Ts => mode = none → GoodEnv Γ → gi Ts0 = true → Ts0.isTuple = false →
        ∀ t ∈ Ts, gi t = true := by
  induction h with
  | int => exact fun _ _ => gi_tInt
  | str => exact fun _ _ => gi_tStr
  | loc hl => exact fun _ hΓ => lookupB_gi _ _ _ hΓ hl
  | glob _ _ _ hg => exact fun _ _ => hg
  | paren _ _ ih => exact fun _ hΓ => ih rfl hΓ
  | binop => exact fun _ _ => gi_opRes _
  | assign | update | ifNoElse | whileE | forE | nil => exact fun _ _ => gi_tUnit
  | ret | retUnit | brk | cont => exact fun _ _ => gi_noValue
  | ifInfer _ _ _ hU _ ih2 ih3 =>
    exact fun _ hΓ => unify_gi _ _ _ hU (ih2 rfl (GoodEnv_push _ hΓ)) (ih3 rfl (GoodEnv_push _ hΓ))
  | ifCheck => exact nofun
  | matchE _ _ hne _ hX _ ihs ihc =>
    rintro rfl hΓ
    exact unifyAll_gi _ _ (hX rfl) (ihc rfl hΓ (ihs rfl hΓ) (isTuple_of_scrut hne))
  | listCheck ha => rintro rfl; cases ha
  | listInfer _ _ hU _ ih =>
    intro _ hΓ
    simp only [tList, Check.gi, beq_self_eq_true, Bool.true_or, Bool.true_and]
    exact unifyAll_gi _ _ hU (ih rfl hΓ)
  | tuple _ _ ih => exact fun _ hΓ => giL_of_forall _ (ih rfl hΓ)
  | call _ hc _ ih => exact fun _ hΓ => callTy_gi P _ _ _ _ _ hc hΓ (ih rfl hΓ)
  | letHint => exact fun hΓ => ⟨fun _ => gi_tUnit, GoodEnv_setB _ _ _ hΓ (Hint.toTy_gi _)⟩
  | letE _ _ ih => exact fun hΓ => ⟨fun _ => gi_tUnit, GoodEnv_setB _ _ _ hΓ (ih rfl hΓ)⟩
  | exprS _ ih => exact fun hΓ => ⟨fun he => ih he hΓ, hΓ⟩
  | one _ ih => exact fun he hΓ => (ih hΓ).1 he
  | cons _ _ ih1 ih2 => exact fun he hΓ => ih2 he (ih1 hΓ).2
  | inil | cnil => intros; exact nofun
  | icons _ _ ih1 ih2 =>
    intro he hΓ t ht
    rcases List.mem_cons.mp ht with rfl | ht
    · exact ih1 he hΓ
    · exact ih2 he hΓ t ht
  | @ccons _ Ts0 _ v payload _ _ _ _ _ _ hpat hvp _ ihb ihr =>
    intro he hΓ hg hnt t ht
    have gp : payload.isSome = true → Check.gi (payloadTy Ts0 v) = true := by
      intro hsome
      rw [hsome] at hpat
      exact payloadTy_gi P Ts0 v hg hnt (by cases payload <;> simp_all) hpat
    rcases List.mem_cons.mp ht with rfl | ht
    · exact ihb he (GoodEnv_push _ (GoodEnv_caseEnv _ Ts0 v payload hΓ gp))
    · exact ihr he hΓ hg hnt t ht

end typed

/-- The types the checker INFERS (no expected type) on the fragment are well-formed fragment types
without `Any` / `Error`, provided no diagnostic was produced. -/
theorem tc_gi (P : Program) : ∀ d,
    (∀ e ret Γ T Γ', okE P d e = true → tcExpr P ret none Γ e = (T, Γ', []) → GoodEnv Γ → gi T = true) ∧
    (∀ es ret Γ T Γ', okL P d es = true → tcSeq P ret none Γ es = (T, Γ', []) → GoodEnv Γ → gi T = true) ∧
    (∀ es ret Γ Ts Γ', okA P d es = true → tcItems P ret none Γ es = (Ts, Γ', []) → GoodEnv Γ →
      ∀ t ∈ Ts, gi t = true) ∧
    (∀ cs ret Ts0 Γ Ts Γ', okC P d cs = true → tcCases P ret none Ts0 Γ cs = (Ts, Γ', []) → GoodEnv Γ →
      gi Ts0 = true → Ts0.isTuple = false → ∀ t ∈ Ts, gi t = true) :=
  fun d =>
    ⟨fun e ret Γ T Γ' hs h => ((typed_of_accepted P d).1 e ret none Γ T Γ' hs h).1.gi rfl,
     fun es ret Γ T Γ' hs h => ((typed_of_accepted P d).2.1 es ret none Γ T Γ' hs h).gi rfl,
     fun es ret Γ Ts Γ' hs h => ((typed_of_accepted P d).2.2.1 es ret none Γ Ts Γ' hs h).1.gi rfl,
     fun cs ret Ts0 Γ Ts Γ' hs h => ((typed_of_accepted P d).2.2.2 cs ret none Ts0 Γ Ts Γ' hs h).1.gi rfl⟩

def resTy (exp : Option Ty) (T : Ty) : Ty :=
  match exp with
  | none => T
  | some E => E

/-- Outcomes allowed for an expression of static type `T` checked in `Γ` (bindings `Γ'`
afterwards), inside a function with return type `ret`; `il` = inside a loop. A `break` / `continue`
carries an environment typed by SOME bindings that agree with `Γ` below the innermost scope: that
scope may have gained `let`s before the jump, and the loop pops it anyway. -/
def R (ret T : Ty) (Γ Γ' : Blocks Ty) (il : Bool) : Res → Prop
  | .val v ρ' => hasTy v T = true ∧ envOK Γ' ρ'
  | .ret v => hasTy v ret = true
  | .brk ρ' => il = true ∧ ∃ Γb, envOK Γb ρ' ∧ Γb.tail = Γ.tail
  | .cont ρ' => il = true ∧ ∃ Γb, envOK Γb ρ' ∧ Γb.tail = Γ.tail
  | .err e => e.isTypeError = false
  | .timeout => True

def RI (ret : Ty) (exp : Option Ty) (Ts : List Ty) (Γ : Blocks Ty) (il : Bool) : ItemsRes → Prop
  | .vals vs ρ' => (match exp with
      | none => hasTyZip vs Ts = true
      | some a => hasTyAll vs a = true) ∧ envOK Γ ρ'
  | .ret v => hasTy v ret = true
  | .brk ρ' => il = true ∧ ∃ Γb, envOK Γb ρ' ∧ Γb.tail = Γ.tail
  | .cont ρ' => il = true ∧ ∃ Γb, envOK Γb ρ' ∧ Γb.tail = Γ.tail
  | .err e => e.isTypeError = false
  | .timeout => True

theorem R_pass (ret T T2 : Ty) (Γ Γ0 Γ1 Γ2 : Blocks Ty) (il : Bool) (r : Res)
    (h : R ret T Γ0 Γ1 il r) (hΓ : Γ0.tail = Γ.tail) (hv : ∀ v ρ, r ≠ .val v ρ) : R ret T2 Γ Γ2 il r := by
  cases r <;> simp [R] at h ⊢
  case val v ρ => exact absurd rfl (hv v ρ)
  case brk ρ => exact ⟨h.1, by obtain ⟨Γb, h1, h2⟩ := h.2; exact ⟨Γb, h1, h2.trans hΓ⟩⟩
  case cont ρ => exact ⟨h.1, by obtain ⟨Γb, h1, h2⟩ := h.2; exact ⟨Γb, h1, h2.trans hΓ⟩⟩
  all_goals exact h

-- The `.vals` arm only makes the `match` total (`R` of `.timeout` is `True`).
set_option linter.unusedVariables false in
theorem RI_pass (ret T2 : Ty) (exp : Option Ty) (Ts : List Ty) (Γ Γ2 : Blocks Ty) (il : Bool) (r : ItemsRes)
    (h : RI ret exp Ts Γ il r) (hv : ∀ vs ρ, r ≠ .vals vs ρ) :
    R ret T2 Γ Γ2 il (match r with
      | .vals vs ρ1 => .timeout
      | .ret v => .ret v | .brk ρ1 => .brk ρ1 | .cont ρ1 => .cont ρ1 | .err er => .err er | .timeout => .timeout) := by
  cases r <;> simp [RI, R] at h ⊢
  all_goals exact h

theorem R_leave (ret T : Ty) (g : List (String × Ty)) (Γ Γ2 : Blocks Ty) (il keep : Bool) (r : Res)
    (h : R ret T (g :: Γ) Γ2 il r) (hΓ : Γ2.tail = Γ) :
    R ret (if keep then T else tUnit) Γ Γ il (leaveBlock keep r) := by
  cases r with
  | val v ρ =>
    refine ⟨?_, by rw [← hΓ]; exact envOK_tail _ _ h.2⟩
    cases keep
    · exact hasTy_unit
    · exact h.1
  | brk ρ =>
    obtain ⟨h0, Γb, h1, h2⟩ := h
    exact ⟨h0, Γ, (show Γb.tail = Γ from h2) ▸ envOK_tail _ _ h1, rfl⟩
  | cont ρ =>
    obtain ⟨h0, Γb, h1, h2⟩ := h
    exact ⟨h0, Γ, (show Γb.tail = Γ from h2) ▸ envOK_tail _ _ h1, rfl⟩
  | _ => exact h

theorem hasTyAll_of_zip (U : Ty) : ∀ (vs : List Val) (Ts : List Ty), hasTyZip vs Ts = true →
    (∀ t ∈ Ts, ∀ v, hasTy v t = true → hasTy v U = true) → hasTyAll vs U = true
  | [], Ts, h, hU => by simp [hasTyAll]
  | v :: vs, Ts, h, hU => by
    cases Ts with
    | nil => simp [hasTyZip] at h
    | cons t Ts =>
      simp [hasTyZip] at h
      simp [hasTyAll, hU t (by simp) v h.1]
      exact hasTyAll_of_zip U vs Ts h.2 (fun t' ht' => hU t' (by simp [ht']))

theorem hasTyZip_length : ∀ (vs : List Val) (Ts : List Ty), hasTyZip vs Ts = true → vs.length = Ts.length
  | [], Ts, h => by cases Ts <;> simp [hasTyZip] at h ⊢
  | v :: vs, Ts, h => by
    cases Ts with
    | nil => simp [hasTyZip] at h
    | cons t Ts => simp [hasTyZip] at h; simp [hasTyZip_length vs Ts h.2]

theorem hasTyZip_single {vs : List Val} {a : Ty} (h : hasTyZip vs [a] = true) :
    ∃ v, vs = [v] ∧ hasTy v a = true := by
  match vs, h with
  | [v], h => exact ⟨v, rfl, by simpa [hasTyZip] using h⟩
  | [], h => simp [hasTyZip] at h
  | _ :: _ :: _, h => simp [hasTyZip] at h

/-- The argument tests of `infer_call` give values of the parameter types. -/
theorem args_sub : ∀ (ps : List Ty) (vs : List Val) (tys : List Ty), hasTyZip vs tys = true →
    ps.length = tys.length → goodL ps = true →
    (List.zip ps tys).filterMap (fun pa => if Ty.sub pa.2 pa.1 then none else some Diag.mismatch) = [] →
    hasTyZip vs ps = true
  | [], vs, tys, hz, hl, hg, hd => by
    cases tys <;> simp at hl
    cases vs <;> simp [hasTyZip] at hz ⊢
  | p :: ps, vs, tys, hz, hl, hg, hd => by
    cases tys with
    | nil => simp at hl
    | cons t tys =>
      cases vs with
      | nil => simp [hasTyZip] at hz
      | cons v vs =>
        simp [hasTyZip] at hz
        simp [goodL] at hg
        rw [List.zip_cons_cons, List.filterMap_cons] at hd
        by_cases hs : Ty.sub t p = true
        · simp only [hs, if_true] at hd
          simp [hasTyZip]
          exact ⟨hasTy_sub v t p hz.1 hs hg.1, args_sub ps vs tys hz.2 (by simpa using hl) hg.2 hd⟩
        · simp [hs] at hd

theorem paramsOk_of : ∀ (ps : List (String × Hint)) (vs : List Val),
    hasTyZip vs (ps.map (fun p => p.2.toTy)) = true → paramsOk ps vs = true
  | [], vs, h => by simp [paramsOk]
  | p :: ps, vs, h => by
    cases vs with
    | nil => simp [hasTyZip] at h
    | cons v vs =>
      simp [hasTyZip] at h
      simp [paramsOk, hasTy_sub_typeOf v _ h.1, paramsOk_of ps vs h.2]

theorem bind_ok : ∀ (ps : List (String × Hint)) (vs : List Val) (accT : List (String × Ty))
    (accV : List (String × Val)), hasTyZip vs (ps.map (fun p => p.2.toTy)) = true → blockOK accT accV →
    blockOK (ps.foldl (fun b p => setBlock b p.1 p.2.toTy) accT) (bindParams ps vs accV)
  | [], vs, accT, accV, h, hb => by
    cases vs <;> simp [hasTyZip] at h
    simp [bindParams, hb]
  | p :: ps, vs, accT, accV, h, hb => by
    cases vs with
    | nil => simp [hasTyZip] at h
    | cons v vs =>
      simp [hasTyZip] at h
      simp only [List.foldl_cons, bindParams]
      exact bind_ok ps vs _ _ h.2 (setBlock_ok accT accV p.1 p.2.toTy v hb h.1)

theorem foldl_setBlock_gi : ∀ (ps : List (String × Hint)) (acc : List (String × Ty)),
    (∀ q ∈ acc, gi q.2 = true) →
    ∀ q ∈ ps.foldl (fun b p => setBlock b p.1 p.2.toTy) acc, gi q.2 = true
  | [], acc, h => by simpa using h
  | p :: ps, acc, h => by
    simp only [List.foldl_cons]
    exact foldl_setBlock_gi ps _ (setBlock_gi acc p.1 p.2.toTy h (Hint.toTy_gi _))

theorem paramTys_goodL : ∀ ps : List (String × Hint), goodL (ps.map (fun p => p.2.toTy)) = true
  | [] => by simp [goodL]
  | p :: ps => by simp [goodL, Hint.toTy_good, paramTys_goodL ps]

theorem R_mono (ret T T' : Ty) (Γ Γ' : Blocks Ty) (il : Bool) (r : Res)
    (h : R ret T Γ Γ' il r) (hT : ∀ v, hasTy v T = true → hasTy v T' = true) : R ret T' Γ Γ' il r := by
  cases r <;> simp [R] at h ⊢ <;> first | exact ⟨hT _ h.1, h.2⟩ | exact h

theorem R_sub {ret T : Ty} {Γ Γ' : Blocks Ty} {il : Bool} {r : Res} {exp : Option Ty}
    (h : R ret T Γ Γ' il r) (hx : SubExp T exp) (hexp : ∀ E, exp = some E → good E = true) :
    R ret (resTy exp T) Γ Γ' il r := by
  cases exp with
  | none => exact h
  | some E => exact R_mono _ _ _ _ _ _ _ h (fun v hv => hasTy_sub v _ E hv (hx E rfl) (hexp E rfl))

theorem good_tInt : good tInt = true := gi_good _ gi_tInt
theorem good_tBool : good tBool = true := gi_good _ gi_tBool
theorem good_tStr : good tStr = true := gi_good _ gi_tStr

theorem R_reΓ (ret T : Ty) (Γ Γ1 Γ' : Blocks Ty) (il : Bool) (r : Res)
    (h : R ret T Γ1 Γ' il r) (hΓ : Γ1.tail = Γ.tail) : R ret T Γ Γ' il r := by
  cases r with
  | val v ρ => exact h
  | _ => exact R_pass ret T T Γ Γ1 Γ' Γ' il _ h hΓ (fun _ _ => nofun)

theorem listExpected_some (exp : Option Ty) (a : Ty) (h : listExpected exp = some a) :
    exp = some (.user .struct "List" [a]) := by
  unfold listExpected at h
  split at h
  · rename_i n a'
    split at h
    · rename_i hn
      simp at h hn
      subst h; subst hn; rfl
    · simp at h
  · simp at h

theorem list_inv (v : Val) (Te : Ty) (hg : gi Te = true) (hs : Ty.sub Te (tList .any) = true)
    (hv : hasTy v Te = true) :
    ∃ items, v = .list items ∧ hasTyAll items (forElemTy Te) = true ∧ gi (forElemTy Te) = true := by
  cases Te <;> (try simp [gi] at hg)
  case tuple ts =>
    rcases Ty.sub_tuple_left ts _ hs with h | h | ⟨bs, h, _⟩ <;> simp [tList] at h
  case user k n args =>
    by_cases hn : n = "NoValue"
    · subst hn
      have := hasTy_noValue v (.user k "NoValue" args) (by simp [Ty.isNoValue])
      simp [this] at hv
    · have hsub := Ty.sub_user_left k n args (tList .any) hn hs
      simp [tList] at hsub
      obtain ⟨k2, bs, ⟨_, hnl, _⟩, _⟩ := hsub
      subst hnl
      cases args with
      | nil => simp [gi, goodName0] at hg
      | cons a rest =>
        cases rest with
        | nil =>
          simp [gi] at hg
          cases v <;> simp [hasTy, isNamed] at hv
          rename_i items
          exact ⟨items, rfl, by simpa [forElemTy] using hv, by simpa [forElemTy] using hg⟩
        | cons b rest => simp [gi] at hg

def keyName (key : String × Nat × Option Val) : String :=
  if key.1 == "Option" then (if key.2.1 == 0 then "Some" else "None")
  else if key.1 == "Bool" then (if key.2.1 == 0 then "True" else "False")
  else "Unit"

def ScrutOK (sv : Val) (Ts : Ty) : Prop :=
  match sv with
  | .bool _ => ∃ k, Ts = .user k "Bool" []
  | .unit => ∃ k, Ts = .user k "Unit" []
  | .none => ∃ k a, Ts = .user k "Option" [a]
  | .some pv => ∃ k a, Ts = .user k "Option" [a] ∧ hasTy pv a = true ∧ gi a = true
  | _ => False

theorem scrut_cases (sv : Val) (Ts : Ty) (hv : hasTy sv Ts = true) (hg : gi Ts = true)
    (hnt : Ts.isTuple = false) :
    ScrutOK sv Ts ∨ ∃ k n args, Ts = .user k n args ∧ enumVariants n = none := by
  cases Ts <;> (try simp [gi] at hg) <;> (try simp [Ty.isTuple] at hnt)
  rename_i k n args
  cases args with
  | nil =>
    simp [gi, goodName0] at hg
    cases sv <;> simp [hasTy, isNamed] at hv
    all_goals (subst hv)
    · exact Or.inr ⟨k, _, _, rfl, by simp [enumVariants]⟩
    · exact Or.inr ⟨k, _, _, rfl, by simp [enumVariants]⟩
    · exact Or.inl ⟨k, rfl⟩
    · exact Or.inl ⟨k, rfl⟩
    · simp at hg
  | cons a rest =>
    cases rest with
    | nil =>
      simp [gi] at hg
      cases sv <;> simp [hasTy, isNamed] at hv
      · subst hv; simp at hg
      · subst hv; simp at hg
      · subst hv; simp at hg
      · subst hv; simp at hg
      · subst hv; exact Or.inl ⟨k, a, rfl⟩
      · obtain ⟨h1, h2⟩ := hv; subst h1; exact Or.inl ⟨k, a, rfl, h2, hg.2⟩
      · obtain ⟨h1, h2⟩ := hv; subst h1; exact Or.inr ⟨k, _, _, rfl, by simp [enumVariants]⟩
    | cons b rest => simp [gi] at hg

theorem exhaustLoop_covers : ∀ (names : List String) (rem : List String) (d : List Diag) (rem' : List String)
    (u' : Bool), exhaustLoop rem false names = (d, rem', u') → (u' = true ∨ rem' = []) →
    ∀ w ∈ rem, w ∈ names ∨ "_" ∈ names
  | [], rem, d, rem', u', h, hu, w, hw => by
    simp [exhaustLoop] at h
    obtain ⟨_, h2, h3⟩ := h
    subst h2; subst h3
    simp at hu
    subst hu
    simp at hw
  | v :: rest, rem, d, rem', u', h, hu, w, hw => by
    simp only [exhaustLoop] at h
    simp at h
    by_cases hv : v = "_"
    · subst hv; simp
    · simp [hv] at h
      by_cases hc : v ∈ rem
      · simp [hc] at h
        by_cases hwv : w = v
        · subst hwv; simp
        · have hw' : w ∈ rem.filter (fun x => x != v) := by simp [hw, hwv]
          rcases exhaustLoop_covers rest _ d rem' u' h hu w hw' with h1 | h1
          · exact Or.inl (by simp [h1])
          · exact Or.inr (by simp [h1])
      · simp [hc] at h
        obtain ⟨d0, rem0, u0, h0⟩ := triple_exists (exhaustLoop rem false rest)
        rw [h0] at h
        simp at h
        obtain ⟨_, h2, h3⟩ := h
        subst h2; subst h3
        rcases exhaustLoop_covers rest rem d0 rem0 u0 h0 hu w hw with h1 | h1
        · exact Or.inl (by simp [h1])
        · exact Or.inr (by simp [h1])

theorem exhaustive_covers (sn : String) (names : List String) (variants : List (String × Bool))
    (hv : enumVariants sn = some variants) (h : exhaustive sn names = []) :
    ∀ w ∈ variants.map (·.1), w ∈ names ∨ "_" ∈ names := by
  unfold exhaustive at h
  rw [hv] at h
  simp only at h
  split at h
  · rename_i he
    simp at he
    subst he
    simp
  · obtain ⟨d0, rem0, u0, h0⟩ := triple_exists (exhaustLoop (variants.map (·.1)) false names)
    rw [h0] at h
    simp only at h
    apply exhaustLoop_covers names _ d0 rem0 u0 h0
    cases u0 with
    | true => exact Or.inl rfl
    | false =>
      simp at h
      split at h
      · rename_i hr; exact Or.inr hr
      · simp at h

theorem caseNames_mem : ∀ (cs : List Case) (w : String), w ∈ caseNames cs →
    ∃ p b, Case.mk w p b ∈ cs
  | [], w, h => by simp [caseNames] at h
  | .mk v p b :: rest, w, h => by
    simp [caseNames] at h
    rcases h with rfl | h
    · exact ⟨p, b, by simp⟩
    · obtain ⟨p', b', hm⟩ := caseNames_mem rest w h
      exact ⟨p', b', by simp [hm]⟩

theorem pat_nonenum (P : Program) (n v : String) (hp : Bool) (hn : enumVariants n = none)
    (h : patternDiags P (some n) v hp = []) : v = "_" := by
  by_cases hv : v = "_"
  · exact hv
  · obtain ⟨en, hm, hsn⟩ := patternDiags_nil P _ v hp hv h
    rcases hsn n rfl with rfl | rfl
    · simp [enumVariants] at hn
    · simp [variants] at hm
      rcases hm with ⟨_, rfl, _⟩ | ⟨_, rfl, _⟩ | ⟨_, rfl, _⟩ | ⟨_, rfl, _⟩ | ⟨_, rfl, _⟩ |
        ⟨_, rfl, _⟩ | ⟨_, rfl, _⟩ <;> simp [enumVariants] at hn

theorem Typed.nonenum {P : Program} {ret : Ty} {j : Judg} (h : Typed P ret j) :
    match j with
    | .cases _ Ts0 _ cs _ => ∀ n, tyName Ts0 = some n → enumVariants n = none → allUnderscore cs = true
    | _ => True := by
  induction h with
  | cnil => exact fun _ _ _ => rfl
  | ccons _ hp _ _ _ ih =>
    intro n hn he
    rw [hn] at hp
    simp [allUnderscore, pat_nonenum P n _ _ he hp, ih n hn he]
  | _ => trivial

theorem pat_variant (P : Program) (sn v : String) (hp : Bool) (hv : v ≠ "_") (hsn : sn ≠ "NoValue")
    (h : patternDiags P (some sn) v hp = []) : (v, some (sn, hp)) ∈ variants := by
  obtain ⟨en, hm, hen⟩ := patternDiags_nil P _ v hp hv h
  rcases hen sn rfl with h | rfl
  · exact absurd h hsn
  · exact hm

theorem ldL_cons (il : Bool) (e : TExpr) (rest : List TExpr) :
    loopDiagsL il (e :: rest) = [] ↔ loopDiags il e = [] ∧ loopDiagsL il rest = [] := by
  simp [loopDiagsL]

def RC (ret : Ty) (mode : Option Ty) (Ts : List Ty) (Γ : Blocks Ty) (il : Bool) (r : Res) : Prop :=
  ∃ t ∈ Ts, R ret (resTy mode t) Γ Γ il r

theorem matchMode_some (exp : Option Ty) (E : Ty) (h : matchMode exp = some E) : exp = some E := by
  unfold matchMode at h
  split at h <;> simp at h
  subst h; rfl

theorem scrut_key (sv : Val) (Ts : Ty) (h : ScrutOK sv Ts) :
    ∃ key, valKey sv = some key ∧ ∃ sn variants, tyName Ts = some sn ∧ enumVariants sn = some variants ∧
      keyName key ∈ variants.map (·.1) := by
  cases sv <;> simp [ScrutOK] at h
  case bool b =>
    obtain ⟨k, rfl⟩ := h
    refine ⟨_, rfl, "Bool", [("True", false), ("False", false)], rfl, by simp [enumVariants], ?_⟩
    cases b <;> simp [keyName]
  case unit =>
    obtain ⟨k, rfl⟩ := h
    exact ⟨_, rfl, "Unit", [("Unit", false)], rfl, by simp [enumVariants], by simp [keyName]⟩
  case none =>
    obtain ⟨k, a, rfl⟩ := h
    exact ⟨_, rfl, "Option", [("Some", true), ("None", false)], rfl, by simp [enumVariants], by simp [keyName]⟩
  case some pv =>
    obtain ⟨k, a, rfl, _, _⟩ := h
    exact ⟨_, rfl, "Option", [("Some", true), ("None", false)], rfl, by simp [enumVariants], by simp [keyName]⟩

theorem pat_key (P : Program) (sv : Val) (Ts : Ty) (key : String × Nat × Option Val) (v : String) (hp : Bool)
    (hs : ScrutOK sv Ts) (hk : valKey sv = some key) (hv : v ≠ "_")
    (hd : patternDiags P (tyName Ts) v hp = []) :
    ∃ idx, patKey v = some (key.1, idx) ∧ (idx = key.2.1 ↔ v = keyName key) ∧
      (v = keyName key → (hp = true ↔ key.2.2.isSome = true)) ∧
      (∀ pv, key.2.2 = some pv → v = keyName key →
        hasTy pv (payloadTy Ts v) = true ∧ gi (payloadTy Ts v) = true) := by
  cases sv <;> simp [ScrutOK] at hs
  case bool b =>
    obtain ⟨k, rfl⟩ := hs
    simp [valKey] at hk
    subst hk
    have hm := pat_variant P "Bool" v hp hv (by decide) hd
    simp [variants] at hm
    rcases hm with ⟨rfl, rfl⟩ | ⟨rfl, rfl⟩ <;> cases b <;> simp [patKey, keyName]
  case unit =>
    obtain ⟨k, rfl⟩ := hs
    simp [valKey] at hk
    subst hk
    have hm := pat_variant P "Unit" v hp hv (by decide) hd
    simp [variants] at hm
    obtain ⟨rfl, rfl⟩ := hm
    simp [patKey, keyName]
  case none =>
    obtain ⟨k, a, rfl⟩ := hs
    simp [valKey] at hk
    subst hk
    have hm := pat_variant P "Option" v hp hv (by decide) hd
    simp [variants] at hm
    rcases hm with ⟨rfl, rfl⟩ | ⟨rfl, rfl⟩ <;> simp [patKey, keyName]
  case some pv =>
    obtain ⟨k, a, rfl, hpv, ga⟩ := hs
    simp [valKey] at hk
    subst hk
    have hm := pat_variant P "Option" v hp hv (by decide) hd
    simp [variants] at hm
    rcases hm with ⟨rfl, rfl⟩ | ⟨rfl, rfl⟩ <;>
      simp [patKey, keyName, payloadTy, Ty.isNoValue, enumVariants, hpv, ga]

theorem hexp_none : ∀ E, (none : Option Ty) = some E → good E = true := nofun

theorem hexp_some {A : Ty} (g : good A = true) : ∀ E, some A = some E → good E = true := by
  intro E h; cases h; exact g

theorem R_bind {ret T1 T2 : Ty} {Γ Γ1 Γ2 : Blocks Ty} {il : Bool} {r : Res} {k : Val → Blocks Val → Res} :
    R ret T1 Γ Γ1 il r → (∀ v ρ1, hasTy v T1 = true → envOK Γ1 ρ1 → R ret T2 Γ Γ2 il (k v ρ1)) →
    R ret T2 Γ Γ2 il (match r with | .val v ρ1 => k v ρ1 | other => other) := by
  intro h hk
  cases r with
  | val v ρ1 => exact hk v ρ1 h.1 h.2
  | _ => exact R_pass ret T1 T2 Γ Γ Γ1 Γ2 il _ h rfl (fun _ _ => nofun)

theorem RI_bind {ret T2 : Ty} {exp : Option Ty} {Ts : List Ty} {Γ Γ2 : Blocks Ty} {il : Bool}
    {r : ItemsRes} {k : List Val → Blocks Val → Res} :
    RI ret exp Ts Γ il r →
    (∀ vs ρ1, (match exp with | none => hasTyZip vs Ts = true | some a => hasTyAll vs a = true) →
      envOK Γ ρ1 → R ret T2 Γ Γ2 il (k vs ρ1)) →
    R ret T2 Γ Γ2 il (match r with
      | .vals vs ρ1 => k vs ρ1
      | .ret v => .ret v | .brk ρ1 => .brk ρ1 | .cont ρ1 => .cont ρ1 | .err er => .err er | .timeout => .timeout) := by
  intro h hk
  cases r with
  | vals vs ρ1 => exact hk vs ρ1 h.1 h.2
  | _ => exact RI_pass ret T2 exp Ts Γ Γ2 il _ h (fun _ _ => nofun)

theorem binop_R (P : Program) (n : Nat) (ρ : Blocks Val) (l r : TExpr) (op : BinOp)
    (ret opnd res : Ty) (Γ : Blocks Ty) (il : Bool)
    (ihl : R ret opnd Γ Γ il (eval P n ρ l))
    (ihr : ∀ ρ1, envOK Γ ρ1 → R ret opnd Γ Γ il (eval P n ρ1 r))
    (hop : ∀ lv rv, hasTy lv opnd = true → hasTy rv opnd = true →
      (∀ v, binopVal op lv rv = .ok v → hasTy v res = true) ∧
      (∀ e, binopVal op lv rv = .error e → e.isTypeError = false)) :
    R ret res Γ Γ il (eval P (n + 1) ρ (.binop op l r)) := by
  simp only [eval]
  refine R_bind ihl fun lv ρ1 hl h1 => R_bind (ihr ρ1 h1) fun rv ρ2 hr h2 => ?_
  cases hb : binopVal op lv rv with
  | ok v => exact ⟨(hop lv rv hl hr).1 v hb, h2⟩
  | error er => exact (hop lv rv hl hr).2 er hb

/-- `k`: re-entering the loop; `pop`: popping the body's scopes; `Γ0`: the bindings the body was checked in, below
its own scope. -/
theorem R_loop {ret Tb : Ty} {Γ0 Γb Γ : Blocks Ty} {il : Bool} {r : Res} {k : Blocks Val → Res}
    (pop : Blocks Val → Blocks Val) :
    R ret Tb ([] :: Γ0) Γb true r → Γb.tail = Γ0 →
    (∀ Γx ρ, envOK Γx ρ → Γx.tail = Γ0 → envOK Γ (pop ρ)) →
    (∀ ρ, envOK Γ ρ → R ret tUnit Γ Γ il (k ρ)) →
    R ret tUnit Γ Γ il (match r with
      | .val _ ρ2 => k (pop ρ2)
      | .cont ρ2 => k (pop ρ2)
      | .brk ρ2 => .val .unit (pop ρ2)
      | other => other) := by
  intro h hΓb hpop hk
  cases r with
  | val v ρ2 => exact hk _ (hpop Γb ρ2 h.2 hΓb)
  | cont ρ2 => obtain ⟨_, Γx, h1, h2⟩ := h; exact hk _ (hpop Γx ρ2 h1 h2)
  | brk ρ2 => obtain ⟨_, Γx, h1, h2⟩ := h; exact ⟨hasTy_unit, hpop Γx ρ2 h1 h2⟩
  | _ => exact h

theorem R_if {P : Program} {n : Nat} {ret T1 Tr : Ty} {Γ : Blocks Ty} {il : Bool} {ρ : Blocks Val}
    {c : TExpr} {thn els : List TExpr} {hasElse : Bool}
    (hc : R ret (resTy (some tBool) T1) Γ Γ il (eval P n ρ c))
    (hthen : ∀ ρ1, envOK Γ ρ1 → R ret Tr Γ Γ il (leaveBlock hasElse (evalSeq P n ([] :: ρ1) thn)))
    (helse : ∀ ρ1, envOK Γ ρ1 → R ret Tr Γ Γ il
      (if hasElse then leaveBlock true (evalSeq P n ([] :: ρ1) els) else .val .unit ρ1)) :
    R ret Tr Γ Γ il (eval P (n + 1) ρ (.ifE c thn hasElse els)) := by
  simp only [eval]
  cases hev : eval P n ρ c with
  | val v ρ1 =>
    rw [hev] at hc
    obtain ⟨b, rfl⟩ := canon_bool v hc.1
    cases b with
    | true => exact hthen ρ1 hc.2
    | false => exact helse ρ1 hc.2
  | _ => rw [hev] at hc; exact R_pass ret _ Tr Γ Γ Γ Γ il _ hc rfl (fun _ _ => nofun)

def ProgOK (P : Program) (D : Nat) : Prop :=
  ∀ f ∈ P.funs, okL P D f.body = true ∧
    (tcSeq P f.ret.toTy (some f.ret.toTy) ([] :: [paramBlock f, []]) f.body).2.2 = [] ∧
    loopDiagsL false f.body = []

/-- The image of `ProgOK` under `typed_of_accepted` (`progTyped_of_ok`). -/
def ProgTyped (P : Program) : Prop :=
  ∀ f ∈ P.funs, (∃ Tb Γb, Typed P f.ret.toTy (.block (some f.ret.toTy) ([] :: [paramBlock f, []]) f.body Tb Γb)) ∧
    loopDiagsL false f.body = []

theorem stmt_of_accepted {P : Program} {d : Nat} {e : TExpr} {ret : Ty} {exp : Option Ty} {Γ Γ' : Blocks Ty}
    {T : Ty} (hs : okS P d e = true) (h : tcExpr P ret exp Γ e = (T, Γ', [])) : Typed P ret (.stmt exp Γ e T Γ') :=
  stmt_typed (typed_of_accepted P d).1 hs h

theorem progTyped_of_ok {P : Program} {D : Nat} (hP : ProgOK P D) : ProgTyped P := by
  intro f hf
  obtain ⟨hok, hchk, hloop⟩ := hP f hf
  obtain ⟨Tb, Γb, db, hb⟩ := triple_exists
    (tcSeq P f.ret.toTy (some f.ret.toTy) ([] :: [paramBlock f, []]) f.body)
  rw [hb] at hchk
  obtain rfl : db = [] := hchk
  exact ⟨⟨Tb, Γb, (typed_of_accepted P D).2.1 _ _ _ _ _ _ hok hb⟩, hloop⟩

/-- Soundness of M8 w.r.t. the typed reference semantics (see Props/C16). -/
theorem sound (P : Program) (hP : ProgTyped P) : ∀ n,
    (∀ {ret exp Γ e T}, Typed P ret (.expr exp Γ e T) → ∀ {ρ il}, loopDiags il e = [] →
      (∀ E, exp = some E → good E = true) → good ret = true → envOK Γ ρ → GoodEnv Γ →
      R ret (resTy exp T) Γ Γ il (eval P n ρ e)) ∧
    (∀ {ret exp Γ e T Γ'}, Typed P ret (.stmt exp Γ e T Γ') → ∀ {ρ il}, loopDiags il e = [] →
      (∀ E, exp = some E → good E = true) → good ret = true → envOK Γ ρ → GoodEnv Γ →
      R ret (resTy exp T) Γ Γ' il (eval P n ρ e)) ∧
    (∀ {ret exp Γ es T Γ'}, Typed P ret (.block exp Γ es T Γ') → ∀ {ρ il}, loopDiagsL il es = [] →
      (∀ E, exp = some E → good E = true) → good ret = true → envOK Γ ρ → GoodEnv Γ →
      R ret (resTy exp T) Γ Γ' il (evalSeq P n ρ es)) ∧
    (∀ {ret exp Γ es Ts}, Typed P ret (.items exp Γ es Ts) → ∀ {ρ il}, loopDiagsL il es = [] →
      (∀ E, exp = some E → good E = true) → good ret = true → envOK Γ ρ → GoodEnv Γ →
      RI ret exp Ts Γ il (evalItems P n ρ es)) ∧
    (∀ {f vs ret Γ ρ tys T Γ' il}, callTy P Γ f tys = (T, Γ', []) → hasTyZip vs tys = true →
      envOK Γ ρ → R ret T Γ Γ il (callFn P n ρ f vs)) ∧
    (∀ {ret Γ c body Tc Tb Γb}, Typed P ret (.expr (some tBool) Γ c Tc) → Typed P ret (.block none ([] :: Γ) body Tb Γb) →
      ∀ {ρ il}, loopDiags il c = [] → loopDiagsL true body = [] → good ret = true → envOK Γ ρ → GoodEnv Γ →
      R ret tUnit Γ Γ il (evalWhile P n ρ c body)) ∧
    (∀ {ret Γ x items body a Tb Γb}, Typed P ret (.block none ([] :: setB ([] :: Γ) x a) body Tb Γb) →
      ∀ {ρ il}, loopDiagsL true body = [] → good ret = true → gi a = true → hasTyAll items a = true →
      envOK Γ ρ → GoodEnv Γ → R ret tUnit Γ Γ il (evalFor P n ρ x items body)) ∧
    (∀ {ret mode Ts0 Γ cs Ts}, Typed P ret (.cases mode Ts0 Γ cs Ts) → ∀ {ρ il sv key}, loopDiagsC il cs = [] →
      (∀ E, mode = some E → good E = true) → good ret = true → envOK Γ ρ → GoodEnv Γ →
      ScrutOK sv Ts0 → valKey sv = some key →
      (∃ v p b, Case.mk v p b ∈ cs ∧ (v = "_" ∨ v = keyName key)) →
      RC ret mode Ts Γ il (evalCases P n ρ key cs)) := by
  intro n
  induction n with
  | zero =>
    refine ⟨?_, ?_, ?_, ?_, ?_, ?_, ?_, ?_⟩
    · intros; simp [eval, R]
    · intros; simp [eval, R]
    · intros; simp [evalSeq, R]
    · intros; simp [evalItems, RI]
    · intros; simp [callFn, R]
    · intros; simp [evalWhile, R]
    · intros; simp [evalFor, R]
    · intro ret mode Ts0 Γ cs Ts h ρ il sv key _ _ _ _ _ _ _ hcov
      cases h with
      | cnil => obtain ⟨v, p, b, hm, _⟩ := hcov; cases hm
      | ccons => exact ⟨_, List.mem_cons_self .., trivial⟩
  | succ n ih =>
    obtain ⟨ihE, ihS, ihL, ihA, ihF, ihW, ihFor, ihC⟩ := ih
    have hE : ∀ {ret exp Γ e T}, Typed P ret (.expr exp Γ e T) → ∀ {ρ il}, loopDiags il e = [] →
        (∀ E, exp = some E → good E = true) → good ret = true → envOK Γ ρ → GoodEnv Γ →
        R ret (resTy exp T) Γ Γ il (eval P (n + 1) ρ e) := by
      intro ret exp Γ e T h ρ il hld hexp hret henv hG
      have branch : ∀ {es m T2 Γ2} (keep : Bool), Typed P ret (.block m ([] :: Γ) es T2 Γ2) →
          loopDiagsL il es = [] → (∀ E, m = some E → good E = true) → ∀ ρ1, envOK Γ ρ1 →
          R ret (if keep then resTy m T2 else tUnit) Γ Γ il (leaveBlock keep (evalSeq P n ([] :: ρ1) es)) :=
        fun keep hb hl hm ρ1 henv1 => R_leave ret _ [] Γ _ il keep _
          (ihL hb hl hm hret (envOK_push _ _ henv1) (GoodEnv_push _ hG)) hb.tail_eq
      cases h with
      | int hx =>
        exact R_sub (show R ret tInt Γ Γ il _ from ⟨by simp [hasTy, isNamed, tInt], henv⟩) hx hexp
      | loc hl hx =>
        obtain ⟨v, hv1, hv2⟩ := (lookupB_ok Γ ρ _ henv).1 _ hl
        exact R_sub (by simp [eval, hv1, R, hv2, henv]) hx hexp
      | glob hl hv ht _ hx =>
        exact R_sub (by simp [eval, (lookupB_ok Γ ρ _ henv).2 hl, hv, R, ht, henv]) hx hexp
      | brk =>
        simp [loopDiags] at hld
        exact ⟨hld, Γ, henv, rfl⟩
      | @ifInfer _ c thn els T1 T2 Γ2 T3 Γ3 _ hc ht he hU =>
        simp only [loopDiags, List.append_eq_nil_iff] at hld
        have g2 := Typed.gi ht rfl (GoodEnv_push _ hG)
        have g3 := Typed.gi he rfl (GoodEnv_push _ hG)
        exact R_if (ihE hc hld.1.1 (hexp_some good_tBool) hret henv hG)
          (fun ρ1 h1 => R_mono _ _ _ _ _ _ _ (branch true ht hld.1.2 hexp_none ρ1 h1)
            (fun v hv => (hasTy_unify v T2 T3 T hU g2 g3).1 hv))
          (fun ρ1 h1 => R_mono _ _ _ _ _ _ _ (branch true he hld.2 hexp_none ρ1 h1)
            (fun v hv => (hasTy_unify v T2 T3 T hU g2 g3).2 hv))
      | ifCheck hc ht he =>
        simp only [loopDiags, List.append_eq_nil_iff] at hld
        exact R_if (ihE hc hld.1.1 (hexp_some good_tBool) hret henv hG)
          (branch true ht hld.1.2 hexp) (branch true he hld.2 hexp)
      | ifNoElse hc ht hx =>
        simp only [loopDiags, List.append_eq_nil_iff] at hld
        exact R_sub (R_if (ihE hc hld.1.1 (hexp_some good_tBool) hret henv hG)
          (branch false ht hld.1.2 hexp_none) (fun ρ1 h1 => ⟨hasTy_unit, h1⟩)) hx hexp
      | whileE hc hb hx =>
        simp only [loopDiags, List.append_eq_nil_iff] at hld
        simp only [eval]
        exact R_sub (ihW hc hb hld.1 hld.2 hret henv hG) hx hexp
      | str hx =>
        exact R_sub (show R ret tStr Γ Γ il _ from ⟨by simp [hasTy, isNamed, tStr], henv⟩) hx hexp
      | cont =>
        simp [loopDiags] at hld
        exact ⟨hld, Γ, henv, rfl⟩
      | retUnit hsub => exact hasTy_sub .unit tUnit ret hasTy_unit hsub hret
      | paren h hx =>
        simp only [loopDiags] at hld
        exact R_sub (ihE h hld hexp_none hret henv hG) hx hexp
      | ret h =>
        simp only [loopDiags] at hld
        simp only [eval]
        exact R_bind (ihE h hld (hexp_some hret) hret henv hG) fun v ρ1 hv _ => hv
      | @binop _ _ op l r m T1 T2 h1 h2 hm hx =>
        simp only [loopDiags, List.append_eq_nil_iff] at hld
        have go := opOpnd_good op
        have opnds : (∀ E, m = some E → good E = true) ∧
            (∀ v, hasTy v (resTy m T1) = true → hasTy v (opOpnd op) = true) ∧
            (∀ v, hasTy v (resTy m T2) = true → hasTy v (opOpnd op) = true) := by
          rcases hm with ⟨rfl, s1, s2⟩ | rfl
          · exact ⟨hexp_none, fun v hv => hasTy_sub v T1 _ hv s1 go, fun v hv => hasTy_sub v T2 _ hv s2 go⟩
          · exact ⟨hexp_some go, fun _ h => h, fun _ h => h⟩
        exact R_sub (binop_R P n ρ l r op ret (opOpnd op) (opRes op) Γ il
          (R_mono _ _ _ _ _ _ _ (ihE h1 hld.1 opnds.1 hret henv hG) opnds.2.1)
          (fun ρ1 h => R_mono _ _ _ _ _ _ _ (ihE h2 hld.2 opnds.1 hret h hG) opnds.2.2)
          (hop_all op)) hx hexp
      | @assign _ _ x e T1 T2 hlk h2 hx =>
        simp only [loopDiags] at hld
        have gT1 := gi_good T1 (lookupB_gi Γ x T1 hG hlk)
        simp only [eval]
        refine R_sub (R_bind (ihE h2 hld (hexp_some gT1) hret henv hG) ?_) hx hexp
        intro v ρ1 hv henv1
        obtain ⟨w, hw, _⟩ := (lookupB_ok Γ ρ1 x henv1).1 T1 hlk
        simp only [hw]
        exact ⟨hasTy_unit, assignB_ok Γ ρ1 x T1 v henv1 hlk hv⟩
      | @update _ _ a x e T1 T2 hlk hsubI h2 hx =>
        simp only [loopDiags] at hld
        simp only [eval]
        refine R_sub (R_bind (ihE h2 hld (hexp_some good_tInt) hret henv hG) ?_) hx hexp
        intro v ρ1 hv henv1
        obtain ⟨dv, rfl⟩ := canon_int v hv
        obtain ⟨w, hw, hwt⟩ := (lookupB_ok Γ ρ1 x henv1).1 T1 hlk
        obtain ⟨cur, rfl⟩ := canon_int w (hasTy_sub w T1 tInt hwt hsubI good_tInt)
        simp only [hw]
        exact ⟨hasTy_unit, assignB_ok Γ ρ1 x T1 _ henv1 hlk (by simpa [hasTy] using hwt)⟩
      | tuple h hx =>
        simp only [loopDiags] at hld
        simp only [eval]
        refine R_sub (RI_bind (ihA h hld hexp_none hret henv hG) ?_) hx hexp
        intro vs ρ1 hvs henv1
        exact ⟨by simpa [hasTy] using hvs, henv1⟩
      | @listCheck _ _ es a Ts ha h hx =>
        simp only [loopDiags] at hld
        obtain rfl := listExpected_some exp a ha
        have ga : good a = true := by simpa [good] using hexp _ rfl
        simp only [eval, resTy]
        refine RI_bind (ihA h hld (hexp_some ga) hret henv hG) ?_
        intro vs ρ1 hvs henv1
        exact ⟨by simpa [hasTy] using hvs, henv1⟩
      | @listInfer _ _ es Ts U ha h hU hx =>
        simp only [loopDiags] at hld
        have gT := Typed.gi h rfl hG
        simp only [eval]
        refine R_sub (RI_bind (ihA h hld hexp_none hret henv hG) ?_) hx hexp
        intro vs ρ1 hvs henv1
        have hall := hasTyAll_of_zip U vs Ts hvs
          (fun t ht v hv => (hasTy_unifyAllFrom v Ts Ty.noValue U 0 hU gi_noValue gT).2 t ht hv)
        exact ⟨by simpa [hasTy, tList] using hall, henv1⟩
      | @call _ _ f args Ts T h h2 hx =>
        simp only [loopDiags] at hld
        simp only [eval]
        have hl := lookupB_ok Γ ρ f henv
        have hcond : ((lookupB ρ f).isNone && (globalOf P f).isNone) = false := by
          rcases (callTy_inv h2).2 with ⟨T0, hg, _⟩ | ⟨_, ⟨d, _, hgl, _⟩ | ⟨hgl, _⟩ | ⟨hgl, _⟩ | ⟨hgl, _⟩⟩
          · obtain ⟨v, hv, _⟩ := hl.1 T0 hg; simp [hv]
          all_goals simp [hgl]
        simp only [hcond, Bool.false_eq_true, if_false]
        refine R_sub (RI_bind (ihA h hld hexp_none hret henv hG) ?_) hx hexp
        intro vs ρ1 hvs henv1
        exact ihF h2 hvs henv1
      | @forE _ _ x e body T1 T2 Γ2 h1 hsubL hb hx =>
        simp only [loopDiags, List.append_eq_nil_iff] at hld
        have gT1 := Typed.gi h1 rfl hG
        simp only [eval]
        have ih1 := ihE h1 (ρ := ρ) hld.1 hexp_none hret henv hG
        refine R_sub ?_ hx hexp
        cases hev : eval P n ρ e with
        | val v ρ1 =>
          rw [hev] at ih1
          obtain ⟨items, rfl, hall, ga⟩ := list_inv v T1 gT1 hsubL ih1.1
          exact ihFor hb hld.2 hret ga hall ih1.2 hG
        | _ => rw [hev] at ih1; exact R_pass ret _ tUnit Γ Γ Γ Γ il _ ih1 rfl (fun _ _ => nofun)
      | @matchE _ _ s cs T1 Ts X hs hc hne hex hX hx =>
        simp only [loopDiags, List.append_eq_nil_iff] at hld
        have gT1 := Typed.gi hs rfl hG
        have hnt := isTuple_of_scrut hne
        have hmode : ∀ E, matchMode exp = some E → good E = true :=
          fun E hE => hexp E (matchMode_some exp E hE)
        simp only [eval]
        refine R_bind (T2 := resTy exp T) (ihE hs hld.1 hexp_none hret henv hG) ?_
        intro sv ρ1 hsv henv1
        rcases scrut_cases sv T1 hsv gT1 hnt with hsc | ⟨k, nn, args, rfl, hnn⟩
        · obtain ⟨key, hkey, sn, variants, hsn, hvar, hmem⟩ := scrut_key sv T1 hsc
          have hcov' : ∃ v p b, Case.mk v p b ∈ cs ∧ (v = "_" ∨ v = keyName key) := by
            rcases exhaustive_covers sn (caseNames cs) variants hvar (hex sn hsn) (keyName key) hmem with hc | hc
            · obtain ⟨p, b, hm⟩ := caseNames_mem cs _ hc
              exact ⟨_, p, b, hm, Or.inr rfl⟩
            · obtain ⟨p, b, hm⟩ := caseNames_mem cs _ hc
              exact ⟨_, p, b, hm, Or.inl rfl⟩
          obtain ⟨t, ht, ihc⟩ := ihC hc hld.2 hmode hret henv1 hG hsc hkey hcov'
          simp only [hkey]
          cases hmm : matchMode exp with
          | none =>
            rw [hmm] at ihc hc
            have gTs := Typed.gi hc rfl hG gT1 hnt
            exact R_sub (R_mono _ _ _ _ _ _ _ ihc fun v =>
              (hasTy_unifyAllFrom v Ts Ty.noValue T 0 (hX hmm) gi_noValue gTs).2 t ht) hx hexp
          | some E =>
            rw [hmm] at ihc
            obtain rfl := matchMode_some exp E hmm
            exact ihc
        · -- not an enum: all cases are `_`, and then the checker reported `matchNotEnum`
          have hall := Typed.nonenum hc nn rfl hnn
          simp [scrutIsEnum, hnn, hall] at hne
    refine ⟨hE, ?_, ?_, ?_, ?_, ?_, ?_, ?_⟩
    · intro ret exp Γ e T Γ' h ρ il hld hexp hret henv hG
      cases h with
      | exprS h => exact hE h hld hexp hret henv hG
      | letHint h hx =>
        simp only [loopDiags] at hld
        simp only [eval]
        refine R_sub (R_bind (ihE h hld (hexp_some (Hint.toTy_good _)) hret henv hG) ?_) hx hexp
        intro v ρ1 (hv : hasTy v (Hint.toTy _) = true) henv1
        rw [if_pos (hasTy_sub_typeOf v _ hv)]
        exact ⟨hasTy_unit, setB_ok _ _ _ _ v henv1 hv⟩
      | letE h hx =>
        simp only [loopDiags] at hld
        simp only [eval]
        refine R_sub (R_bind (ihE h hld hexp_none hret henv hG) ?_) hx hexp
        intro v ρ1 hv henv1
        exact ⟨hasTy_unit, setB_ok _ _ _ _ v henv1 hv⟩
    · intro ret exp Γ es T Γ' h ρ il hld hexp hret henv hG
      cases h with
      | nil hx =>
        exact R_sub (show R ret tUnit Γ Γ il _ from ⟨hasTy_unit, henv⟩) hx hexp
      | one h =>
        rw [ldL_cons] at hld
        exact ihS h hld.1 hexp hret henv hG
      | cons h1 h2 =>
        rw [ldL_cons] at hld
        simp only [evalSeq]
        refine R_bind (ihS h1 hld.1 hexp_none hret henv hG) ?_
        intro v ρ1 _ henv1
        exact R_reΓ _ _ _ _ _ il _ (ihL h2 hld.2 hexp hret henv1 (Typed.gi h1 hG).2) h1.stmt_tail
    · -- checked left to right, evaluated right to left
      intro ret exp Γ es Ts h ρ il hld hexp hret henv hG
      cases h with
      | inil =>
        simp only [evalItems]
        cases exp <;> simp [RI, hasTyZip, hasTyAll, henv]
      | @icons _ _ e rest T1 T2 h1 h2 =>
        rw [ldL_cons] at hld
        have ihr := ihA h2 (ρ := ρ) hld.2 hexp hret henv hG
        simp only [evalItems]
        cases hev : evalItems P n ρ rest with
        | vals vs ρ1 =>
          rw [hev] at ihr
          have ih1 := ihE h1 (ρ := ρ1) hld.1 hexp hret ihr.2 hG
          simp only []
          cases hev1 : eval P n ρ1 e with
          | val v ρ2 =>
            rw [hev1] at ih1
            refine ⟨?_, ih1.2⟩
            cases exp with
            | none => exact (Bool.and_eq_true _ _).mpr ⟨ih1.1, ihr.1⟩
            | some a => exact (Bool.and_eq_true _ _).mpr ⟨ih1.1, ihr.1⟩
          | _ => rw [hev1] at ih1; exact ih1
        | _ => rw [hev] at ihr; exact ihr
    · intro f vs ret Γ ρ tys T Γ' il hct hz henv
      have hl := lookupB_ok Γ ρ f henv
      rcases (callTy_inv hct).2 with ⟨T0, hg, hno, _⟩ | ⟨hg, hc⟩
      · obtain ⟨w, _, hwt⟩ := hl.1 T0 hg
        rw [hno w] at hwt
        cases hwt
      simp only [callFn, hl.2 hg]
      rcases hc with ⟨fd, hfd, hgl, hlen, hdiag, rfl⟩ | ⟨hgl, a, rfl, hsub, rfl⟩ | ⟨hgl, a, rfl, rfl⟩ |
        ⟨hgl, a, rfl, rfl⟩
      · -- a function of the program: its body was checked against its hints (`hP`)
        have hargs : hasTyZip vs (paramTys fd) = true :=
          args_sub _ vs tys hz hlen (paramTys_goodL fd.params) hdiag
        have hne : (fd.params.length != vs.length) = false := by
          have := hasTyZip_length vs _ hargs
          simp only [paramTys, List.length_map] at this
          simp [this]
        simp only [hgl, hfd, hne, paramsOk_of fd.params vs hargs, Bool.false_eq_true, if_false, Bool.not_true]
        obtain ⟨⟨Tb, Γb, hb⟩, hloop⟩ := hP fd (List.mem_of_find?_eq_some hfd)
        have gret := Hint.toTy_good fd.ret
        have envb : envOK ([] :: [paramBlock fd, []]) ([] :: [bindParams fd.params vs [], []]) :=
          ⟨trivial, bind_ok fd.params vs [] [] hargs trivial, trivial, trivial⟩
        have gb : GoodEnv ([] :: [paramBlock fd, []]) := by
          intro b hb'
          simp only [List.mem_cons, List.not_mem_nil, or_false] at hb'
          rcases hb' with rfl | rfl | rfl
          · simp
          · exact foldl_setBlock_gi fd.params [] (by simp)
          · simp
        have ihb := ihL hb hloop (hexp_some gret) gret envb gb
        -- the declared return type is checked when the frame finishes: it passes
        have fin_ok : ∀ v, hasTy v fd.ret.toTy = true → R ret fd.ret.toTy Γ Γ il
            (if Ty.sub (typeOf v) fd.ret.toTy = true then Res.val v ρ else Res.err RErr.retType) := by
          intro v hv
          rw [if_pos (hasTy_sub_typeOf v _ hv)]
          exact ⟨hv, henv⟩
        cases hev : evalSeq P n ([] :: [bindParams fd.params vs [], []]) fd.body with
        | val v ρb => rw [hev] at ihb; exact fin_ok v ihb.1
        | ret v => rw [hev] at ihb; exact fin_ok v ihb
        | brk ρb => rw [hev] at ihb; cases ihb.1
        | cont ρb => rw [hev] at ihb; cases ihb.1
        | err er => rw [hev] at ihb; exact ihb
        | timeout => trivial
      · obtain ⟨v, rfl, hv⟩ := hasTyZip_single hz
        obtain ⟨s, rfl⟩ := canon_str v (hasTy_sub v a tStr hv hsub good_tStr)
        simp only [hgl]
        exact ⟨hasTy_unit, henv⟩
      · obtain ⟨v, rfl, hv⟩ := hasTyZip_single hz
        simp only [hgl]
        exact ⟨by simp [hasTy, isNamed, tStr], henv⟩
      · obtain ⟨v, rfl, hv⟩ := hasTyZip_single hz
        simp only [hgl]
        exact ⟨by simpa [hasTy, tOption] using hv, henv⟩
    · intro ret Γ c body Tc Tb Γb hc hb ρ il hlc hlb hret henv hG
      simp only [evalWhile]
      have ihc := ihE hc (ρ := ρ) hlc (hexp_some good_tBool) hret henv hG
      cases hev : eval P n ρ c with
      | val v ρ1 =>
        rw [hev] at ihc
        obtain ⟨b, rfl⟩ := canon_bool v ihc.1
        cases b with
        | false => exact ⟨hasTy_unit, ihc.2⟩
        | true =>
          exact R_loop (k := fun ρ' => evalWhile P n ρ' c body) List.tail
            (ihL hb hlb hexp_none hret (envOK_push _ _ ihc.2) (GoodEnv_push _ hG)) hb.tail_eq
            (fun Γx ρ' h1 h2 => h2 ▸ envOK_tail _ _ h1)
            (fun ρ' h => ihW hc hb hlc hlb hret h hG)
      | _ => rw [hev] at ihc; exact R_pass ret _ tUnit Γ Γ Γ Γ il _ ihc rfl (fun _ _ => nofun)
    · intro ret Γ x items body a Tb Γb hb ρ il hlb hret ga hall henv hG
      cases items with
      | nil => exact ⟨hasTy_unit, henv⟩
      | cons v rest =>
        simp only [hasTyAll, Bool.and_eq_true] at hall
        simp only [evalFor]
        exact R_loop (k := fun ρ' => evalFor P n ρ' x rest body) (fun ρ' => ρ'.tail.tail)
          (ihL hb hlb hexp_none hret
            (envOK_push _ _ (setB_ok _ _ x a v (envOK_push _ _ henv) hall.1))
            (GoodEnv_push _ (GoodEnv_setB _ x a (GoodEnv_push _ hG) ga)))
          hb.tail_eq
          (fun Γx ρ' h1 h2 => by
            have := envOK_tail _ _ (envOK_tail _ _ h1)
            rw [h2] at this
            exact this)
          (fun ρ' h => ihFor hb hlb hret ga hall.2 h hG)
    · intro ret mode Ts0 Γ cs Ts h ρ il sv key hld hmode hret henv hG hsc hkey hcov
      cases h with
      | cnil => obtain ⟨v, p, b, hm, _⟩ := hcov; simp at hm
      | @ccons _ _ _ v payload body rest T1 Γ1 T2 h1 hpat hvp h2 =>
        simp only [loopDiagsC, List.append_eq_nil_iff] at hld
        obtain ⟨hlb, hlr⟩ := hld
        have body_ok : ∀ (g : List (String × Ty)) (r : List (String × Val)),
            Typed P ret (.block mode ([] :: g :: Γ) body T1 Γ1) → blockOK g r → (∀ p ∈ g, gi p.2 = true) →
            RC ret mode (T1 :: T2) Γ il
              (leaveBlock true (leaveBlock true (evalSeq P n ([] :: r :: ρ) body))) := by
          intro g r hb hgr hgg
          have ihb := ihL hb (ρ := [] :: r :: ρ) hlb hmode hret ⟨trivial, hgr, henv⟩ (GoodEnv_push _ (GoodEnv_cons hgg hG))
          have l1 := R_leave ret _ [] (g :: Γ) Γ1 il true _ ihb hb.tail_eq
          have l2 := R_leave ret _ g Γ (g :: Γ) il true _ l1 rfl
          exact ⟨T1, List.mem_cons_self .., l2⟩
        -- a case for another variant is skipped; one of the remaining cases still covers the scrutinee
        have next : ∀ idx, (idx = key.2.1 ↔ v = keyName key) → v ≠ "_" → idx ≠ key.2.1 →
            RC ret mode (T1 :: T2) Γ il (evalCases P n ρ key rest) := by
          intro idx hidx hv hi
          refine (ihC h2 hlr hmode hret henv hG hsc hkey ?_).imp fun t h => ⟨List.mem_cons_of_mem _ h.1, h.2⟩
          obtain ⟨v', p', b', hm, hor⟩ := hcov
          rcases List.mem_cons.mp hm with heq | hm
          · cases heq
            rcases hor with h | h
            · exact absurd h hv
            · exact absurd (hidx.mpr h) hi
          · exact ⟨v', p', b', hm, hor⟩
        simp only [evalCases]
        cases payload with
        | none =>
          have fires := body_ok [] [] h1 trivial (by simp)
          by_cases hv : v = "_"
          · subst hv
            simpa using fires
          · simp [hv]
            obtain ⟨idx, hpk, hidx, hshape, _⟩ := pat_key P sv Ts0 key v false hsc hkey hv (by simpa using hpat)
            simp only [hpk]
            by_cases hi : idx = key.2.1
            · have hnone : key.2.2 = none := by
                have := hshape (hidx.mp hi)
                cases hk2 : key.2.2 with
                | none => rfl
                | some pv => simp [hk2] at this
              simp [hi, hnone]
              exact fires
            · simp [hi]
              exact next idx hidx hv hi
        | some x =>
          have hv : v ≠ "_" := by simpa using hvp
          simp [hv]
          obtain ⟨idx, hpk, hidx, hshape, hpay⟩ := pat_key P sv Ts0 key v true hsc hkey hv (by simpa using hpat)
          simp only [hpk]
          by_cases hi : idx = key.2.1
          · obtain ⟨pv, hpv⟩ : ∃ pv, key.2.2 = some pv := by
              have := (hshape (hidx.mp hi)).mp rfl
              cases hk2 : key.2.2 with
              | none => simp [hk2] at this
              | some pv => exact ⟨pv, rfl⟩
            obtain ⟨htp, gtp⟩ := hpay pv hpv (hidx.mp hi)
            simp [hi, hpv, setB_cons, setBlock]
            exact body_ok [(x, payloadTy Ts0 v)] [(x, pv)] h1 ⟨rfl, htp, trivial⟩ (by simp [gtp])
          · simp [hi]
            exact next idx hidx hv hi

end Check
