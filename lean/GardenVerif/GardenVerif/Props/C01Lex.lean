import GardenVerif.Lemmas.Lex
import GardenVerif.Generated.Tables
/-!
# C01 (lexer half) — the lexer never crashes, on any source text

Statements over the model `Lex.lex` of `lex` / `lex_between` (src/parser/lex.rs) *with the fix
patch `lex-fix-nonascii`* (whole-character advance over whitespace and unrecognised characters),
for any token tables satisfying `LexTables.wf` (two-char entries non-empty, one-char entries one
byte) — `LexTables.garden`, the current tables, do (`garden_tables_wf`).

The model has an explicit `panic` outcome wherever the Rust slices a `&str` (`&s[offset..]`,
`&s[0..1]`) or calls `LinePositions::from_offset`; the theorems say that outcome is unreachable.
The argument is the invariant `Lex.Inv`: the loop offset is the byte length of a prefix of the
text (a character boundary) and every iteration that continues consumes at least one character —
which also gives termination: fuel `length + 1` (what `lex` uses) is always enough.

The pinned tree (byte-wise advance) does panic; `pinned_lexer_panics_*` keep the witnesses.
The tie to the Rust is the `lex` correspondence of harness/c23.py (and harness/c01.py).
-/

namespace C01Lex
open Lex

theorem garden_tables_wf : LexTables.garden.wf = true := garden_wf

/-- The tables the model uses are the ones `tools/extract_tables.py` regenerates from
`src/parser/lex.rs` on every check run (a change of a Rust table breaks this theorem). -/
theorem garden_tables_match_source :
    LexTables.garden = ⟨Tables.twoCharOperators.map String.toList, Tables.twoCharTokens.map String.toList,
      Tables.oneCharOperators, Tables.oneCharTokens⟩ := by decide

/-- The four regex sources and the order in which `lex_between` tries tables and regexes are the
ones the scanners and `step` were transcribed from. For
`STRING_RE` either source is accepted: `\\"` (modelled by `strAny = false`) or `\\.` (`strAny = true`); the
driver chooses `strAny` by comparing `Tables.stringRe` with the same two strings. -/
theorem regex_sources_and_order_match_source :
    Tables.floatRe = "^-?[0-9][0-9_]*\\.[0-9][0-9_]*" ∧ Tables.integerRe = "^-?[0-9][0-9_]*" ∧
    (Tables.stringRe = "^\"(\\\\\"|[^\"])*(\"|\\z)" ∨ Tables.stringRe = "^\"(\\\\.|[^\"])*(\"|\\z)") ∧ Tables.symbolRe = "^[a-zA-Z_][a-zA-Z0-9_]*" ∧
    Tables.lexTryOrder = ["TWO_CHAR_OPERATORS", "TWO_CHAR_TOKENS", "FLOAT_RE", "INTEGER_RE",
      "ONE_CHAR_OPERATORS", "ONE_CHAR_TOKENS", "STRING_RE", "SYMBOL_RE"] :=
  ⟨rfl, rfl, by decide, rfl, rfl⟩

theorem lex_no_panic (T : LexTables) (hT : T.wf = true) (src : List Char) (strAny : Bool) :
    (lex T src strAny).isPanic = false :=
  (lex_ok hT src strAny).isOk.1

theorem lex_terminates (T : LexTables) (hT : T.wf = true) (src : List Char) (strAny : Bool) :
    (lex T src strAny).isOutOfFuel = false :=
  (lex_ok hT src strAny).isOk.2

/-- `lex_between` from any character boundary (`offset = bytes pre`) up to any `end_offset ≤ len`. -/
theorem lex_between_total (T : LexTables) (hT : T.wf = true) (pre rest : List Char)
    (endOff fuel : Nat) (strAny : Bool) (hend : endOff ≤ bytes (pre ++ rest)) (hfuel : rest.length < fuel) :
    ∃ toks trailing errs,
      lexBetweenFuel T (Cfg.fixed strAny) fuel (pre ++ rest) (bytes pre) endOff = .ok toks trailing errs := by
  obtain ⟨t, c, e, h, _⟩ := lexBetween_ok (any := strAny) hT pre rest endOff fuel hend hfuel
  exact ⟨t, c, e, h⟩

/-- Each token's text is the slice of the source between its offsets; that the tokens cover the source is not stated. -/
theorem lex_tokens_cover (T : LexTables) (hT : T.wf = true) (src : List Char) (strAny : Bool) :
    ∀ tok ∈ (lex T src strAny).tokens, ∃ pre post, src = pre ++ tok.text ++ post ∧
      tok.pos.start = bytes pre ∧ tok.pos.stop = bytes pre + bytes tok.text := by
  intro tok htok
  obtain ⟨⟨pre, post, h1, h2⟩, _⟩ := (lex_ok hT src strAny).tokens tok htok
  exact ⟨pre, post, h1, by rw [h2]; simp [specPos]⟩

/-- Non-vacuity: non-ASCII whitespace (U+00A0), an unrecognised 2-byte character and a 4-byte
character are lexed; the four tokens are those of `1 + 2 … x`. -/
example : (lex LexTables.garden ['1', ' ', '+', ' ', '2', ' ', 'é', '😀', 'x']).tokens.map (·.text)
    = [['1'], ['+'], ['2'], ['x']] := by decide

/-- `x = é`: lex.rs:376 `&s[0..1]`. -/
theorem pinned_lexer_panics_on_unrecognised_nonascii :
    (lexOld LexTables.garden ['x', ' ', '=', ' ', 'é']).isPanic = true := by decide

/-- `1 +<U+00A0>2`: lex.rs:166 then :121 `&s[offset..]`. The fourth character of the list is the no-break space
U+00A0, which a screen shows like the ASCII space before it; on the ASCII text `1 + 2` nothing panics. -/
theorem pinned_lexer_panics_on_nonascii_whitespace :
    (lexOld LexTables.garden ['1', ' ', '+', ' ', '2']).isPanic = true := by decide

end C01Lex
