import GardenVerif.Lemmas.Format
/-!
C17 — Formatting never changes a program's meaning. Lemmas about the relations and preconditions the
validator (V) evaluates (DESIGN §3, §7 C17), over Model/Format.lean; not a proof that the validator is
sound: of the validator's relation `sameTokens` itself only reflexivity is proved.

Proved, for all texts / edit lists:

* `gap_rewrite_same_tokens` — a segmentation gap₀ tok₁ gap₁ … tokₙ gapₙ whose gaps are replaced by
  whitespace with the same number of newlines and the same emptiness has the same token/gap view, hence
  is related by `sameTokens`. That the real lexer segments `render a` into `a`'s pieces is not proved;
  on every judged input the views are built from the real lexer's output instead.
* `phase_legal_spans` (phase 4) — if the span edits, in the order `apply_span_edits` applies them, are
  pairwise disjoint, in range and cover gap bytes only (`spansInGaps`, evaluated on the real edit
  lists), `applySpanEdits` does not panic and the token and comment bytes (`content`) are unchanged.
* `phase_legal_indent` (phase 5) — if every line edit only removes gap bytes (`editsInGaps`: the edited
  line does not start inside a token, a stripped `\r` / dropped final `\n` is a gap byte),
  `applyIndentationEdits` leaves `content` unchanged. (The model has no panic site: the Rust has
  none on this path.)

Not proved. Phases 6 (`normalizeBlankLines`, `normalizeBlankLinesSkip`) and 9 (`finalNewline`) are
transcribed in the model too; there is no `content` statement for them. With respect to DESIGN's
`phase_legal : EditsInGaps src edits → LegalGapRewrite src (phase src edits)`: the two phase theorems are
over marked texts and say that `content` is unchanged; `legalGapRewrite` is a relation on segmentations,
and no lemma leads from equal `content` to it, nor is it proved that the phases preserve gap emptiness
and newline presence where the parser reads them — that is decided per input by evaluating `sameTokens`
on the real token lists of (input, output). `sameTokens_same_parse` (DESIGN) needs the parser model M2 and
is replaced per input by the comparison of the real parser's trees.
-/
namespace C17
open Fmt

/-- Via equality of views: a legal gap rewrite leaves the view (tokens, comments, attachment,
adjacency, line relations) the same, and `sameTokens` is reflexive. The rules inside `sameTokens`
(`touchRule`, `lineRule`, `dropOptCommas`) enter only through that reflexivity. -/
theorem gap_rewrite_same_tokens (a b : Segd) (h : legalGapRewrite a b = true) :
    sameTokens a.view b.view = true := by
  rw [view_eq_of_legal a b h]
  exact sameTokens_refl _

/-- `foo( 1)⏎` with the non-empty gap before `1` widened and the trailing gap rewritten: -/
example : legalGapRewrite
    ⟨[⟨[], .tok, [102, 111, 111]⟩, ⟨[], .tok, [40]⟩, ⟨[32], .tok, [49]⟩, ⟨[], .tok, [41]⟩], [10]⟩
    ⟨[⟨[], .tok, [102, 111, 111]⟩, ⟨[], .tok, [40]⟩, ⟨[32, 32], .tok, [49]⟩, ⟨[], .tok, [41]⟩], [32, 10, 10]⟩ = true := by
  decide
/-- … but `foo (1)` is not a legal rewrite of `foo(1)` (a call would become a tuple). -/
example : legalGapRewrite
    ⟨[⟨[], .tok, [102, 111, 111]⟩, ⟨[], .tok, [40]⟩], []⟩
    ⟨[⟨[], .tok, [102, 111, 111]⟩, ⟨[32], .tok, [40]⟩], []⟩ = false := by
  decide

/-- the relation itself rejects call → tuple (`foo(` vs `foo (`) and `return x` → `return⏎x` -/
example : sameTokens
    ⟨[⟨[102, 111, 111], false, false, []⟩, ⟨[40], true, true, []⟩], []⟩
    ⟨[⟨[102, 111, 111], false, false, []⟩, ⟨[40], false, true, []⟩], []⟩ = false := by decide
example : sameTokens
    ⟨[⟨[114, 101, 116, 117, 114, 110], false, false, []⟩, ⟨[120], false, true, []⟩], []⟩
    ⟨[⟨[114, 101, 116, 117, 114, 110], false, false, []⟩, ⟨[120], false, false, []⟩], []⟩ = false := by decide
/-- … and accepts `if(x)` → `if (x,)` (blank after a keyword, optional comma before `)`) -/
example : sameTokens
    ⟨[⟨[105, 102], false, false, []⟩, ⟨[40], true, true, []⟩, ⟨[120], true, true, []⟩, ⟨[41], true, true, []⟩], []⟩
    ⟨[⟨[105, 102], false, false, []⟩, ⟨[40], false, true, []⟩, ⟨[120], true, true, []⟩, ⟨[44], true, true, []⟩,
      ⟨[41], false, false, []⟩], []⟩ = true := by decide

theorem phase_legal_spans (t : MText) (es : List SpanEdit)
    (h : spansInGaps t t.length (sortDesc es) = true) :
    ∃ r, applySpanEdits t es = .ok r ∧ content r = content t := by
  unfold applySpanEdits
  split
  · exact ⟨t, rfl, rfl⟩
  · exact applySorted_content t _ t t.length h (Nat.le_refl _) rfl

/-- `a {b}` → `a { b }`: two insertions, applied from the right -/
example : spansInGaps (markSpans [97, 32, 123, 98, 125] [(0, 1), (2, 3), (3, 4), (4, 5)]) 5
    [⟨4, 4, plain [32]⟩, ⟨3, 3, plain [32]⟩] = true := by decide

theorem phase_legal_indent (src : MText) (edits : List (Nat × Nat))
    (h : editsInGaps src edits = true) :
    content (applyIndentationEdits src edits) = content src := by
  unfold editsInGaps at h
  unfold applyIndentationEdits
  have := indentGo_content edits (rawLines src).length (rawLines src) 0 h
  rw [rawLines_flatten] at this
  simp only
  split
  · rw [content_append, content_NL, this]; simp
  · exact this

/-- `{⏎x⏎}` with line 1 re-indented to 2: in gaps; the same edit on `"⏎x"` (line 1 starts inside
the string token) is not. -/
example : editsInGaps (markSpans [123, 10, 120, 10, 125] [(0, 1), (2, 3), (4, 5)]) [(1, 2)] = true := by decide
example : editsInGaps (markSpans [34, 10, 32, 120, 34] [(0, 5)]) [(1, 2)] = false := by decide

end C17
