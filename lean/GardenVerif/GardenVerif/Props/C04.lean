import GardenVerif.Lemmas.IntOps
/-!
C04 — Integer and float operators follow the documented arithmetic.

All statements are over the model of Model/IntOps.lean (`intArith` = the arithmetic arms of
`eval_int_binop`, `intBinop` = the whole function, `assignUpdate` = `eval_assign_update`,
`floatBinop` = `eval_float_binop`) and quantify over ALL `a b : Int64`.
`x.toInt` is the mathematical integer an `i64` denotes. There are statements for `+ - * / % **` and the
four comparisons; of the bitwise `&` and `|` (`IntOp.band`, `.bor`) only that they do not panic
(`never_panics`) is stated.

Two places where the code (and therefore the model) is *stricter* than the property text,
stated as theorems below and reported as known findings by harness/c04.py:
* `mod_min_neg_one`: `MIN % -1` raises ("… by zero") although the Euclidean remainder 0 is
  representable (`i64::checked_rem_euclid` returns `None` there);
* `pow_exponent_too_large` (the instance `1 ** 2^32`): an exponent above `u32::MAX` raises even
  for the bases -1, 0, 1, whose powers are representable (`pow_guard_only_units` shows these are
  the only bases affected).
The two defects of the pinned tree (Rust panics) are `pinned_div_panics` and
`pinned_assign_update_panics`; the model of the patched tree never panics (`never_panics`).
-/

namespace C04
open IntOps

/-- Two's-complement wrap of a mathematical integer to 64 bits. -/
def wrap (n : Int) : Int := Int.bmod n (2 ^ 64)

def resInt {F : Type} : Res (AVal F) → Option Int
  | .ok (.int r) => some r.toInt
  | _ => none

def resBool {F : Type} : Res (AVal F) → Option Bool
  | .ok (.bool b) => some b
  | _ => none

theorem wrap_spec (n : Int) :
    -2 ^ 63 ≤ wrap n ∧ wrap n < 2 ^ 63 ∧ (wrap n - n) % 2 ^ 64 = 0 ∧
    ∀ m : Int, -2 ^ 63 ≤ m → m < 2 ^ 63 → (m - n) % 2 ^ 64 = 0 → m = wrap n := by
  have hf := (fits_iff _).1 (fits_bmod n)
  exact ⟨hf.1, hf.2, bmod_sub_emod n,
    fun m h1 h2 h3 => bmod_eq_of_fits ((fits_iff m).2 ⟨h1, h2⟩) h3⟩

example : wrap (2 ^ 63) = -2 ^ 63 := by decide

/-! ### `+`, `-`, `*` wrap -/

theorem add_wraps {F : Type} (a b : Int64) :
    resInt (intArith (F := F) .add a b) = some (wrap (a.toInt + b.toInt)) := by
  simp [intArith, resInt, wrap, Int64.toInt_add]

theorem sub_wraps {F : Type} (a b : Int64) :
    resInt (intArith (F := F) .sub a b) = some (wrap (a.toInt - b.toInt)) := by
  simp [intArith, resInt, wrap, Int64.toInt_sub]

theorem mul_wraps {F : Type} (a b : Int64) :
    resInt (intArith (F := F) .mul a b) = some (wrap (a.toInt * b.toInt)) := by
  simp [intArith, resInt, wrap, Int64.toInt_mul]

example : resInt (intArith (F := Unit) .add Int64.maxValue 1) = some (-2 ^ 63) := by decide

/-! ### `/` truncates toward zero; zero divisor and unrepresentable quotient raise -/

theorem div_overflow_iff (a b : Int64) (hb : b ≠ 0) :
    fits (a.toInt.tdiv b.toInt) = false ↔ (a = Int64.minValue ∧ b = -1) := by
  constructor
  · intro h
    apply Decidable.byContradiction
    intro hc
    rw [fits_tdiv a b hb hc] at h
    cases h
  · rintro ⟨rfl, rfl⟩
    decide

theorem div_truncates {F : Type} (a b : Int64) (hb : b ≠ 0)
    (hfit : fits (a.toInt.tdiv b.toInt) = true) :
    resInt (intArith (F := F) .div a b) = some (a.toInt.tdiv b.toInt) := by
  have hno : ¬(a = Int64.minValue ∧ b = -1) := by
    intro h
    have := (div_overflow_iff a b hb).mpr h
    rw [hfit] at this
    cases this
  rw [intArith_div, if_neg hb, if_neg hno]
  exact congrArg some (toInt_div_of_no_overflow a b hb hno)

theorem div_by_zero {F : Type} (a : Int64) :
    intArith (F := F) .div a 0 = .exception .divZero := by
  rw [intArith_div, if_pos rfl]

theorem div_unrepresentable {F : Type} (a b : Int64) (hb : b ≠ 0)
    (hfit : fits (a.toInt.tdiv b.toInt) = false) :
    intArith (F := F) .div a b = .exception .divOverflow := by
  rw [intArith_div, if_neg hb, if_pos ((div_overflow_iff a b hb).mp hfit)]

example : resInt (intArith (F := Unit) .div (-7) 2) = some (-3) := by decide

/-! ### `%` is the Euclidean remainder -/

theorem mod_euclidean {F : Type} (a b : Int64) (hb : b ≠ 0)
    (hno : ¬(a = Int64.minValue ∧ b = -1)) :
    resInt (intArith (F := F) .mod a b) = some (a.toInt % b.toInt) := by
  simp [intArith, checkedRemEuclid, hb, hno, resInt, toInt_remEuclid a b hb]

/-- Lean's `Int.emod` is the Euclidean remainder: in `[0, |b|)` and congruent to `a`. -/
theorem mod_range (a b : Int64) (hb : b ≠ 0) :
    0 ≤ a.toInt % b.toInt ∧ a.toInt % b.toInt < b.toInt.natAbs ∧
    b.toInt ∣ (a.toInt - a.toInt % b.toInt) := by
  refine ⟨Int.emod_nonneg _ (toInt_ne_zero hb), Int.emod_lt _ (toInt_ne_zero hb), ?_⟩
  exact ⟨a.toInt / b.toInt, by rw [Int.emod_def]; exact Int.sub_sub_self _ _⟩

theorem mod_by_zero {F : Type} (a : Int64) :
    intArith (F := F) .mod a 0 = .exception .remZero := by
  simp [intArith, checkedRemEuclid]

/-- Deviation: `MIN % -1` raises (with the "by zero" message) although the Euclidean
remainder, 0, is representable. -/
theorem mod_min_neg_one {F : Type} :
    intArith (F := F) .mod Int64.minValue (-1) = .exception .remZero ∧
    Int64.minValue.toInt % (-1 : Int64).toInt = 0 := by
  constructor
  · simp [intArith, checkedRemEuclid]
  · decide

example : resInt (intArith (F := Unit) .mod (-4) 3) = some 2 := by decide

/-! ### `**` is exact; negative exponent and overflow raise -/

theorem pow_exact {F : Type} (a n : Int64) (v : Int) :
    resInt (intArith (F := F) .pow a n) = some v ↔
      (0 ≤ n.toInt ∧ n.toInt ≤ 4294967295 ∧ fits (a.toInt ^ n.toInt.toNat) = true ∧
        v = a.toInt ^ n.toInt.toNat) := by
  rw [intArith_pow]
  by_cases h1 : n.toInt < 0
  · rw [if_pos h1]
    exact ⟨fun h => (nomatch h), fun h => absurd h1 (by omega)⟩
  · rw [if_neg h1]
    by_cases h2 : 4294967295 < n.toInt
    · rw [if_pos h2]
      exact ⟨fun h => (nomatch h), fun h => absurd h2 (by omega)⟩
    · rw [if_neg h2]
      cases hf : fits (a.toInt ^ n.toInt.toNat) with
      | false => exact ⟨fun h => (nomatch h), fun h => (nomatch h.2.2.1)⟩
      | true =>
        simp only [if_true, resInt, toInt_ofInt_of_fits _ hf]
        constructor
        · intro h; injection h with h; exact ⟨by omega, by omega, trivial, h.symm⟩
        · rintro ⟨_, _, _, h⟩; rw [h]

theorem pow_exception {F : Type} (a n : Int64) :
    (n.toInt < 0 → intArith (F := F) .pow a n = .exception .negExponent) ∧
    (4294967295 < n.toInt → intArith (F := F) .pow a n = .exception .expTooLarge) ∧
    (0 ≤ n.toInt → n.toInt ≤ 4294967295 → fits (a.toInt ^ n.toInt.toNat) = false →
      intArith (F := F) .pow a n = .exception .powOverflow) := by
  rw [intArith_pow]
  refine ⟨fun h => if_pos h, fun h => ?_, fun h1 h2 h3 => ?_⟩
  · rw [if_neg (by omega), if_pos h]
  · rw [if_neg (by omega), if_neg (by omega), h3]; rfl

/-- The "exponent is too large" guard only changes the outcome for the bases -1, 0, 1:
for every other base such a power is not representable anyway. -/
theorem pow_guard_only_units (a n : Int64) (ha : 2 ≤ a.toInt.natAbs) (hn : 4294967295 < n.toInt) :
    fits (a.toInt ^ n.toInt.toNat) = false :=
  pow_not_fits _ _ ha (by omega)

/-- Deviation, shown on the single instance `1 ** 2^32`: the exact power `1` is representable, yet
the operator raises because the exponent is above `u32::MAX`. -/
theorem pow_exponent_too_large {F : Type} :
    intArith (F := F) .pow 1 4294967296 = .exception .expTooLarge := by
  rfl

example : resInt (intArith (F := Unit) .pow 2 62) = some (2 ^ 62) := by
  rw [pow_exact]; decide

/-! ### comparisons are the integer order -/

theorem lt_is_int_order {F : Type} (a b : Int64) :
    resBool (intArith (F := F) .lt a b) = some (decide (a.toInt < b.toInt)) := by
  simp [intArith, resBool, Int64.lt_iff_toInt_lt]

theorem le_is_int_order {F : Type} (a b : Int64) :
    resBool (intArith (F := F) .le a b) = some (decide (a.toInt ≤ b.toInt)) := by
  simp [intArith, resBool, Int64.le_iff_toInt_le]

theorem gt_is_int_order {F : Type} (a b : Int64) :
    resBool (intArith (F := F) .gt a b) = some (decide (a.toInt > b.toInt)) := by
  simp [intArith, resBool, Int64.lt_iff_toInt_lt]

theorem ge_is_int_order {F : Type} (a b : Int64) :
    resBool (intArith (F := F) .ge a b) = some (decide (a.toInt ≥ b.toInt)) := by
  simp [intArith, resBool, Int64.le_iff_toInt_le]

/-! ### no Rust panic; every failure is a Garden exception -/

theorem intArith_never_panics {F : Type} (op : IntOp) (a b : Int64) :
    (intArith (F := F) op a b).isPanic = false := by
  cases op
  case div => rw [intArith_div]; split; rfl; split <;> rfl
  case pow => rw [intArith_pow]; split; rfl; split; rfl; split <;> rfl
  case mod => simp only [intArith]; split <;> rfl
  all_goals rfl

theorem never_panics {F : Type} (fi : FloatImpl F) (l r : AVal F) :
    (∀ op, (intBinop op l r).isPanic = false) ∧
    (∀ op, (assignUpdate op l r).isPanic = false) ∧
    (∀ op, (floatBinop fi op l r).isPanic = false) := by
  refine ⟨?_, ?_, ?_⟩
  · intro op
    cases l <;> cases r <;> first | exact intArith_never_panics op _ _ | rfl
  · intro op
    cases l <;> cases r <;> first | rfl | (cases op <;> rfl)
  · intro op
    cases l <;> cases r <;> first | rfl | (cases op <;> first | rfl | (simp only [floatBinop]; split <;> rfl))

/-- A non-`Int` operand of an integer operator raises a type error (lhs checked first). -/
theorem int_operand_type_errors {F : Type} (op : IntOp) (l r : AVal F) :
    (∀ a b, l = .int a → r = .int b → intBinop op l r = intArith op a b) ∧
    ((∀ a, l ≠ .int a) → ∃ s, intBinop op l r = .exception (.typeError "Int" .lhs s)) ∧
    (∀ a, l = .int a → (∀ b, r ≠ .int b) → intBinop op l r = .exception (.typeError "Int" .rhs false)) := by
  refine ⟨?_, ?_, ?_⟩
  · rintro a b rfl rfl; rfl
  · intro h
    cases l with
    | int a => exact absurd rfl (h a)
    | float f => exact ⟨true, rfl⟩
    | bool b => exact ⟨false, rfl⟩
    | other t => exact ⟨false, rfl⟩
  · rintro a rfl h
    cases r with
    | int b => exact absurd rfl (h b)
    | float f => rfl
    | bool b => rfl
    | other t => rfl

/-! ### `x += e` / `x -= e` agree with `x = x + e` / `x = x - e` -/

/-- On integers (every pair, including the overflowing ones) the stored value is the same. -/
theorem assign_update_agrees {F : Type} (op : UpdOp) (a b : Int64) :
    assignUpdate (F := F) op (.int a) (.int b) = assignBinop op (.int a) (.int b) := by
  cases op <;> rfl

/-- Outcomes up to the wording of a type error (`+` adds a "use a float operator" hint). -/
def sameOutcome {F : Type} : Res (AVal F) → Res (AVal F) → Prop
  | .ok (.int a), .ok (.int b) => a = b
  | .exception (.typeError e1 s1 _), .exception (.typeError e2 s2 _) => e1 = e2 ∧ s1 = s2
  | _, _ => False

theorem assign_update_agrees_all {F : Type} (op : UpdOp) (xv ev : AVal F) :
    sameOutcome (assignUpdate op xv ev) (assignBinop op xv ev) := by
  cases xv <;> cases ev <;> first | exact ⟨rfl, rfl⟩ | (cases op <;> exact rfl)

example : assignUpdate (F := Unit) .add (.int Int64.maxValue) (.int 1) = .ok (.int Int64.minValue) := by
  rfl

/-! ### the two defects of the pinned tree (what patches/arith-fix-int-div-overflow.diff and
patches/arith-fix-assign-update-wrap.diff remove) -/

theorem pinned_div_panics {F : Type} :
    (intArithPinned (F := F) .div Int64.minValue (-1)).isPanic = true := by
  rfl

/-- The pinned `/` agrees with the patched one everywhere but at `MIN / -1`; that they differ there is
`pinned_div_panics` against `never_panics`. -/
theorem pinned_div_differs_only_at_overflow {F : Type} (op : IntOp) (a b : Int64)
    (h : ¬(op = .div ∧ a = Int64.minValue ∧ b = -1)) :
    intArithPinned (F := F) op a b = intArith op a b := by
  cases op <;> try rfl
  simp only [intArithPinned, intArith, checkedDiv]
  by_cases hb : b = 0
  · simp [hb]
  · have : ¬(a = Int64.minValue ∧ b = -1) := fun hh => h ⟨rfl, hh⟩
    simp [hb, this]

/-- The pinned `+=` / `-=` agree with `+` / `-` exactly when the exact result is
representable; otherwise they panic. -/
theorem pinned_assign_update_panics {F : Type} (a b : Int64) :
    (assignUpdatePinned (F := F) .add (.int a) (.int b) = assignBinop .add (.int a) (.int b) ↔
      fits (a.toInt + b.toInt) = true) ∧
    (assignUpdatePinned (F := F) .sub (.int a) (.int b) = assignBinop .sub (.int a) (.int b) ↔
      fits (a.toInt - b.toInt) = true) ∧
    (fits (a.toInt + b.toInt) = false →
      (assignUpdatePinned (F := F) .add (.int a) (.int b)).isPanic = true) ∧
    (fits (a.toInt - b.toInt) = false →
      (assignUpdatePinned (F := F) .sub (.int a) (.int b)).isPanic = true) := by
  refine ⟨?_, ?_, ?_, ?_⟩
  · cases h : fits (a.toInt + b.toInt) <;>
      simp [assignUpdatePinned, assignBinop, intBinop, intArith, UpdOp.toIntOp, h]
  · cases h : fits (a.toInt - b.toInt) <;>
      simp [assignUpdatePinned, assignBinop, intBinop, intArith, UpdOp.toIntOp, h]
  · intro h; simp [assignUpdatePinned, h, Res.isPanic]
  · intro h; simp [assignUpdatePinned, h, Res.isPanic]

/-! ### float operators: control logic only (the IEEE operations are parameters) -/

theorem float_control {F : Type} (fi : FloatImpl F) (a b : F) :
    floatBinop fi .add (.float a) (.float b) = .ok (.float (fi.add a b)) ∧
    floatBinop fi .sub (.float a) (.float b) = .ok (.float (fi.sub a b)) ∧
    floatBinop fi .mul (.float a) (.float b) = .ok (.float (fi.mul a b)) ∧
    (fi.isZero b = true → floatBinop fi .div (.float a) (.float b) = .exception .divZero) ∧
    (fi.isZero b = false → floatBinop fi .div (.float a) (.float b) = .ok (.float (fi.div a b))) := by
  refine ⟨rfl, rfl, rfl, ?_, ?_⟩ <;> intro h <;> simp [floatBinop, h]

/-- The side is left open: for an `Int` on the right the Rust reports the LEFT operand (see `floatBinop`). -/
theorem float_operand_type_errors {F : Type} (fi : FloatImpl F) (op : FloatOp) (l r : AVal F)
    (h : (∀ a, l ≠ .float a) ∨ (∀ b, r ≠ .float b)) :
    ∃ side s, floatBinop fi op l r = .exception (.typeError "Float" side s) := by
  cases l with
  | int a => exact ⟨.lhs, true, rfl⟩
  | bool b => exact ⟨.lhs, false, rfl⟩
  | other t => exact ⟨.lhs, false, rfl⟩
  | float a =>
    cases r with
    | int b => exact ⟨.lhs, true, rfl⟩
    | bool b => exact ⟨.rhs, false, rfl⟩
    | other t => exact ⟨.rhs, false, rfl⟩
    | float b =>
      rcases h with h | h
      · exact absurd rfl (h a)
      · exact absurd rfl (h b)

end C04
