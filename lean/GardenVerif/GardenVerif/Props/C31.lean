import GardenVerif.Lemmas.Nrepl
/-!
# C31 — nREPL interrupt stops the running eval and no other

Same model as C30 (M10).  "Executing r" = the worker is between its flag-reset step for `r` and
the end of `r`'s eval (`Nrepl.executing`).  The statements are about *all* runs (lists of labels of
any length) from any reachable state, so they cover every interleaving.

* `interrupt_hits_running` / `close_stops_partial`: once the flag has been stored by the reader
  while `r` is executing (`Armed`), along every run `r` stays armed until one of its flag tests
  reads the flag, and from then on it is `Doomed`: it can only end with `done r interrupted` —
  unless an eval of that session ends by itself without performing another flag test
  (`EndsUntested`). The escape is weaker than "`r`'s eval ended untested": `EndsUntested i l` names
  the session and not the request, and the conclusion accepts such a label anywhere in the run, so
  for a run in which session `i` later finishes another request the conclusion says nothing of `r`.
* `idle_interrupt_harmless`: `wReset` clears a flag stored while idle before the first flag test,
  and along every run without an `interrupt`/`close` for that session the worker never reads a set
  flag and never builds an `interrupted` response (`Clean`).
* Finding `C31/close-before-reset`: `close_before_reset_unstoppable` exhibits the run in which
  `close` lands between the dequeue and the flag reset of a queued request: the reset clears the
  flag, the session is gone (so `interrupt` answers unknown-session), and the eval completes
  normally.  `close_stops_partial` therefore has the hypothesis `executing … = some r` (the flag
  reset has happened) that excludes exactly that window (request still queued, or dequeued and
  not yet reset).
-/

namespace C31
open Nrepl

def carries : WPc → Option (Nat × Res)
  | .evalDone r res | .stopRequested r res | .joined r res => some (r, res)
  | .tookOut r res _ | .drainedOut r res | .tookErr r res _ => some (r, res)
  | _ => none

theorem carries_cur {w : WPc} {r : Nat} {res : Res} (h : carries w = some (r, res)) :
    cur w = some r := by
  cases w <;> cases h <;> rfl

/-- `flagSeen r` (the test has read the flag; `executing` still holds) is excluded because it is the
first stage of `Doomed`. -/
def Armed (i r : Nat) (s : State) : Prop :=
  (s.sess i).flag = true ∧ executing (s.sess i).wpc = some r ∧ (s.sess i).wpc ≠ .flagSeen r

/-- The stages `r` passes through from the flag test that reads the flag to `done r interrupted` in the queue. -/
def Doomed (i r : Nat) (s : State) : Prop :=
  (s.sess i).wpc = .flagSeen r ∨ carries (s.sess i).wpc = some (r, .interrupted) ∨
  (∃ msgs, (s.sess i).wpc = .sending r msgs ∧ Msg.done r .interrupted ∈ msgs) ∨
  Msg.done r .interrupted ∈ s.respQ

/-- An eval of session `i` ends (or never starts) without another flag test; of which request, the
label does not say. -/
def EndsUntested (i : Nat) (l : Label) : Prop :=
  (∃ v, l = .wFinish i v) ∨ (∃ t, l = .wAct i (.raise t)) ∨ l = .wStart i .query ∨
  (∃ t, l = .wStart i (.parseError t))

theorem mem_sendChunk {m : Msg} {q : List Msg} {k : Stream} {r : Nat} {d : Data} (h : m ∈ q) :
    m ∈ sendChunk q k r d := by
  rw [sendChunk_eq]
  exact List.mem_append_left _ h

-- No proof calls this macro.
set_option linter.unusedVariables false in
macro "sess_case" hs:ident i:ident j:ident h:ident : tactic => `(tactic| (
  simp only [step] at $hs:ident
  (repeat' (split at $hs:ident))
  all_goals (first | (simp only [reduceCtorEq] at $hs:ident; done) | skip)
  all_goals (
    cases $hs:ident
    (by_cases hii : $i = $j) <;>
      (first
        | (subst hii; simp_all [setSess, upd, executing, carries, resMsgs])
        | simp_all [setSess, upd]))
  all_goals (try grind)))

theorem armed_keep {i r : Nat} {s s' : State} (hw : (s'.sess i).wpc = (s.sess i).wpc)
    (hf : (s.sess i).flag = true → (s'.sess i).flag = true) (hq : ∃ ms, s'.respQ = s.respQ ++ ms)
    (h : Armed i r s ∨ Doomed i r s) : Armed i r s' ∨ Doomed i r s' := by
  obtain ⟨ms, hq⟩ := hq
  unfold Armed Doomed at *
  rw [hw, hq]
  exact h.imp (fun h => ⟨hf h.1, h.2⟩)
    (fun h => h.imp_right (.imp_right (.imp_right (List.mem_append_left _))))

theorem armed_step (i r : Nat) (s s' : State) (l : Label) (hI : Inv s) (hs : step s l = some s')
    (h : Armed i r s ∨ Doomed i r s) : Armed i r s' ∨ Doomed i r s' ∨ EndsUntested i l := by
  rcases step_sess hs i with hl | ⟨lv, q, f, hss, hf⟩ | ⟨_, hi, hss⟩
  · obtain ⟨-, -, ms, hq, ⟨fp, ob, eb, hss⟩ | hW⟩ := step_own hl hs
    · exact (armed_keep (by rw [hss]) (by rw [hss]; exact id) ⟨ms, hq⟩ h).imp_right Or.inl
    -- a step of the worker of `i`: follow its control flow
    · unfold Armed Doomed EndsUntested at *
      rw [hq]
      generalize (s.sess i).flag = f, (s.sess i).wpc = w, (s'.sess i).flag = f',
        (s'.sess i).wpc = w' at h hW ⊢
      cases hW
      case query => exact Or.inr (Or.inr (Or.inr (Or.inr (Or.inl rfl))))
      case parseError q t => exact Or.inr (Or.inr (Or.inr (Or.inr (Or.inr ⟨t, rfl⟩))))
      case raise r' t => exact Or.inr (Or.inr (Or.inr (Or.inl ⟨t, rfl⟩)))
      case finish r' v defs => exact Or.inr (Or.inr (Or.inl ⟨v, rfl⟩))
      case act r' a ha =>
        rcases h with ⟨hf, h, -⟩ | ⟨⟨⟩⟩ | ⟨⟨⟩⟩ | ⟨_, ⟨⟩, -⟩ | h
        · exact Or.inl ⟨hf, h, fun h => nomatch h⟩
        · exact Or.inr (Or.inl (Or.inr (Or.inr (Or.inr (List.mem_append_left _ h)))))
      case sendErr r' res d =>
        rcases h with ⟨-, ⟨⟩, -⟩ | ⟨⟨⟩⟩ | ⟨⟨⟩⟩ | ⟨_, ⟨⟩, -⟩ | h
        · exact Or.inr (Or.inl (Or.inr (Or.inr (Or.inl ⟨_, rfl, by simp [resMsgs]⟩))))
        · exact Or.inr (Or.inl (Or.inr (Or.inr (Or.inr (List.mem_append_left _ h)))))
      case send r' m m' rest =>
        rcases h with ⟨-, ⟨⟩, -⟩ | ⟨⟨⟩⟩ | ⟨⟨⟩⟩ | ⟨_, ⟨⟩, hm⟩ | h
        · rcases List.mem_cons.mp hm with rfl | hm
          · exact Or.inr (Or.inl (Or.inr (Or.inr (Or.inr (by simp)))))
          · exact Or.inr (Or.inl (Or.inr (Or.inr (Or.inl ⟨_, rfl, hm⟩))))
        · exact Or.inr (Or.inl (Or.inr (Or.inr (Or.inr (List.mem_append_left _ h)))))
      case sendLast r' m =>
        rcases h with ⟨-, ⟨⟩, -⟩ | ⟨⟨⟩⟩ | ⟨⟨⟩⟩ | ⟨_, ⟨⟩, hm⟩ | h
        · cases List.mem_singleton.mp hm
          exact Or.inr (Or.inl (Or.inr (Or.inr (Or.inr (by simp)))))
        · exact Or.inr (Or.inl (Or.inr (Or.inr (Or.inr (List.mem_append_left _ h)))))
      -- the other steps keep the request armed (`parsed`, `spawn`) or move it along the doomed pcs;
      -- `testSet` is where an armed request becomes doomed
      all_goals simpa [executing, carries, chunk?] using h
  · refine (armed_keep (by rw [hss]) ?_ (step_respQ hs) h).imp_right Or.inl
    rw [hss]
    rcases hf with rfl | ⟨rfl, -⟩
    · exact id
    · exact fun _ => rfl
  -- `clone` creates `i`: nothing was executing there
  · have hu := hI.unborn i (by omega)
    obtain ⟨ms, hq⟩ := step_respQ hs
    unfold Armed Doomed at *
    rw [hu] at h
    rw [hq]
    simp [executing, carries] at h
    exact Or.inr (Or.inl (Or.inr (Or.inr (Or.inr (List.mem_append_left _ h)))))

theorem armed_run (i r : Nat) (ls : List Label) (s s' : State) (hR : Reachable s)
    (hr : run s ls = some s') (h : Armed i r s ∨ Doomed i r s) :
    Armed i r s' ∨ Doomed i r s' ∨ ∃ l ∈ ls, EndsUntested i l :=
  or_assoc.mp (run_invariant (P := fun s => Armed i r s ∨ Doomed i r s)
    (fun s s' l hR hs h => or_assoc.mpr (armed_step i r s s' l (Inv_reachable hR) hs h))
    ls s s' hR hr h)

theorem flagstore_arms {s s1 : State} {i r : Nat} {m : ClientMsg}
    (hm : m = .interrupt i ∨ m = .close i) (hlive : (s.sess i).live = true)
    (hex : executing (s.sess i).wpc = some r) (hs : step s (.client m) = some s1) :
    Armed i r s1 ∨ Doomed i r s1 := by
  have hss : s1.sess i = { s.sess i with flag := true } := by
    rcases hm with rfl | rfl <;> simp only [step] at hs <;> split at hs <;>
      first
      | cases hs
      | (rw [if_pos hlive] at hs; cases hs; exact upd_same ..)
  unfold Armed Doomed
  rw [hss]
  by_cases hf : (s.sess i).wpc = .flagSeen r
  · exact Or.inr (Or.inl hf)
  · exact Or.inl ⟨rfl, hex, hf⟩

/-- **Sentence 1.** If the reader handles `interrupt` for session `i` while `r` is executing there
(after its flag reset, before the end of its eval), then along every continuation: `r` is still
armed (flag set, next flag test will read it), or it is doomed to end `interrupted` (its `done`
carries status `interrupted`), or some label of the run is the end of an eval of session `i` without
another flag test (not necessarily `r`'s: see the file head). -/
theorem interrupt_hits_running (s s1 s' : State) (i r : Nat) (ls : List Label) (hR : Reachable s)
    (hlive : (s.sess i).live = true) (hex : executing (s.sess i).wpc = some r)
    (hs : step s (.client (.interrupt i)) = some s1) (hrun : run s1 ls = some s') :
    Armed i r s' ∨ Doomed i r s' ∨ ∃ l ∈ ls, EndsUntested i l :=
  armed_run i r ls s1 s' (Reachable.step hR hs) hrun (flagstore_arms (Or.inl rfl) hlive hex hs)

/-- **Sentence 3, with the hypothesis that excludes the `close-before-reset` window.** As
`interrupt_hits_running`, for `close`. -/
theorem close_stops_partial (s s1 s' : State) (i r : Nat) (ls : List Label) (hR : Reachable s)
    (hlive : (s.sess i).live = true) (hex : executing (s.sess i).wpc = some r)
    (hs : step s (.client (.close i)) = some s1) (hrun : run s1 ls = some s') :
    Armed i r s' ∨ Doomed i r s' ∨ ∃ l ∈ ls, EndsUntested i l :=
  armed_run i r ls s1 s' (Reachable.step hR hs) hrun (flagstore_arms (Or.inr rfl) hlive hex hs)

theorem armed_test_sees_flag (s s' : State) (i r : Nat) (h : Armed i r s)
    (hpc : (s.sess i).wpc = .evaluating r) (hs : step s (.wTest i) = some s') :
    (s'.sess i).wpc = .flagSeen r := by
  simp only [step, hpc, h.1, if_true] at hs
  cases hs
  simp [setSess, upd]

theorem doomed_final (s : State) (i r : Nat) (h : Doomed i r s) (hc : cur (s.sess i).wpc ≠ some r) :
    Msg.done r .interrupted ∈ s.respQ := by
  rcases h with h | h | ⟨msgs, h, _⟩ | h
  · rw [h] at hc; exact absurd rfl hc
  · exact absurd (carries_cur h) hc
  · rw [h] at hc; exact absurd rfl hc
  · exact h

theorem closed_session_unknown (s s' : State) (i : Nat) (k : ReqKind)
    (hdead : (s.sess i).live = false) (hs : step s (.client (.evalLike i k)) = some s') :
    s'.respQ = s.respQ ++ [.done s.nextRid .unknownSession] := by
  simp only [step] at hs
  split at hs <;> (try (simp only [reduceCtorEq] at hs; done))
  simp [hdead] at hs
  cases hs
  rfl

theorem reset_clears_flag (s s' : State) (i : Nat) (hs : step s (.wReset i) = some s') :
    (s'.sess i).flag = false ∧ ∃ q, (s'.sess i).wpc = .ready q := by
  simp only [step] at hs
  split at hs <;> (try (simp only [reduceCtorEq] at hs; done))
  cases hs
  simp [setSess, upd]

theorem evalSrc_ne_interrupted (defs : List (Data × Data)) (x : ValSrc) :
    evalSrc defs x ≠ .interrupted := by
  cases x with
  | lit v => simp [evalSrc]
  | var y => simp only [evalSrc]; split <;> simp

def Clean (i : Nat) (s : State) : Prop :=
  (s.sess i).flag = false ∧ (∀ r, (s.sess i).wpc ≠ .flagSeen r) ∧
  (∀ r, carries (s.sess i).wpc ≠ some (r, .interrupted)) ∧
  (∀ r msgs, (s.sess i).wpc = .sending r msgs → ∀ r', Msg.done r' .interrupted ∉ msgs)

theorem clean_step (i : Nat) (s s' : State) (l : Label) (hs : step s l = some s')
    (hl : l ≠ .client (.interrupt i)) (hl' : l ≠ .client (.close i)) (h : Clean i s) : Clean i s' := by
  unfold Clean at *
  rcases step_sess hs i with hi | ⟨lv, q, f, hss, hf⟩ | ⟨_, -, hss⟩
  · obtain ⟨-, -, ms, -, ⟨fp, ob, eb, hss⟩ | hW⟩ := step_own hi hs
    · rw [hss]; exact h
    · generalize (s.sess i).flag = f, (s.sess i).wpc = w, (s'.sess i).flag = f',
        (s'.sess i).wpc = w' at h hW ⊢
      cases hW
      case testSet => cases h.1
      case clear r' => exact absurd rfl (h.2.1 r')
      case reset | testClear => simp [carries]
      case finish =>
        simp [carries] at h ⊢
        exact ⟨h, evalSrc_ne_interrupted _ _⟩
      case sendErr r' res d =>
        simp [carries] at h ⊢
        refine ⟨h.1, fun r'' => ?_⟩
        cases res <;> simp [resMsgs] at h ⊢
      case send =>
        simp [carries] at h ⊢
        exact ⟨h.1, fun r' => (h.2 r').2⟩
      case sendLast =>
        simp [carries] at h ⊢
        exact h.1
      all_goals simpa [carries] using h
  · rw [hss]
    rcases hf with rfl | ⟨-, hc | hc⟩
    · exact h
    · exact absurd hc hl'
    · exact absurd hc hl
  · rw [hss]
    refine ⟨rfl, ?_, ?_, ?_⟩ <;> simp [carries]

/-- **Sentence 2.** From a state in which session `i`'s flag is clear (in particular right after
`wReset`, whatever was stored while idle) and along every run that handles no `interrupt`/`close`
for `i`, the worker of `i` never reads a set flag and never builds an `interrupted` response. -/
theorem idle_interrupt_harmless (i : Nat) : ∀ (ls : List Label) (s s' : State), Reachable s →
    Clean i s → run s ls = some s' →
    (∀ l ∈ ls, l ≠ .client (.interrupt i) ∧ l ≠ .client (.close i)) → Clean i s' := by
  intro ls s s' hR h hr hls
  refine (run_invariant (P := Clean i)
    (E := fun l => l = .client (.interrupt i) ∨ l = .client (.close i)) ?_ ls s s' hR hr h).resolve_right
    fun ⟨l, hl, he⟩ => he.elim (hls l hl).1 (hls l hl).2
  intro s s' l _ hs h
  by_cases hl : l = .client (.interrupt i)
  · exact Or.inr (Or.inl hl)
  by_cases hl' : l = .client (.close i)
  · exact Or.inr (Or.inr hl')
  exact Or.inl (clean_step i s s' l hs hl hl' h)

/-- `close` handled between the dequeue and the flag reset of request 1: the reset clears the
flag, `interrupt` answers unknown-session, and request 1 completes normally (`done 1 ok`). -/
theorem close_before_reset_unstoppable :
    (run init [.client .clone, .client (.evalLike 1 .eval), .wDequeue 1, .client (.close 1), .reader,
      .reader, .wReset 1, .client (.interrupt 1), .wStart 1 (.ok none), .wSpawn 1, .wTest 1,
      .wAct 1 .nop, .wFinish 1 (.lit ['1']), .wStop 1, .fStop 1, .wJoin 1, .wTakeOut 1, .wSendOut 1,
      .wTakeErr 1, .wSendErr 1, .wSend 1, .wSend 1]).map (·.respQ) =
    some [.done 0 (.newSession 1), .done 2 .sessionClosed, .done 3 .unknownSession,
          .res 1 (.value ['1']), .done 1 .ok] := by
  decide +kernel

-- the first session has number 1, as in the run above
example : ∃ s, step init (.client .clone) = some s ∧ (s.sess 1).live = true := ⟨_, rfl, rfl⟩

end C31
