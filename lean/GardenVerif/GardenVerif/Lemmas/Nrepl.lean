import GardenVerif.Model.Nrepl
/-!
Lemmas over M10 for C30 and C31: the observations `phase` and `deliv` on the response queue; the
invariant `Inv`, assembled by `Inv_of` after a step on one session and one request; what a step
leaves alone (`step_sess`, `step_own`) and the worker's control flow `WStep`, from which C31's step
lemmas and the isolation of sessions follow.
-/

namespace Nrepl

inductive Phase where
  | open | closed | bad
  deriving DecidableEq, Repr

/-- One step of the per-id protocol automaton: `open` until the first `done`, then `closed`;
anything with that id after `done` is `bad`. -/
def stepPhase (r : Nat) (p : Phase) (m : Msg) : Phase :=
  if m.rid = r then
    match p with
    | .open => if m.isDone then .closed else .open
    | _ => .bad
  else p

def phase (r : Nat) (q : List Msg) : Phase := q.foldl (stepPhase r) .open

def chunkOf (k : Stream) (r : Nat) : Msg → Data
  | .chunk k' r' d => if k' = k ∧ r' = r then d else []
  | _ => []

def deliv (k : Stream) (r : Nat) : List Msg → Data
  | [] => []
  | m :: q => chunkOf k r m ++ deliv k r q

theorem phase_append (r : Nat) (q : List Msg) (m : Msg) :
    phase r (q ++ [m]) = stepPhase r (phase r q) m := by
  simp [phase, List.foldl_append]

theorem deliv_append (k : Stream) (r : Nat) (q q' : List Msg) :
    deliv k r (q ++ q') = deliv k r q ++ deliv k r q' := by
  induction q with
  | nil => simp [deliv]
  | cons m q ih => simp [deliv, ih]

theorem phase_append_ne {r : Nat} {q : List Msg} {m : Msg} (h : m.rid ≠ r) :
    phase r (q ++ [m]) = phase r q := by
  simp [phase_append, stepPhase, h]

theorem deliv_none (k : Stream) (r : Nat) (post : List Msg) (h : ∀ m ∈ post, m.rid ≠ r) :
    deliv k r post = [] := by
  induction post with
  | nil => rfl
  | cons m post ih =>
    have hm := h m (by simp)
    have : chunkOf k r m = [] := by
      cases m <;> simp_all [chunkOf, Msg.rid]
    simp only [deliv, this, List.nil_append]
    exact ih (fun m' hm' => h m' (by simp [hm']))

def chunk? (k : Stream) (r : Nat) (d : Data) : List Msg := if d = [] then [] else [.chunk k r d]

theorem sendChunk_eq (q : List Msg) (k : Stream) (r : Nat) (d : Data) :
    sendChunk q k r d = q ++ chunk? k r d := by
  unfold sendChunk chunk?; split <;> simp

theorem deliv_chunk? (k' k : Stream) (r : Nat) (d : Data) :
    deliv k' r (chunk? k r d) = if k = k' then d else [] := by
  unfold chunk?
  split
  · next h => simp [h, deliv]
  · simp [deliv, chunkOf]

def Quiet (r : Nat) (ms : List Msg) : Prop := ∀ m ∈ ms, m.rid = r ∧ m.isDone = false

theorem Quiet.nil {r : Nat} : Quiet r [] := nofun

theorem Quiet.res {r : Nat} {b : Body} : Quiet r [.res r b] :=
  fun _ hm => List.mem_singleton.mp hm ▸ ⟨rfl, rfl⟩

theorem Quiet.chunk {r : Nat} {k : Stream} {d : Data} : Quiet r (chunk? k r d) := by
  unfold chunk?
  split
  · exact nofun
  · exact fun _ hm => List.mem_singleton.mp hm ▸ ⟨rfl, rfl⟩

theorem phase_quiet {r : Nat} {ms : List Msg} (hm : Quiet r ms) {q : List Msg}
    (h : phase r q = .open) : phase r (q ++ ms) = .open := by
  induction ms generalizing q with
  | nil => rwa [List.append_nil]
  | cons m ms ih =>
    rw [List.append_cons]
    refine ih (fun x hx => hm x (List.mem_cons_of_mem _ hx)) ?_
    obtain ⟨h1, h2⟩ := hm m List.mem_cons_self
    simp [phase_append, stepPhase, h, h1, h2]

theorem append_other {r : Nat} {ms : List Msg} (hm : ∀ m ∈ ms, m.rid = r) (q : List Msg) :
    ∀ r', r' ≠ r → phase r' (q ++ ms) = phase r' q ∧ ∀ k, deliv k r' (q ++ ms) = deliv k r' q := by
  intro r' hne
  refine ⟨?_, fun k => by
    rw [deliv_append, deliv_none k r' ms fun m h => by rw [hm m h]; exact hne.symm, List.append_nil]⟩
  induction ms generalizing q with
  | nil => rw [List.append_nil]
  | cons m ms ih =>
    rw [List.append_cons, ih fun x hx => hm x (List.mem_cons_of_mem _ hx),
      phase_append_ne (by rw [hm m List.mem_cons_self]; exact hne.symm)]

theorem phase_done_closed {r : Nat} {q : List Msg} {st : Status} (h : phase r q = .open) :
    phase r (q ++ [.done r st]) = .closed := by
  simp [phase_append, stepPhase, h, Msg.rid, Msg.isDone]

theorem foldl_phase (r : Nat) : ∀ (q : List Msg) (p : Phase),
    (q.foldl (stepPhase r) p = .open → p = .open ∧ ∀ m ∈ q, m.rid = r → m.isDone = false) ∧
    (q.foldl (stepPhase r) p = .closed →
      (p = .closed ∧ ∀ m ∈ q, m.rid ≠ r) ∨
      (p = .open ∧ ∃ pre st post, q = pre ++ Msg.done r st :: post ∧
        (∀ m ∈ pre, m.rid = r → m.isDone = false) ∧ ∀ m ∈ post, m.rid ≠ r))
  | [], p => ⟨fun h => ⟨h, fun _ hm => nomatch hm⟩, fun h => Or.inl ⟨h, fun _ hm => nomatch hm⟩⟩
  | m :: q, p => by
    obtain ⟨ih1, ih2⟩ := foldl_phase r q (stepPhase r p m)
    rw [List.foldl_cons]
    -- the first message leaves the state alone, or it is the first message with id `r`
    have hm : (m.rid ≠ r ∧ stepPhase r p m = p) ∨
        (m.rid = r ∧ (p = .open ∧ stepPhase r p m = (if m.isDone then .closed else .open) ∨
          p ≠ .open ∧ stepPhase r p m = .bad)) := by
      unfold stepPhase
      by_cases h : m.rid = r
      · cases p <;> simp [h]
      · simp [h]
    constructor
    · intro h
      obtain ⟨h1, hq⟩ := ih1 h
      rcases hm with ⟨hne, he⟩ | ⟨heq, ⟨hp, he⟩ | ⟨_, he⟩⟩
      · exact ⟨he ▸ h1, List.forall_mem_cons.mpr ⟨fun hr => absurd hr hne, hq⟩⟩
      · rw [he] at h1
        have hd : m.isDone = false := by cases hd : m.isDone <;> simp [hd] at h1 ⊢
        exact ⟨hp, List.forall_mem_cons.mpr ⟨fun _ => hd, hq⟩⟩
      · rw [he] at h1; cases h1
    · intro h
      rcases ih2 h with ⟨h1, hq⟩ | ⟨h1, pre, st, post, rfl, hpre, hpost⟩
      · rcases hm with ⟨hne, he⟩ | ⟨heq, ⟨hp, he⟩ | ⟨_, he⟩⟩
        · exact Or.inl ⟨he ▸ h1, fun m' hm' => (List.mem_cons.mp hm').elim (fun e => e ▸ hne) (hq m')⟩
        · rw [he] at h1
          cases m <;> simp [Msg.isDone] at h1
          cases heq
          refine Or.inr ⟨hp, [], _, q, rfl, ?_, hq⟩
          intro _ hm
          cases hm
        · rw [he] at h1; cases h1
      · have hno : m.rid = r → m.isDone = false := by
          intro heq
          rcases hm with ⟨hne, _⟩ | ⟨_, ⟨_, he⟩ | ⟨_, he⟩⟩
          · exact absurd heq hne
          · rw [he] at h1; cases hd : m.isDone <;> simp [hd] at h1 ⊢
          · rw [he] at h1; cases h1
        have hp : p = .open := by
          rcases hm with ⟨_, he⟩ | ⟨_, ⟨hp, _⟩ | ⟨_, he⟩⟩
          · exact he ▸ h1
          · exact hp
          · rw [he] at h1; cases h1
        exact Or.inr ⟨hp, m :: pre, st, post, rfl, List.forall_mem_cons.mpr ⟨hno, hpre⟩, hpost⟩

def fRid : FPc → Option Nat
  | .waiting r | .tookOut r _ | .mid r | .tookErr r _ => some r
  | .none | .exited => none

def inflF (k : Stream) : FPc → Data
  | .tookOut _ d => if k = .out then d else []
  | .tookErr _ d => if k = .err then d else []
  | _ => []

def inflW (k : Stream) : WPc → Data
  | .tookOut _ _ d => if k = .out then d else []
  | .tookErr _ _ d => if k = .err then d else []
  | _ => []

def msgsOk (r : Nat) : List Msg → Bool
  | [] => false
  | [.done r' _] => r' == r
  | (.res r' _) :: rest => r' == r && msgsOk r rest
  | _ => false

/-- `joined` constrains only the flusher: the buffers are emptied by the worker's final drain, `outBuf`
first. `sending` allows `fpc = .none` because a query or a parse error goes from `ready` straight to
`sending`, without a flusher. -/
def PcOk (ss : Sess) : Prop :=
  match ss.wpc with
  | .idle | .exited | .dequeued _ | .ready _ | .parsed _ =>
    ss.fpc = .none ∧ ss.outBuf = [] ∧ ss.errBuf = [] ∧ ss.stop = false
  | .evaluating r | .running r | .flagSeen r | .evalDone r _ => fRid ss.fpc = some r ∧ ss.stop = false
  | .stopRequested r _ => (fRid ss.fpc = some r ∨ ss.fpc = .exited) ∧ ss.stop = true
  | .joined _ _ => ss.fpc = .exited
  | .tookOut _ _ _ | .drainedOut _ _ => ss.fpc = .exited ∧ ss.outBuf = []
  | .tookErr _ _ _ => ss.fpc = .exited ∧ ss.outBuf = [] ∧ ss.errBuf = []
  | .sending r msgs =>
    (ss.fpc = .exited ∨ ss.fpc = .none) ∧ ss.outBuf = [] ∧ ss.errBuf = [] ∧ msgsOk r msgs = true

/-- Per request id. `produced = delivered ++ in flight (flusher) ++ in flight (drain) ++ buffered`. -/
def RInv (s : State) (r : Nat) : Prop :=
  match s.rstat r with
  | .unseen | .queued _ | .direct =>
    phase r s.respQ = .open ∧ ∀ k, deliv k r s.respQ = [] ∧ s.produced k r = []
  | .active i =>
    cur (s.sess i).wpc = some r ∧ phase r s.respQ = .open ∧
    ∀ k, s.produced k r =
      deliv k r s.respQ ++ inflF k (s.sess i).fpc ++ inflW k (s.sess i).wpc ++ (s.sess i).buf k
  | .finished => phase r s.respQ = .closed ∧ ∀ k, s.produced k r = deliv k r s.respQ

structure SInv (s : State) (i : Nat) : Prop where
  queued : ∀ q ∈ (s.sess i).queue, s.rstat q.rid = .queued i
  nodup : ((s.sess i).queue.map Req.rid).Nodup
  curr : ∀ r, cur (s.sess i).wpc = some r → s.rstat r = .active i
  pc : PcOk (s.sess i)

def RpcOk (s : State) : Prop :=
  match s.rpc with
  | .idle => True
  | .closing _ r => s.rstat r = .direct
  | .reply m => m.isDone = true ∧ s.rstat m.rid = .direct

structure Inv (s : State) : Prop where
  fresh : ∀ r, s.nextRid ≤ r → s.rstat r = .unseen
  unborn : ∀ j, s.nextSess < j → (s.sess j).wpc = .exited
  rpc : RpcOk s
  sess : ∀ i, SInv s i
  req : ∀ r, RInv s r

/-- The parts of a session record `Inv` reads. -/
def SameCore (a b : Sess) : Prop :=
  a.queue = b.queue ∧ a.wpc = b.wpc ∧ a.fpc = b.fpc ∧ a.stop = b.stop ∧ a.outBuf = b.outBuf ∧
    a.errBuf = b.errBuf

theorem SameCore.rfl' {a : Sess} : SameCore a a := ⟨rfl, rfl, rfl, rfl, rfl, rfl⟩

theorem SameCore.of_eq {a b : Sess} (h : a = b) : SameCore a b := h ▸ SameCore.rfl'

def SameOut (a b : Sess) : Prop :=
  a.wpc = b.wpc ∧ a.fpc = b.fpc ∧ a.outBuf = b.outBuf ∧ a.errBuf = b.errBuf

theorem SameOut.of_eq {a b : Sess} (h : a = b) : SameOut a b := h ▸ ⟨rfl, rfl, rfl, rfl⟩

theorem SameCore.out {a b : Sess} (h : SameCore a b) : SameOut a b := ⟨h.2.1, h.2.2.1, h.2.2.2.2⟩

theorem RInv_frame {s s' : State} {r : Nat} (h : RInv s r)
    (hst : s'.rstat r = s.rstat r)
    (hprod : ∀ k, s'.produced k r = s.produced k r)
    (hsess : ∀ i, s.rstat r = .active i → SameOut (s'.sess i) (s.sess i))
    (hph : phase r s'.respQ = phase r s.respQ)
    (hdl : ∀ k, deliv k r s'.respQ = deliv k r s.respQ) : RInv s' r := by
  unfold RInv at *
  rw [hst]
  split
  · simp_all
  · simp_all
  · simp_all
  · rename_i i hi
    obtain ⟨h2, h3, h5, h6⟩ := hsess i hi
    simp only [hi] at h
    refine ⟨by rw [h2]; exact h.1, by rw [hph]; exact h.2.1, ?_⟩
    intro k
    rw [hprod, hdl, h2, h3, h.2.2 k]
    cases k <;> simp [Sess.buf, h5, h6]
  · simp_all

theorem SInv_same {s s' : State} {j : Nat} (h : SInv s j)
    (hsess : SameCore (s'.sess j) (s.sess j))
    (hst : ∀ r, s.rstat r = .queued j ∨ s.rstat r = .active j → s'.rstat r = s.rstat r) :
    SInv s' j := by
  obtain ⟨h1, h2, h3, h4, h5, h6⟩ := hsess
  refine ⟨?_, ?_, ?_, ?_⟩
  · rw [h1]; intro q hq
    have := h.queued q hq
    rw [hst _ (Or.inl this)]; exact this
  · rw [h1]; exact h.nodup
  · rw [h2]; intro r hr
    have := h.curr r hr
    rw [hst _ (Or.inr this)]; exact this
  · have := h.pc
    unfold PcOk at *
    rw [h2, h3, h4, h5, h6]; exact this

theorem Inv_init : Inv init := by
  refine ⟨?_, ?_, ?_, ?_, ?_⟩
  · intro r _; rfl
  · intro j _; rfl
  · simp [RpcOk, init]
  · intro i
    refine ⟨?_, ?_, ?_, ?_⟩ <;> simp [init, cur, PcOk]
  · intro r
    simp [RInv, init, phase, deliv]

theorem upd_same {α : Type} (f : Nat → α) (i : Nat) (v : α) : upd f i v i = v := by simp [upd]
theorem upd_ne {α : Type} (f : Nat → α) {i j : Nat} (v : α) (h : j ≠ i) : upd f i v j = f j := by
  simp [upd, h]

@[simp] theorem setSess_sess_self (s : State) (i : Nat) (ss : Sess) : (setSess s i ss).sess i = ss :=
  upd_same _ _ _

def Label.sess : Label → Option Nat
  | .client _ | .reader => none
  | .wDequeue i | .wExit i | .wReset i | .wStart i _ | .wSpawn i | .wTest i | .wClear i | .wAct i _
  | .wFinish i _ | .wStop i | .wJoin i | .wTakeOut i | .wSendOut i | .wTakeErr i | .wSendErr i
  | .wSend i | .fTakeOut i | .fSendOut i | .fTakeErr i | .fSendErr i | .fStop i => some i

/-- The worker's control flow on flag and pc, with the messages sent. An over-approximation of
`step`: the guards on the rest of the session record (queue, `live`, flusher pc) and the data a step
reads from it (the dequeued request, the drained buffer) are left free. -/
inductive WStep (i : Nat) : Label → Bool → WPc → Bool → WPc → List Msg → Prop
  | dequeue {f} q : WStep i (.wDequeue i) f .idle f (.dequeued q) []
  | exit {f} : WStep i (.wExit i) f .idle f .exited []
  | reset {f} q : WStep i (.wReset i) f (.dequeued q) false (.ready q) []
  | query {f} q : WStep i (.wStart i .query) f (.ready q) f (.sending q.rid [.done q.rid .ok]) []
  | parseError {f} q t : WStep i (.wStart i (.parseError t)) f (.ready q) f
      (.sending q.rid [.res q.rid (.errText t), .done q.rid .evalError]) []
  | parsed {f} q : WStep i (.wStart i (.ok none)) f (.ready q) f (.parsed q.rid) []
  | parsedWarn {f} q w : WStep i (.wStart i (.ok (some w))) f (.ready q) f (.parsed q.rid)
      [.res q.rid (.warn w)]
  | spawn {f} r : WStep i (.wSpawn i) f (.parsed r) f (.evaluating r) []
  | testSet r : WStep i (.wTest i) true (.evaluating r) true (.flagSeen r) []
  | testClear r : WStep i (.wTest i) false (.evaluating r) false (.running r) []
  | clear {f} r : WStep i (.wClear i) f (.flagSeen r) false (.evalDone r .interrupted) []
  | act {f} r a : (∀ t, a ≠ .raise t) → WStep i (.wAct i a) f (.running r) f (.evaluating r) []
  | raise {f} r t : WStep i (.wAct i (.raise t)) f (.running r) f (.evalDone r (.error t)) []
  | finish {f} r v defs : WStep i (.wFinish i v) f (.evaluating r) f (.evalDone r (evalSrc defs v)) []
  | stop {f} r res : WStep i (.wStop i) f (.evalDone r res) f (.stopRequested r res) []
  | join {f} r res : WStep i (.wJoin i) f (.stopRequested r res) f (.joined r res) []
  | takeOut {f} r res d : WStep i (.wTakeOut i) f (.joined r res) f (.tookOut r res d) []
  | sendOut {f} r res d : WStep i (.wSendOut i) f (.tookOut r res d) f (.drainedOut r res)
      (chunk? .out r d)
  | takeErr {f} r res d : WStep i (.wTakeErr i) f (.drainedOut r res) f (.tookErr r res d) []
  | sendErr {f} r res d : WStep i (.wSendErr i) f (.tookErr r res d) f (.sending r (resMsgs r res))
      (chunk? .err r d)
  | send {f} r m m' rest : WStep i (.wSend i) f (.sending r (m :: m' :: rest)) f
      (.sending r (m' :: rest)) [m]
  | sendLast {f} r m : WStep i (.wSend i) f (.sending r [m]) f .idle [m]

theorem step_own {s s' : State} {l : Label} {i : Nat} (hl : l.sess = some i)
    (hs : step s l = some s') :
    (∀ k, k ≠ i → s'.sess k = s.sess k) ∧
    ((s'.sess i).defs = (s.sess i).defs ∨ ∃ x v, l = .wAct i (.define x v)) ∧
    ∃ ms, s'.respQ = s.respQ ++ ms ∧
      ((∃ fp ob eb, s'.sess i = { s.sess i with fpc := fp, outBuf := ob, errBuf := eb }) ∨
        WStep i l (s.sess i).flag (s.sess i).wpc (s'.sess i).flag (s'.sess i).wpc ms) := by
  cases l <;> cases hl <;> rw [step] at hs
  all_goals repeat' split at hs
  all_goals cases hs
  all_goals refine ⟨fun _ h => upd_ne _ _ h, ?_⟩
  all_goals first
    | refine ⟨Or.inl (congrArg Sess.defs (upd_same s.sess _ _) :), ?_⟩
    | refine ⟨Or.inr ⟨_, _, rfl⟩, ?_⟩
  all_goals first
    | refine ⟨_, (List.append_nil _).symm, ?_⟩
    | refine ⟨_, rfl, ?_⟩
    | refine ⟨_, sendChunk_eq .., ?_⟩
  all_goals first
    | (right; simp only [setSess_sess_self, upd_same, *]; constructor)
    | exact Or.inl ⟨_, _, _, upd_same ..⟩
  all_goals exact fun _ h => nomatch h

/-- All that a step of the reader does to an existing session; it sets the flag only under `c`. -/
def ReaderTouch (c : Prop) (ss ss' : Sess) : Prop :=
  ∃ lv q f, ss' = { ss with live := lv, queue := q, flag := f } ∧ (f = ss.flag ∨ f = true ∧ c)

theorem ReaderTouch.refl (c : Prop) (ss : Sess) : ReaderTouch c ss ss := ⟨_, _, _, rfl, Or.inl rfl⟩

theorem ReaderTouch.upd {c : Prop} {f : Nat → Sess} {i0 i : Nat} {v : Sess}
    (h : i = i0 → ReaderTouch c (f i) v) : ReaderTouch c (f i) (upd f i0 v i) := by
  unfold Nrepl.upd
  split
  · exact h ‹_›
  · exact .refl _ _

theorem step_reader {s s' : State} {l : Label} (hl : l.sess = none) (hs : step s l = some s') :
    (∃ ms, s'.respQ = s.respQ ++ ms) ∧ ∀ i,
    ReaderTouch (l = .client (.close i) ∨ l = .client (.interrupt i)) (s.sess i) (s'.sess i) ∨
    (l = .client .clone ∧ i = s.nextSess + 1 ∧ s'.sess i = { live := true, wpc := .idle }) := by
  cases l <;> cases hl <;> simp only [step] at hs
  · split at hs
    · split at hs
      any_goals split at hs
      all_goals cases hs
      any_goals exact ⟨⟨_, rfl⟩, fun i => Or.inl (.refl _ _)⟩
      · refine ⟨⟨_, rfl⟩, fun i => ?_⟩
        by_cases hi : i = s.nextSess + 1
        · exact Or.inr ⟨rfl, hi, hi ▸ upd_same ..⟩
        · exact Or.inl (.upd fun h => absurd h hi)
      · exact ⟨⟨[], (List.append_nil _).symm⟩,
          fun i => Or.inl (.upd fun h => h ▸ ⟨_, _, _, rfl, Or.inr ⟨rfl, Or.inl rfl⟩⟩)⟩
      · exact ⟨⟨[], (List.append_nil _).symm⟩,
          fun i => Or.inl (.upd fun h => h ▸ ⟨_, _, _, rfl, Or.inr ⟨rfl, Or.inr rfl⟩⟩)⟩
      · exact ⟨⟨[], (List.append_nil _).symm⟩,
          fun i => Or.inl (.upd fun h => h ▸ ⟨_, _, _, rfl, Or.inl rfl⟩)⟩
    · cases hs
  · split at hs
    · cases hs
    · cases hs
      exact ⟨⟨[], (List.append_nil _).symm⟩,
        fun i => Or.inl (.upd fun h => h ▸ ⟨_, _, _, rfl, Or.inl rfl⟩)⟩
    · cases hs
      exact ⟨⟨_, rfl⟩, fun i => Or.inl (.refl _ _)⟩

theorem step_respQ {s s' : State} {l : Label} (hs : step s l = some s') :
    ∃ ms, s'.respQ = s.respQ ++ ms := by
  cases hl : l.sess with
  | none => exact (step_reader hl hs).1
  | some j => exact (step_own hl hs).2.2.imp fun _ h => h.1

theorem step_sess {s s' : State} {l : Label} (hs : step s l = some s') (i : Nat) :
    l.sess = some i ∨
    ReaderTouch (l = .client (.close i) ∨ l = .client (.interrupt i)) (s.sess i) (s'.sess i) ∨
    (l = .client .clone ∧ i = s.nextSess + 1 ∧ s'.sess i = { live := true, wpc := .idle }) := by
  cases hl : l.sess with
  | none => exact Or.inr ((step_reader hl hs).2 i)
  | some j =>
    by_cases hij : i = j
    · exact Or.inl (congrArg some hij.symm)
    · exact Or.inr (Or.inl ((step_own hl hs).1 i hij ▸ .refl _ _))

theorem PcOk.of_fRid {ss : Sess} {r : Nat} (h : PcOk ss) (hr : fRid ss.fpc = some r) :
    cur ss.wpc = some r ∧ ∀ k, inflW k ss.wpc = [] := by
  have hn : ss.fpc ≠ .none := by intro hh; rw [hh] at hr; cases hr
  have he : ss.fpc ≠ .exited := by intro hh; rw [hh] at hr; cases hr
  unfold PcOk at h
  cases hw : ss.wpc <;>
    simp only [hw, hn, he, hr, false_and, or_false, Option.some.injEq] at h <;>
    exact ⟨congrArg some h.1.symm, fun _ => rfl⟩

/-- While its flusher runs, `PcOk` constrains a session only through the request the flusher serves. -/
theorem PcOk_flusher {ss : Sess} {r : Nat} (f' : FPc) (ob eb : Data) (h : PcOk ss)
    (hr : fRid ss.fpc = some r) (hr' : fRid f' = some r) :
    PcOk { ss with fpc := f', outBuf := ob, errBuf := eb } := by
  have hn : ss.fpc ≠ .none := by intro hh; rw [hh] at hr; cases hr
  have he : ss.fpc ≠ .exited := by intro hh; rw [hh] at hr; cases hr
  unfold PcOk at h ⊢
  cases hw : ss.wpc <;>
    simp only [hw, hn, he, hr, false_and, or_false, Option.some.injEq] at h <;>
    simp only [hr', Option.some.injEq] <;> first | exact h | exact ⟨Or.inl h.1, h.2⟩

theorem PcOk_fStop {ss : Sess} {r : Nat} (h : PcOk ss) (hr : fRid ss.fpc = some r)
    (hst : ss.stop = true) : PcOk { ss with fpc := .exited } := by
  have hn : ss.fpc ≠ .none := by intro hh; rw [hh] at hr; cases hr
  have he : ss.fpc ≠ .exited := by intro hh; rw [hh] at hr; cases hr
  unfold PcOk at h ⊢
  cases hw : ss.wpc <;>
    simp only [hw, hn, he, hr, hst, false_and, or_false, and_false, reduceCtorEq] at h <;>
    exact ⟨Or.inr rfl, hst⟩

/-- `step` writes the history variables `intr` and `sawFlag`; no theorem reads them. -/
theorem Inv_ghost {s : State} (h : Inv s) (f g : Nat → Bool) :
    Inv { s with intr := f, sawFlag := g } := by
  obtain ⟨h1, h0, h2, h3, h4⟩ := h
  exact ⟨h1, h0, h2, fun i => ⟨(h3 i).1, (h3 i).2, (h3 i).3, (h3 i).4⟩, h4⟩

theorem active_cur {s : State} (h : Inv s) {i j r : Nat} (hcur : cur (s.sess i).wpc = some r)
    (hj : s.rstat r = .active j) : j = i := by
  have := (h.sess i).curr r hcur
  rw [hj] at this
  exact RStat.active.inj this

theorem active_is_cur {s : State} (h : Inv s) {j r : Nat} (hj : s.rstat r = .active j) :
    cur (s.sess j).wpc = some r := by
  have := h.req r
  unfold RInv at this
  simp only [hj] at this
  exact this.1

theorem active_ne {s : State} (h : Inv s) {i j r : Nat} (hcur : cur (s.sess i).wpc ≠ some r)
    (hj : s.rstat r = .active j) : j ≠ i :=
  fun hji => hcur (hji ▸ active_is_cur h hj)

/-- `Inv` after a step that touches one session `i` and the status of one request `r0`. `h0`: `r0` was
not queued or active in another session, so the other sessions' `SInv` does not see its new status.
A step that touches no session (the reader's direct replies) passes `i := 0`. -/
theorem Inv_of {s s' : State} (h : Inv s) (i r0 : Nat)
    (h0 : s.rstat r0 = .unseen ∨ s.rstat r0 = .direct ∨ s.rstat r0 = .queued i ∨ s.rstat r0 = .active i)
    (hfresh : ∀ r, s'.nextRid ≤ r → s.nextRid ≤ r ∧ s'.rstat r = s.rstat r)
    (hst : ∀ r, r ≠ r0 → s'.rstat r = s.rstat r)
    (hns : s'.nextSess = s.nextSess) (hoth : ∀ j, j ≠ i → s'.sess j = s.sess j)
    (hex : (s.sess i).wpc = .exited → (s'.sess i).wpc = .exited)
    (hrpc : RpcOk s') (hsi : SInv s' i) (hr0 : RInv s' r0)
    (hact : ∀ r, r ≠ r0 → s.rstat r = .active i → SameOut (s'.sess i) (s.sess i))
    (hprod : ∀ k r, r ≠ r0 → s'.produced k r = s.produced k r)
    (hq : ∀ r, r ≠ r0 → phase r s'.respQ = phase r s.respQ ∧ ∀ k, deliv k r s'.respQ = deliv k r s.respQ) :
    Inv s' := by
  refine ⟨fun r hr => ?_, fun j hj => ?_, hrpc, fun j => ?_, fun r => ?_⟩
  · rw [(hfresh r hr).2]; exact h.fresh r (hfresh r hr).1
  · rw [hns] at hj
    by_cases hji : j = i
    · subst hji; exact hex (h.unborn j hj)
    · rw [hoth j hji]; exact h.unborn j hj
  · by_cases hji : j = i
    · subst hji; exact hsi
    · refine SInv_same (h.sess j) (SameCore.of_eq (hoth j hji)) fun r hr => hst r ?_
      rintro rfl
      rcases h0 with h0 | h0 | h0 | h0 <;> rcases hr with hr | hr <;> rw [h0] at hr <;> cases hr <;>
        exact hji rfl
  · by_cases hrr : r = r0
    · subst hrr; exact hr0
    · refine RInv_frame (h.req r) (hst r hrr) (fun k => hprod k r hrr) (fun j hj => ?_) (hq r hrr).1 (hq r hrr).2
      by_cases hji : j = i
      · subst hji; exact hact r hrr hj
      · exact SameOut.of_eq (hoth j hji)

theorem fresh_ne {s : State} (h : Inv s) {r0 : Nat} {v : RStat} (hne : s.rstat r0 ≠ .unseen) :
    ∀ r, s.nextRid ≤ r → s.nextRid ≤ r ∧ upd s.rstat r0 v r = s.rstat r :=
  fun r hr => ⟨hr, upd_ne _ _ fun e => hne (e ▸ h.fresh r hr)⟩

def pending (k : Stream) (ss : Sess) : Data := inflF k ss.fpc ++ inflW k ss.wpc ++ ss.buf k

theorem Inv_emit {s : State} {i r : Nat} {ss' : Sess} {ms q' : List Msg} {p' : Stream → Nat → Data}
    {new : Stream → Data} (h : Inv s) (hcur0 : cur (s.sess i).wpc = some r)
    (hq : ss'.queue = (s.sess i).queue) (hcur : cur ss'.wpc = some r) (hpc : PcOk ss')
    (hq' : q' = s.respQ ++ ms) (hms : Quiet r ms)
    (hpo : ∀ k r', r' ≠ r → p' k r' = s.produced k r')
    (hpr : ∀ k, p' k r = s.produced k r ++ new k)
    (hsum : ∀ k, deliv k r ms ++ pending k ss' = pending k (s.sess i) ++ new k) :
    Inv { setSess s i ss' with respQ := q', produced := p' } := by
  have hact : s.rstat r = .active i := (h.sess i).curr r hcur0
  have hreq := h.req r
  unfold RInv at hreq
  simp only [hact] at hreq
  subst hq'
  refine Inv_of h i r (.inr (.inr (.inr hact)))
    (fun r' hr' => ⟨hr', rfl⟩)
    (fun _ _ => rfl) rfl (fun j hj => upd_ne _ _ hj) (fun he => by rw [he] at hcur0; cases hcur0)
    h.rpc ?_ ?_ ?_ hpo (append_other (fun m hm => (hms m hm).1) _)
  · have := h.sess i
    refine ⟨?_, ?_, ?_, ?_⟩ <;> simp only [setSess, upd_same]
    · rw [hq]; exact this.queued
    · rw [hq]; exact this.nodup
    · rw [hcur]; intro r' hr'; cases hr'; exact hact
    · exact hpc
  · unfold RInv
    simp only [setSess, hact, upd_same]
    refine ⟨hcur, phase_quiet hms hreq.2.1, fun k => ?_⟩
    have := hsum k
    unfold pending at this
    rw [hpr, hreq.2.2 k, deliv_append]
    simp only [List.append_assoc] at this ⊢
    rw [this]
  · intro r' hrr ha
    exact absurd rfl
      (active_ne h (i := i) (by rw [hcur0]; exact fun e => hrr (Option.some.inj e).symm) ha)

theorem Inv_send {s : State} {i r : Nat} {ss' : Sess} {ms q' : List Msg} (h : Inv s)
    (hcur0 : cur (s.sess i).wpc = some r)
    (hq : ss'.queue = (s.sess i).queue) (hcur : cur ss'.wpc = some r)
    (hpc : PcOk ss') (hq' : q' = s.respQ ++ ms) (hms : Quiet r ms)
    (hsum : ∀ k, deliv k r ms ++ pending k ss' = pending k (s.sess i)) :
    Inv { setSess s i ss' with respQ := q' } :=
  Inv_emit (new := fun _ => []) h hcur0 hq hcur hpc hq' hms (fun _ _ _ => rfl)
    (fun _ => (List.append_nil _).symm) (fun k => by rw [hsum, List.append_nil])

theorem Inv_setSess {s : State} {i : Nat} {ss' : Sess} (h : Inv s)
    (hq : ss'.queue = (s.sess i).queue) (hcur : cur ss'.wpc = cur (s.sess i).wpc)
    (hex : (s.sess i).wpc = .exited → ss'.wpc = .exited)
    (hpc : PcOk ss')
    (hsum : ∀ k, pending k ss' = pending k (s.sess i)) :
    Inv (setSess s i ss') := by
  cases hc : cur (s.sess i).wpc with
  | some r =>
    exact Inv_send (q' := s.respQ) h hc hq (hcur.trans hc) hpc (List.append_nil _).symm .nil hsum
  -- no current request: hang the frame on the next, still unseen, request id
  | none =>
    have h0 : s.rstat s.nextRid = .unseen := h.fresh _ (Nat.le_refl _)
    have hreq : RInv (setSess s i ss') s.nextRid := by
      have := h.req s.nextRid
      unfold RInv at this ⊢
      simp only [setSess, h0] at this ⊢
      exact this
    have hsi := h.sess i
    refine Inv_of h i s.nextRid (.inl h0) (fun r hr => ⟨hr, rfl⟩) (fun _ _ => rfl) rfl
      (fun j hj => upd_ne _ _ hj) (fun he => by rw [setSess_sess_self]; exact hex he) h.rpc ?_ hreq ?_
      (fun _ _ _ => rfl) (fun _ _ => ⟨rfl, fun _ => rfl⟩)
    · refine ⟨?_, ?_, ?_, ?_⟩ <;> simp only [setSess, upd_same]
      · rw [hq]; exact hsi.queued
      · rw [hq]; exact hsi.nodup
      · rw [hcur, hc]; exact fun _ e => nomatch e
      · exact hpc
    · intro r _ ha
      have := active_is_cur h ha
      rw [hc] at this
      cases this

-- No proof calls the two macros below.
macro "internal_step" h:ident hs:ident i:ident : tactic => `(tactic| (
  simp only [step] at $hs:ident
  have hp := (Inv.sess $h $i).pc
  unfold PcOk at hp
  split at $hs:ident <;> (try split at $hs:ident) <;> (try split at $hs:ident) <;> (try (simp only [reduceCtorEq] at $hs:ident; done))
  all_goals (
    cases $hs:ident
    apply Inv_setSess $h <;> (try intro k; cases k) <;> simp_all [cur, PcOk, inflF, inflW, Sess.buf, fRid, msgsOk, resMsgs])))

macro "internal_fstep" h:ident hs:ident i:ident : tactic => `(tactic| (
  simp only [step] at $hs:ident
  have hp := (Inv.sess $h $i).pc
  unfold PcOk at hp
  split at $hs:ident <;> (try split at $hs:ident) <;> (try (simp only [reduceCtorEq] at $hs:ident; done))
  all_goals (
    cases $hs:ident
    cases hw : (Sess.wpc (State.sess _ $i)) <;> simp only [hw] at hp <;>
    apply Inv_setSess $h <;> (try intro k; cases k) <;> simp_all [cur, PcOk, inflF, inflW, Sess.buf, fRid, msgsOk, resMsgs])))

theorem hne_msg {q : List Msg} {m : Msg} {r : Nat} (hm : m.rid = r) :
    ∀ r', r' ≠ r → phase r' (q ++ [m]) = phase r' q ∧ ∀ k', deliv k' r' (q ++ [m]) = deliv k' r' q :=
  append_other (List.forall_mem_singleton.mpr hm) q

theorem deliv_done (k : Stream) (r r' : Nat) (q : List Msg) (st : Status) :
    deliv k r (q ++ [.done r' st]) = deliv k r q := by simp [deliv_append, deliv, chunkOf]

theorem Inv_produce {s : State} {i r : Nat} {ss' : Sess} {k0 : Stream} {d : Data} (h : Inv s)
    (hcur0 : cur (s.sess i).wpc = some r)
    (hq : ss'.queue = (s.sess i).queue) (hcur : cur ss'.wpc = some r)
    (hpc : PcOk ss')
    (hsum : ∀ k, pending k ss' = pending k (s.sess i) ++ (if k = k0 then d else [])) :
    Inv { setSess s i ss' with
          produced := fun k r' => if k = k0 ∧ r' = r then s.produced k r' ++ d else s.produced k r' } :=
  Inv_emit (q' := s.respQ) h hcur0 hq hcur hpc (List.append_nil _).symm .nil
    (fun k r' hne => by simp [hne]) (fun k => by by_cases hk : k = k0 <;> simp [hk]) hsum

theorem RInv_finish {s s' : State} {r : Nat} {st : Status}
    (hq : s'.respQ = s.respQ ++ [.done r st]) (hst : s'.rstat r = .finished)
    (hprod : ∀ k, s'.produced k r = s.produced k r)
    (hph : phase r s.respQ = .open) (hd : ∀ k, s.produced k r = deliv k r s.respQ) : RInv s' r := by
  unfold RInv
  rw [hst, hq]
  exact ⟨phase_done_closed hph, fun k => by rw [hprod, deliv_done, hd]⟩

theorem RpcOk_of {s s' : State} (h : RpcOk s) (hr : s'.rpc = s.rpc)
    (hst : ∀ r, s.rstat r = .direct → s'.rstat r = .direct) : RpcOk s' := by
  unfold RpcOk at *
  rw [hr]
  split <;> simp_all

theorem rstat_ne_of_session {s : State} {j r r0 : Nat}
    (h0 : s.rstat r0 = .unseen ∨ s.rstat r0 = .direct)
    (hr : s.rstat r = .queued j ∨ s.rstat r = .active j) : r ≠ r0 := by
  intro hh; subst hh
  rcases h0 with h0 | h0 <;> rcases hr with hr | hr <;> rw [h0] at hr <;> cases hr

theorem Inv_direct {s : State} (h : Inv s) (hrpc : s.rpc = .idle) (st : Status) :
    Inv { s with nextRid := s.nextRid + 1, respQ := s.respQ ++ [.done s.nextRid st],
                 rstat := upd s.rstat s.nextRid .finished } := by
  have h0 : s.rstat s.nextRid = .unseen := h.fresh _ (Nat.le_refl _)
  have hreq := h.req s.nextRid
  unfold RInv at hreq
  simp only [h0] at hreq
  refine Inv_of h 0 s.nextRid (.inl h0) (fun r hr => ⟨Nat.le_of_succ_le hr, upd_ne _ _ (Nat.ne_of_gt hr)⟩)
    (fun r hr => upd_ne _ _ hr) rfl (fun _ _ => rfl) id (by simp [RpcOk, hrpc]) ?_ ?_
    (fun _ _ _ => ⟨rfl, rfl, rfl, rfl⟩) (fun _ _ _ => rfl) (hne_msg rfl)
  · exact SInv_same (h.sess 0) SameCore.rfl'
      fun r hr => upd_ne _ _ (rstat_ne_of_session (Or.inl h0) hr)
  · refine RInv_finish (s := s) rfl (upd_same ..) (fun _ => rfl) hreq.1 ?_
    intro k; rw [(hreq.2 k).1, (hreq.2 k).2]

theorem Inv_newSess {s : State} (h : Inv s) :
    Inv { s with nextSess := s.nextSess + 1,
                 sess := upd s.sess (s.nextSess + 1) { live := true, wpc := .idle } } := by
  have hex : (s.sess (s.nextSess + 1)).wpc = .exited := h.unborn _ (Nat.lt_succ_self _)
  refine ⟨h.fresh, ?_, RpcOk_of h.rpc rfl (fun _ hr => hr), ?_, ?_⟩
  · intro j hj
    have hne : j ≠ s.nextSess + 1 := by simp at hj; omega
    simp only [upd_ne _ _ hne]
    exact h.unborn j (by simp at hj; omega)
  · intro j
    by_cases hj : j = s.nextSess + 1
    · subst hj
      refine ⟨?_, ?_, ?_, ?_⟩ <;> simp [upd_same, cur, PcOk]
    · exact SInv_same (h.sess j) (SameCore.of_eq (by simp [upd_ne _ _ hj])) (fun _ _ => rfl)
  · intro r
    refine RInv_frame (h.req r) rfl (fun _ => rfl) ?_ rfl (fun _ => rfl)
    intro j hj
    have := active_ne h (i := s.nextSess + 1) (by rw [hex]; exact fun h => nomatch h) hj
    simp [upd_ne _ _ this, SameOut]

/-- `hp` is a `match` so that the two callers close it by `simp` on their literal `p` (`.closing i r`,
`.reply (.done r .ok)`); `.idle` does not occur. -/
theorem Inv_flagset {s : State} (h : Inv s) (i : Nat) (p : RPc) (f : Nat → Bool)
    (hp : match p with
      | .idle => True
      | .closing _ r => r = s.nextRid
      | .reply m => m.isDone = true ∧ m.rid = s.nextRid) :
    Inv { s with nextRid := s.nextRid + 1,
                 sess := upd s.sess i { s.sess i with flag := true },
                 rpc := p, rstat := upd s.rstat s.nextRid .direct, intr := f } := by
  have h0 : s.rstat s.nextRid = .unseen := h.fresh _ (Nat.le_refl _)
  have hreq := h.req s.nextRid
  unfold RInv at hreq
  simp only [h0] at hreq
  have hsame : SameCore (upd s.sess i { s.sess i with flag := true } i) (s.sess i) := by
    simp [upd_same, SameCore]
  refine Inv_of h i s.nextRid (.inl h0) (fun r hr => ⟨Nat.le_of_succ_le hr, upd_ne _ _ (Nat.ne_of_gt hr)⟩)
    (fun r hr => upd_ne _ _ hr) rfl (fun j hj => upd_ne _ _ hj) (fun he => hsame.2.1.trans he) ?_ ?_ ?_
    (fun _ _ _ => hsame.out) (fun _ _ _ => rfl) (fun _ _ => ⟨rfl, fun _ => rfl⟩)
  · unfold RpcOk
    cases p <;> simp_all [upd_same]
  · exact SInv_same (h.sess i) hsame fun r hr => upd_ne _ _ (rstat_ne_of_session (Or.inl h0) hr)
  · unfold RInv
    simp only [upd_same]
    exact hreq

theorem Inv_enqueue {s : State} (h : Inv s) (i : Nat) (kind : ReqKind) :
    Inv { s with nextRid := s.nextRid + 1,
                 sess := upd s.sess i { s.sess i with queue := (s.sess i).queue ++ [⟨s.nextRid, kind⟩] },
                 rstat := upd s.rstat s.nextRid (.queued i) } := by
  have h0 : s.rstat s.nextRid = .unseen := h.fresh _ (Nat.le_refl _)
  have hreq := h.req s.nextRid
  unfold RInv at hreq
  simp only [h0] at hreq
  have hout : SameOut (upd s.sess i
      { s.sess i with queue := (s.sess i).queue ++ [⟨s.nextRid, kind⟩] } i) (s.sess i) := by
    simp [upd_same, SameOut]
  refine Inv_of h i s.nextRid (.inl h0) (fun r hr => ⟨Nat.le_of_succ_le hr, upd_ne _ _ (Nat.ne_of_gt hr)⟩)
    (fun r hr => upd_ne _ _ hr) rfl (fun j hj => upd_ne _ _ hj) (fun he => hout.1.trans he) ?_ ?_ ?_
    (fun _ _ _ => hout) (fun _ _ _ => rfl) (fun _ _ => ⟨rfl, fun _ => rfl⟩)
  · refine RpcOk_of h.rpc rfl fun r hr => ?_
    exact (upd_ne _ _ (fun e => by rw [e, h0] at hr; cases hr)).trans hr
  · have hsj := h.sess i
    refine ⟨?_, ?_, ?_, ?_⟩ <;> simp only [upd_same]
    · intro q hq
      simp only [List.mem_append, List.mem_singleton] at hq
      rcases hq with hq | hq
      · have := hsj.queued q hq
        simpa [upd_ne _ _ (rstat_ne_of_session (Or.inl h0) (Or.inl this))] using this
      · subst hq; simp [upd_same]
    · simp only [List.map_append, List.map_cons, List.map_nil]
      refine List.nodup_append.mpr ⟨hsj.nodup, by simp, ?_⟩
      intro a ha b hb
      simp only [List.mem_singleton] at hb
      subst hb
      obtain ⟨q, hq, hqa⟩ := List.mem_map.mp ha
      subst hqa
      exact rstat_ne_of_session (Or.inl h0) (Or.inl (hsj.queued q hq))
    · intro r hr
      have := hsj.curr r hr
      simpa [upd_ne _ _ (rstat_ne_of_session (Or.inl h0) (Or.inr this))] using this
    · simpa [PcOk] using hsj.pc
  · unfold RInv
    simp only [upd_same]
    exact hreq

theorem Inv_finish {s : State} {i r' : Nat} {st : Status} (h : Inv s)
    (heq : (s.sess i).wpc = .sending r' [.done r' st])
    (hp1 : (s.sess i).fpc = .exited ∨ (s.sess i).fpc = .none) (hp2 : (s.sess i).outBuf = [])
    (hp3 : (s.sess i).errBuf = []) :
    Inv { setSess s i { s.sess i with wpc := .idle, fpc := .none, stop := false } with
          respQ := s.respQ ++ [.done r' st], rstat := upd s.rstat r' .finished } := by
  have hcur : cur (s.sess i).wpc = some r' := by rw [heq]; rfl
  have hact : s.rstat r' = .active i := (h.sess i).curr r' hcur
  have hreq := h.req r'
  unfold RInv at hreq
  simp only [hact] at hreq
  have hsi := h.sess i
  refine Inv_of h i r' (.inr (.inr (.inr hact))) (fresh_ne h (by rw [hact]; exact fun e => nomatch e))
    (fun r hr => upd_ne _ _ hr) rfl (fun j hj => upd_ne _ _ hj) (fun he => by rw [he] at heq; cases heq)
    ?_ ?_ ?_ ?_ (fun _ _ _ => rfl) (hne_msg rfl)
  · refine RpcOk_of h.rpc rfl fun r hr => ?_
    exact (upd_ne _ _ (fun e => by rw [e, hact] at hr; cases hr)).trans hr
  · refine ⟨?_, ?_, ?_, ?_⟩ <;> simp only [setSess, upd_same]
    · intro q hq
      have := hsi.queued q hq
      exact (upd_ne _ _ (fun e => by rw [e, hact] at this; cases this)).trans this
    · exact hsi.nodup
    · exact fun r hr => nomatch hr
    · simp [PcOk, hp2, hp3]
  · refine RInv_finish (s := s) rfl (upd_same ..) (fun _ => rfl) hreq.2.1 ?_
    intro k
    rw [hreq.2.2 k]
    rcases hp1 with hp1 | hp1 <;> cases k <;> simp [hp1, heq, inflF, inflW, Sess.buf, hp2, hp3]
  · intro r hrr ha
    exact absurd rfl (active_ne h (i := i) (by rw [hcur]; exact fun e => hrr (Option.some.inj e).symm) ha)

theorem Inv_dequeue {s : State} {i : Nat} {q : Req} {rest : List Req} (h : Inv s)
    (hw : (s.sess i).wpc = .idle) (hqu : (s.sess i).queue = q :: rest) :
    Inv { s with sess := upd s.sess i { s.sess i with queue := rest, wpc := .dequeued q },
                 rstat := upd s.rstat q.rid (.active i) } := by
  have hp := (h.sess i).pc
  simp only [PcOk, hw] at hp
  have hsi := h.sess i
  have hqd : s.rstat q.rid = .queued i := hsi.queued q (by simp [hqu])
  have hreq := h.req q.rid
  unfold RInv at hreq
  simp only [hqd] at hreq
  have hnd := hsi.nodup
  rw [hqu] at hnd
  simp only [List.map_cons, List.nodup_cons] at hnd
  refine Inv_of h i q.rid (.inr (.inr (.inl hqd))) (fresh_ne h (by rw [hqd]; exact fun e => nomatch e))
    (fun r hr => upd_ne _ _ hr) rfl (fun j hj => upd_ne _ _ hj) (fun he => by rw [he] at hw; cases hw)
    ?_ ?_ ?_ ?_ (fun _ _ _ => rfl) (fun _ _ => ⟨rfl, fun _ => rfl⟩)
  · refine RpcOk_of h.rpc rfl fun r hr => ?_
    exact (upd_ne _ _ (fun e => by rw [e, hqd] at hr; cases hr)).trans hr
  · refine ⟨?_, ?_, ?_, ?_⟩ <;> simp only [upd_same]
    · intro q' hq'
      have := hsi.queued q' (by simp [hqu, hq'])
      have hne : q'.rid ≠ q.rid := fun hh => hnd.1 (hh ▸ List.mem_map_of_mem hq')
      exact (upd_ne _ _ hne).trans this
    · exact hnd.2
    · intro r hr
      cases hr
      exact upd_same ..
    · simp [PcOk, hp]
  · unfold RInv
    simp only [upd_same]
    refine ⟨rfl, hreq.1, fun k => ?_⟩
    rw [(hreq.2 k).1, (hreq.2 k).2]
    cases k <;> simp [inflF, inflW, Sess.buf, hp.1, hp.2.1, hp.2.2.1]
  · intro r _ ha
    exact absurd rfl (active_ne h (i := i) (by rw [hw]; exact fun e => nomatch e) ha)

theorem Inv_close {s : State} {i r : Nat} (h : Inv s) (hrpc : s.rpc = .closing i r) :
    Inv { s with sess := upd s.sess i { s.sess i with live := false },
                 rpc := .reply (.done r .sessionClosed) } := by
  have hr := h.rpc
  unfold RpcOk at hr
  simp only [hrpc] at hr
  have hsame : SameCore (upd s.sess i { s.sess i with live := false } i) (s.sess i) := by
    simp [upd_same, SameCore]
  refine Inv_of h i r (.inr (.inl hr)) (fun r' hr' => ⟨hr', rfl⟩) (fun _ _ => rfl) rfl
    (fun j hj => upd_ne _ _ hj) (fun he => hsame.2.1.trans he)
    (by simp [RpcOk, Msg.isDone, Msg.rid, hr]) (SInv_same (h.sess i) hsame fun _ _ => rfl) ?_
    (fun _ _ _ => hsame.out) (fun _ _ _ => rfl) (fun _ _ => ⟨rfl, fun _ => rfl⟩)
  have := h.req r
  unfold RInv at this ⊢
  simp only [hr] at this ⊢
  exact this

theorem Inv_reply {s : State} {m : Msg} (h : Inv s) (hrpc : s.rpc = .reply m) :
    Inv { s with respQ := s.respQ ++ [m], rpc := .idle, rstat := upd s.rstat m.rid .finished } := by
  have hr := h.rpc
  unfold RpcOk at hr
  simp only [hrpc] at hr
  cases m <;> simp [Msg.isDone] at hr
  rename_i r st
  simp only [Msg.rid] at hr ⊢
  have hreq := h.req r
  unfold RInv at hreq
  simp only [hr] at hreq
  refine Inv_of h 0 r (.inr (.inl hr)) (fresh_ne h (by rw [hr]; exact fun e => nomatch e))
    (fun r' hr' => upd_ne _ _ hr') rfl (fun _ _ => rfl) id (by simp [RpcOk]) ?_ ?_
    (fun _ _ _ => ⟨rfl, rfl, rfl, rfl⟩) (fun _ _ _ => rfl) (hne_msg rfl)
  · exact SInv_same (h.sess 0) SameCore.rfl'
      fun r' hr' => upd_ne _ _ (rstat_ne_of_session (Or.inr hr) hr')
  · refine RInv_finish (s := s) rfl (upd_same ..) (fun _ => rfl) hreq.1 ?_
    intro k; rw [(hreq.2 k).1, (hreq.2 k).2]

theorem Inv_step {s s' : State} {l : Label} (h : Inv s) (hs : step s l = some s') : Inv s' := by
  cases l with
  -- the worker moves between clauses of `PcOk`, between pcs that hold no output
  | wReset i | wClear i | wStop i | wFinish i _ =>
    rw [step] at hs
    split at hs <;> cases hs
    rename_i heq
    have hp := (h.sess i).pc
    simp only [PcOk, heq] at hp
    exact Inv_setSess h rfl (by rw [heq]; rfl) (by rw [heq]; exact fun h => nomatch h)
      (by simp [PcOk, hp]) (fun k => by unfold pending; rw [heq]; rfl)
  -- the flusher starts with nothing in flight; the final drain turns buffered output into output
  -- in flight
  | wSpawn i | wTakeOut i | wTakeErr i =>
    rw [step] at hs
    split at hs <;> cases hs
    rename_i heq
    have hp := (h.sess i).pc
    simp only [PcOk, heq] at hp
    exact Inv_setSess h rfl (by rw [heq]; rfl) (by rw [heq]; exact fun h => nomatch h)
      (by simp [PcOk, hp] <;> rfl)
      (fun k => by cases k <;> simp only [pending, heq, hp, inflF, inflW, Sess.buf, List.append_nil,
        List.nil_append, ↓reduceIte, reduceCtorEq])
  | wExit i =>
    rw [step] at hs
    split at hs
    · split at hs <;> cases hs
      rename_i heq _ _
      have hp := (h.sess i).pc
      simp only [PcOk, heq] at hp
      exact Inv_setSess h rfl (by rw [heq]; rfl) (by rw [heq]; exact fun h => nomatch h)
        hp (fun k => by unfold pending; rw [heq]; rfl)
    · cases hs
  | wJoin i =>
    rw [step] at hs
    split at hs <;> cases hs
    rename_i heq hf
    exact Inv_setSess h rfl (by rw [heq]; rfl) (by rw [heq]; exact fun h => nomatch h)
      (by simp [PcOk, hf]) (fun k => by unfold pending; rw [heq]; rfl)
  | wTest i =>
    rw [step] at hs
    split at hs
    · rename_i r heq
      have hp := (h.sess i).pc
      simp only [PcOk, heq] at hp
      split at hs <;> cases hs
      · refine Inv_ghost (s := setSess s i _) ?_ _ _
        exact Inv_setSess h rfl (by rw [heq]; rfl) (by rw [heq]; exact fun h => nomatch h)
          hp (fun k => by unfold pending; rw [heq]; rfl)
      · exact Inv_setSess h rfl (by rw [heq]; rfl) (by rw [heq]; exact fun h => nomatch h)
          hp (fun k => by unfold pending; rw [heq]; rfl)
    · cases hs
  -- the flusher: `PcOk` sees it only through the request it serves
  | fTakeOut i | fTakeErr i =>
    rw [step] at hs
    split at hs <;> cases hs
    rename_i r heq
    have hw := ((h.sess i).pc.of_fRid (r := r) (by rw [heq]; rfl)).2
    exact Inv_setSess h rfl rfl id (PcOk_flusher _ _ _ (h.sess i).pc (by rw [heq]; rfl) rfl)
      (fun k => by cases k <;> simp only [pending, heq, hw, inflF, Sess.buf, List.append_nil,
        List.nil_append, ↓reduceIte, reduceCtorEq])
  | fStop i =>
    rw [step] at hs
    split at hs
    · split at hs <;> cases hs
      rename_i r heq hst
      exact Inv_setSess h rfl rfl id (PcOk_fStop (h.sess i).pc (by rw [heq]; rfl) hst)
        (fun k => by unfold pending; rw [heq]; rfl)
    · cases hs
  | fSendOut i | fSendErr i =>
    rw [step] at hs
    split at hs <;> cases hs
    rename_i r d heq
    have hp := (h.sess i).pc
    have hf : fRid (s.sess i).fpc = some r := by rw [heq]; rfl
    have hcur := (hp.of_fRid hf).1
    refine Inv_send h hcur rfl hcur (PcOk_flusher _ _ _ hp hf rfl) (sendChunk_eq ..) .chunk ?_
    intro k
    rw [deliv_chunk?, pending, pending, heq]
    cases k <;> simp only [inflF, List.append_assoc, ↓reduceIte, reduceCtorEq] <;> rfl
  | wAct i a =>
    rw [step] at hs
    split at hs
    · rename_i r heq
      have hp := (h.sess i).pc
      simp only [PcOk, heq] at hp
      have hc : cur (s.sess i).wpc = some r := by rw [heq]; rfl
      split at hs <;> cases hs
      · refine Inv_produce h (k0 := .out) hc rfl rfl hp ?_
        intro k
        rw [pending, pending, heq]
        cases k <;> simp only [inflW, Sess.buf, List.append_nil, List.append_assoc, ↓reduceIte,
          reduceCtorEq]
      · refine Inv_produce h (k0 := .err) hc rfl rfl hp ?_
        intro k
        rw [pending, pending, heq]
        cases k <;> simp only [inflW, Sess.buf, List.append_nil, List.append_assoc, ↓reduceIte,
          reduceCtorEq]
      all_goals
        exact Inv_setSess h rfl (by rw [heq]; rfl) (by rw [heq]; exact fun h => nomatch h)
          hp (fun k => by unfold pending; rw [heq]; rfl)
    · cases hs
  | wStart i o =>
    rw [step] at hs
    split at hs
    · rename_i q heq
      have hp := (h.sess i).pc
      simp only [PcOk, heq] at hp
      split at hs <;> cases hs
      case h_4 =>
        exact Inv_send h (r := q.rid) (by rw [heq]; rfl) rfl rfl hp rfl .res
          fun k => by unfold pending; rw [heq]; rfl
      all_goals
        exact Inv_setSess h rfl (by rw [heq]; rfl) (by rw [heq]; exact fun h => nomatch h)
          (by simp [PcOk, hp, msgsOk]) (fun k => by unfold pending; rw [heq]; rfl)
    · cases hs
  | wSendOut i | wSendErr i =>
    rw [step] at hs
    split at hs <;> cases hs
    rename_i r res d heq
    have hp := (h.sess i).pc
    simp only [PcOk, heq] at hp
    refine Inv_send h (r := r) (by rw [heq]; rfl) rfl rfl ?_ (sendChunk_eq ..) .chunk ?_
    · cases res <;> simp [PcOk, hp, resMsgs, msgsOk]
    · intro k
      rw [deliv_chunk?, pending, pending, heq, hp.1]
      cases k <;> simp only [inflF, inflW, List.append_nil, List.append_assoc, ↓reduceIte,
        reduceCtorEq] <;> rfl
  | wSend i =>
    rw [step] at hs
    have hp := (h.sess i).pc
    split at hs <;> cases hs
    · rename_i r m m' rest heq
      simp only [PcOk, heq] at hp
      cases m <;> simp [msgsOk] at hp
      rename_i r' b
      obtain ⟨hp1, hp2, hp3, hp4, hp5⟩ := hp
      subst hp4
      refine Inv_send h (r := r') (by simp [heq, cur]) rfl (by simp [cur]) ?_ rfl .res ?_
      · simp_all [PcOk]
      · intro k
        cases k <;> simp_all [pending, deliv, chunkOf, inflF, inflW, Sess.buf]
    · rename_i r m heq
      simp only [PcOk, heq] at hp
      cases m <;> simp [msgsOk] at hp
      obtain ⟨hp1, hp2, hp3, rfl⟩ := hp
      exact Inv_finish h heq hp1 hp2 hp3
  | wDequeue i =>
    rw [step] at hs
    split at hs <;> cases hs
    rename_i q rest hw hqu
    exact Inv_dequeue h hw hqu
  | client m =>
    simp only [step] at hs
    split at hs <;> (try (simp only [reduceCtorEq] at hs; done))
    rename_i hrpc
    split at hs
    · cases hs; exact Inv_direct h hrpc _
    · cases hs; exact Inv_direct h hrpc _
    · cases hs; exact Inv_direct h hrpc _
    · cases hs
      exact Inv_newSess (Inv_direct h hrpc _)
    · split at hs
      · cases hs; exact Inv_flagset h _ _ _ (by simp)
      · cases hs; exact Inv_direct h hrpc _
    · split at hs
      · cases hs; exact Inv_flagset h _ _ _ (by simp [Msg.isDone, Msg.rid])
      · cases hs; exact Inv_direct h hrpc _
    · split at hs
      · cases hs; exact Inv_enqueue h _ _
      · cases hs; exact Inv_direct h hrpc _
  | reader =>
    simp only [step] at hs
    split at hs <;> cases hs
    · exact Inv_close h ‹_›
    · exact Inv_reply h ‹_›

theorem Inv_reachable {s : State} (h : Reachable s) : Inv s := by
  induction h with
  | init => exact Inv_init
  | step _ hs ih => exact Inv_step ih hs

/-- `Reachable` is threaded through so that `hstep` may use `Inv`. -/
theorem run_invariant {P : State → Prop} {E : Label → Prop}
    (hstep : ∀ s s' l, Reachable s → step s l = some s' → P s → P s' ∨ E l) :
    ∀ (ls : List Label) (s s' : State), Reachable s → run s ls = some s' → P s →
      P s' ∨ ∃ l ∈ ls, E l
  | [], s, s', _, hr, h => by
    cases hr
    exact Or.inl h
  | l :: ls, s, s', hR, hr, h => by
    rw [run] at hr
    split at hr
    · rename_i s1 hs
      rcases hstep s s1 l hR hs h with h1 | h1
      · exact (run_invariant hstep ls s1 s' (Reachable.step hR hs) hr h1).imp_right
          fun ⟨l', hl', h2⟩ => ⟨l', List.mem_cons_of_mem _ hl', h2⟩
      · exact Or.inr ⟨l, List.mem_cons_self, h1⟩
    · cases hr

end Nrepl
