import GardenVerif.Lemmas.Reads
/-!
The print/parse round trip of expressions (kit: Lemmas/Reads.lean; Props/C33.lean has the other node kinds and the
items).

Two levels. Over lexed tokens with explicit fuel: `R` (an operand), `FU` / `FS` (a complete expression / a statement
form is read exactly), with `Fol`, `Stop`, `PStop` on the list of remaining tokens; `C33.parse_print_stmt`, `RT.fu_let`,
`RT.r_for` and `C03.chain_left_assoc_all` are stated with them. Over `Rd`, where the proofs are: `Full`, `Stmt`, `Atom`
(an operand as `parse_expression_no_trailing` reads it) and `Opd`, the operand invariant in continuation-passing form —
after its text the parser is in the trailing loop, so that a postfix form or an operator is one more round of that loop
(`Rd.trail`). The follow conditions `StopT`, `FolT` carry a flag `el`, whether an `else` is excluded, which only an `if`
without `else` needs. Between the levels: `FU.full` and `Full.fu` (`FU e n` and `Full true e n` are equivalent for a
text with `PF`), `Stmt.fs`, `R.of_atom`; nothing leads from `Opd` to `R`: the continuation in `R` is an `Ok` statement
at one token list, the one in `Opd` an `Rd`. `PF e`: how the canonical text of `e` starts and ends. In
`namespace ParseLemmas` the operator / call / parenthesis fragment `WF` of C03 is read by the same lemmas at `el = false`.
-/

namespace RT
open Parse Print ParseLemmas

def T (ln : Nat) (first : Bool) (e : Expr) : List Tok := lexAux false ln (printExpr first e)

/-- The newlines in the canonical text of `e`: if it starts on line `ln`, what follows it is on a line ≥ `ln + pnl e`
(the last token of `e` is on that line, unless `e` ends in a bare `return`, whose text ends with a newline). -/
def pnl (e : Expr) : Nat := nlc (printExpr false e)

/-- First printed tokens that never continue / terminate anything. -/
def badFirst : List String :=
  [")", "]", "}", ",", "=", "+=", "-=", ".", "::", "=>", ":", "{", "else", "catch", "in", "as"] ++ gardenBinaryOps

/-- Does `e` end in a dot access (then a following `(` would be read as a method call)? -/
def endsDot : Expr → Bool
  | .dot _ _ => true
  | .binop _ _ r => endsDot r
  | .letE _ _ e => endsDot e
  | .assign _ e => endsDot e
  | .update _ _ e => endsDot e
  | .ret (some e) => endsDot e
  | _ => false

/-- Does `e` end in a bare `return` (then the next token must be on a later line)? -/
def tailRet : Expr → Bool
  | .ret none => true
  | .binop _ _ r => tailRet r
  | .ret (some e) => tailRet e
  | .letE _ _ e => tailRet e
  | .assign _ e => tailRet e
  | .update _ _ e => tailRet e
  | _ => false

/-- What may follow the tokens of an operand (it is then back in the trailing loop). -/
def Fol (e : Expr) (rest : List Tok) : Prop :=
  ∀ t, rest.head? = some t →
    t.text ≠ "=" ∧ t.text ≠ "+=" ∧ t.text ≠ "-=" ∧ ¬ (t.text = "{" ∧ t.touchesPrev = true) ∧
    (endsDot e = true → t.text ≠ "(") ∧ t.text ≠ "else"

/-- What may follow a complete expression: nothing that the trailing loop would take. -/
def Stop (e : Expr) (ln : Nat) (rest : List Tok) : Prop :=
  ∀ t, rest.head? = some t →
    t.text ≠ "=" ∧ t.text ≠ "+=" ∧ t.text ≠ "-=" ∧ ¬ (t.text = "{" ∧ t.touchesPrev = true) ∧
    (endsDot e = true → t.text ≠ "(") ∧
    ¬ (t.text = "(" ∧ t.touchesPrev = true) ∧ t.text ≠ "." ∧ t.text ≠ "::" ∧
    gardenBinaryOps.contains t.text = false ∧
    (tailRet e = true → ln + pnl e ≤ t.line) ∧ t.text ≠ "else"


def PStop (rest : List Tok) : Prop :=
  ∀ t, rest.head? = some t → ¬ (t.text = "(" ∧ t.touchesPrev = true) ∧ t.text ≠ "." ∧ t.text ≠ "::"

theorem Stop.fol {e : Expr} {ln : Nat} {rest : List Tok} (h : Stop e ln rest) : Fol e rest := by
  intro t ht; have := h t ht
  exact ⟨this.1, this.2.1, this.2.2.1, this.2.2.2.1, this.2.2.2.2.1, this.2.2.2.2.2.2.2.2.2.2⟩

theorem Stop.pstop {e : Expr} {ln : Nat} {rest : List Tok} (h : Stop e ln rest) : PStop rest := by
  intro t ht; have := h t ht; exact ⟨this.2.2.2.2.2.1, this.2.2.2.2.2.2.1, this.2.2.2.2.2.2.2.1⟩


set_option linter.unusedVariables false in
def After (toks : Toks) (b : Bool) (lb : Nat) (e : Expr) (j : Nat) (d : List DiagKind)
    {α : Type} (Q : PExpr → St → Prop) : Prop :=
  ∀ ln' fuel', lb ≤ fuel' → Ok (trailing toks false b fuel' ⟨e, ⟨ln', j⟩⟩) ⟨j, d⟩ Q

/-- Operand invariant (`c = true`: for both settings of the infix flag; `c = false`: a chain, flag on):
from the first token of `e` the parser gets into the trailing loop holding `e` just after its
tokens, spending at most `n` fuel. -/
def R (c : Bool) (e : Expr) (n : Nat) : Prop :=
  ∀ (b : Bool) (fuel ln : Nat) (first : Bool) (i : Nat) (rest : List Tok) (d : List DiagKind) (toks : Toks)
    (Q : PExpr → St → Prop),
    (c = false → b = true) → n ≤ fuel → D toks i (T ln first e ++ rest) → Fol e rest →
    (c = false → PStop rest) →
    After toks b (fuel - n) e (i + (T ln first e).length) d (α := Unit) Q →
    Ok (parseExpressionT toks false b fuel) ⟨i, d⟩ Q

def Res1 (e : Expr) (j : Nat) (d : List DiagKind) : PExpr → St → Prop :=
  fun r s' => r.e = e ∧ r.pos.endPos = j ∧ s' = ⟨j, d⟩

/-- `parse_expression` returns exactly `e`, just after its tokens, no new diagnostics. -/
def FU (e : Expr) (n : Nat) : Prop :=
  ∀ (fuel ln : Nat) (first : Bool) (i : Nat) (rest : List Tok) (d : List DiagKind) (toks : Toks),
    n ≤ fuel → D toks i (T ln first e ++ rest) → Stop e ln rest →
    Ok (parseExpressionT toks false true fuel) ⟨i, d⟩ (Res1 e (i + (T ln first e).length) d)

theorem R.mono {c e n m} (h : R c e n) (hnm : n ≤ m) : R c e m := by
  intro b fuel ln first i rest d toks Q hb hf hD hfo hp ha
  exact h b fuel ln first i rest d toks Q hb (by omega) hD hfo hp (fun ln' fuel' hl => ha ln' fuel' (by omega))

theorem FU.mono {e n m} (h : FU e n) (hnm : n ≤ m) : FU e m := by
  intro fuel ln first i rest d toks hf hD hs
  exact h fuel ln first i rest d toks (by omega) hD hs

/-- Like `FU`, for both settings of the infix flag: a `let`, assignment or `return` may also be the right operand of the
last operator of a chain (`a + x = 1`). -/
def FS (e : Expr) (n : Nat) : Prop :=
  ∀ (b : Bool) (fuel ln : Nat) (first : Bool) (i : Nat) (rest : List Tok) (d : List DiagKind) (toks : Toks),
    n ≤ fuel → D toks i (T ln first e ++ rest) → Stop e ln rest →
    Ok (parseExpressionT toks false b fuel) ⟨i, d⟩ (Res1 e (i + (T ln first e).length) d)

theorem FS.fu {e n} (h : FS e n) : FU e n := h true


theorem After.apply {toks : Toks} {b : Bool} {lb : Nat} {e : Expr} {j : Nat} {d : List DiagKind}
    {Q : PExpr → St → Prop} (ha : After toks b lb e j d (α := Unit) Q) {ln' fuel' j' m : Nat}
    (hf : lb ≤ fuel') (hj : j' = j) (hm : m = j) :
    Ok (trailing toks false b fuel' ⟨e, ⟨ln', m⟩⟩) ⟨j', d⟩ Q := by
  subst hj hm; exact ha ln' fuel' hf

/-- The canonical text of `e` starts with a token that does not depend on `first` except for its flag and is not one
of `badFirst` (`hd`); it ends with a newline exactly if `e` ends in a bare `return` (`fl`); `e` is not `invalid`
(`ninv`: the loops drop an invalid element). -/
structure PF (e : Expr) : Prop where
  hd : ∃ s tl, (∀ first, printExpr first e = .t s first :: tl) ∧ s ∉ badFirst
  fl : ∀ b first, fl b (printExpr first e) = tailRet e
  ninv : e.isInvalidOrPlaceholder = false

theorem PF.nlc {e : Expr} (h : PF e) (first : Bool) : nlc (printExpr first e) = pnl e := by
  obtain ⟨s, tl, h1, _⟩ := h.hd
  simp [pnl, h1, RT.nlc]

/-- The texts with which a token continues the expression before it (or an `import`: `as`), whatever its flag. Any other
token ends a complete expression, unless it is a glued `(` or `{`, or a `(` after a dot access (`StopT.of`). -/
def istopSet : List String := ["=", "+=", "-=", ".", "::", "else", "as"] ++ gardenBinaryOps

theorem istop_sub_bad : ∀ x ∈ istopSet, x ∈ badFirst := by
  intro x hx
  rcases List.mem_append.mp hx with h | h
  · exact (by decide : ∀ y ∈ ["=", "+=", "-=", ".", "::", "else", "as"], y ∈ badFirst) x h
  · exact List.mem_append_right _ h

theorem not_badFirst {s x : String} (h : s ∉ badFirst) (hx : x ∈ badFirst) : (s == x) = false := by
  cases hb : (s == x) with
  | false => rfl
  | true => have : s = x := by simpa using hb
            subst this; exact absurd hx h

theorem ok_exprT' {toks : Toks} {b : Bool} {fuel : Nat} {s : St} {Q : PExpr → St → Prop}
    (h : Ok (parseNoTrailing toks false fuel) s (fun pe s' => Ok (trailing toks false b fuel pe) s' Q)) :
    Ok (parseExpressionT toks false b (fuel + 1)) s Q := by
  rw [parseExpressionT, ok_bind]; exact h

theorem bad_second {s : String} (h : s ∉ badFirst) : s ≠ "=" ∧ s ≠ "+=" ∧ s ≠ "-=" := by
  refine ⟨?_, ?_, ?_⟩ <;> (intro e; subst e; exact h (by decide))

/-- Nothing uses it, and it has to stand here, before `LItems`: Lean compiled `LItems` with the matcher it had generated
for this definition (`TItems.match_1`), so every statement about `LItems` elaborates to a term that mentions it. -/
def TItems : Nat → List Expr → List Tok
  | _, [] => []
  | l, e :: r => T (l + 1) false e ++ TItems (l + 1 + pnl e) r

/-- With the `{` of a block on line `l`, its `}` is on line `LItems l es + 1` (the last token of the last item is on
line `LItems l es`, or on the line before if that item ends in a bare `return`). -/
def LItems : Nat → List Expr → Nat
  | l, [] => l
  | l, e :: r => LItems (l + 1 + pnl e) r

def TB (ln : Nat) (b : Block) : List Tok := lexAux false ln (printBlock b)

/-- Adjacent block items: one that ends in a dot access is not followed by one starting with `(`. -/
def Adj : List Expr → Prop
  | [] => True
  | [_] => True
  | e1 :: e2 :: r =>
    (endsDot e1 = true → ∀ s tl, printExpr false e2 = PTok.t s false :: tl → s ≠ "(") ∧ Adj (e2 :: r)

theorem LItems_ge (l : Nat) (es : List Expr) : l ≤ LItems l es := by
  induction es generalizing l with
  | nil => simp [LItems]
  | cons e r ih => simp only [LItems]; have := ih (l + 1 + pnl e); omega

structure BlockOK (es : List Expr) : Prop where
  fu : ∀ e ∈ es, ∃ n, FU e n
  pf : ∀ e ∈ es, PF e
  adj : Adj es

theorem fl_tok (b : Bool) (a : List PTok) (s : String) (t : Bool) : fl b (a ++ [PTok.t s t]) = false := by
  rw [fl_append]; rfl

theorem pf_leaf (e : Expr) (s : String) (hp : ∀ first, printExpr first e = [PTok.t s first]) (hs : s ∉ badFirst)
    (ht : tailRet e = false) (hn : e.isInvalidOrPlaceholder = false) : PF e :=
  ⟨⟨s, [], hp, hs⟩, fun b first => by rw [hp, ht]; rfl, hn⟩

/-- Apart from four keywords no symbol token, no literal, no opening bracket: every "… is not in `badFirst`" below
comes from here. -/
theorem badFirst_class : ∀ y ∈ badFirst,
    (isSymbolTok y = false ∨ y ∈ ["else", "catch", "in", "as"]) ∧ isIntTok y = false ∧ isFloatTok y = false ∧
      isStringTok y = false ∧ y ≠ "(" ∧ y ≠ "[" := by decide

theorem sym_not_bad {k : String} (h : isSymbolTok k = true) (h' : k ∉ ["else", "catch", "in", "as"]) : k ∉ badFirst :=
  fun hm => (badFirst_class k hm).1.elim (fun h0 => by rw [h] at h0; cases h0) h'

theorem lparen_not_bad : "(" ∉ badFirst := fun hm => (badFirst_class _ hm).2.2.2.2.1 rfl
theorem lbrack_not_bad : "[" ∉ badFirst := fun hm => (badFirst_class _ hm).2.2.2.2.2 rfl

theorem intTok_not_bad {s : String} {i : Int} (h : IntTok s i) : s ∉ badFirst :=
  fun hm => by have := h.int; rw [(badFirst_class s hm).2.1] at this; cases this

theorem validName_not_bad {x : String} (h : ValidName x) : x ∉ badFirst :=
  sym_not_bad h.sym (fun hm => h.not_mem_kw ((by decide : ∀ y ∈ ["else", "catch", "in", "as"], y ∈ keywords) x hm))

theorem pf_int {i : Int} (h : IntTok (toString i) i) : PF (.intLit i) :=
  pf_leaf _ (toString i) (fun _ => by simp [printExpr]) (intTok_not_bad h) rfl rfl

theorem pf_var {x : String} (h : ValidName x) : PF (.var x) :=
  pf_leaf _ x (fun _ => by simp [printExpr]) (validName_not_bad h) rfl
    (by simpa [Expr.isInvalidOrPlaceholder, isPlaceholderName] using h.notPh)

theorem pf_brk : PF .brk := pf_leaf _ "break" (fun _ => by simp [printExpr]) (sym_not_bad (by decide) (by decide)) rfl rfl
theorem pf_cont : PF .cont := pf_leaf _ "continue" (fun _ => by simp [printExpr]) (sym_not_bad (by decide) (by decide)) rfl rfl

theorem pf_post {r e : Expr} (pr : PF r) (X : List PTok) (s : String) (t : Bool)
    (hp : ∀ first, printExpr first e = printExpr first r ++ X ++ [PTok.t s t])
    (ht : tailRet e = false) (hn : e.isInvalidOrPlaceholder = false) : PF e := by
  obtain ⟨s0, tl, h1, h2⟩ := pr.hd
  refine ⟨⟨s0, tl ++ X ++ [PTok.t s t], fun first => by rw [hp, h1]; simp, h2⟩, fun b first => ?_, hn⟩
  rw [hp, fl_tok, ht]

theorem pf_kw {e : Expr} (k : String) (X : List PTok) (s : String) (t : Bool)
    (hp : ∀ first, printExpr first e = PTok.t k first :: (X ++ [PTok.t s t])) (hk : k ∉ badFirst)
    (ht : tailRet e = false) (hn : e.isInvalidOrPlaceholder = false) : PF e := by
  refine ⟨⟨k, X ++ [PTok.t s t], hp, hk⟩, fun b first => ?_, hn⟩
  rw [hp, ht]
  show fl false (X ++ [PTok.t s t]) = false
  exact fl_tok _ _ _ _

theorem pf_dot {r : Expr} {f : String} (pr : PF r) : PF (.dot r f) :=
  pf_post pr [g "."] f true (fun first => by simp [printExpr, g]) rfl rfl
theorem pf_ns {r : Expr} {f : String} (pr : PF r) : PF (.ns r f) :=
  pf_post pr [g "::"] f true (fun first => by simp [printExpr, g]) rfl rfl
theorem pf_call {f : Expr} {args : List Expr} (pf : PF f) : PF (.call f args) :=
  pf_post pf ([g "("] ++ printArgs true args) ")" true (fun first => by simp [printExpr, g]) rfl rfl
theorem pf_paren {e : Expr} : PF (.paren e) :=
  pf_kw "(" (printExpr true e) ")" true (fun first => by simp [printExpr, g]) lparen_not_bad rfl rfl

theorem printBlock_split (es : List Expr) : ∃ X, printBlock (.mk es) = X ++ [PTok.t "}" false] :=
  ⟨[w "{"] ++ printBlockItems es ++ [PTok.nl], by simp [printBlock, w]⟩

theorem pf_while {c : Expr} {es : List Expr} : PF (.whileE c (.mk es)) := by
  obtain ⟨X, hX⟩ := printBlock_split es
  exact pf_kw "while" (printExpr false c ++ X) "}" false (fun first => by simp [printExpr, hX]) (sym_not_bad (by decide) (by decide)) rfl rfl
theorem pf_for {d : LetDest} {c : Expr} {es : List Expr} : PF (.forIn d c (.mk es)) := by
  obtain ⟨X, hX⟩ := printBlock_split es
  exact pf_kw "for" (printDest d ++ [w "in"] ++ printExpr false c ++ X) "}" false
    (fun first => by simp [printExpr, hX]) (sym_not_bad (by decide) (by decide)) rfl rfl
theorem pf_if_none {c : Expr} {es : List Expr} : PF (.ifE c (.mk es) none) := by
  obtain ⟨X, hX⟩ := printBlock_split es
  exact pf_kw "if" (printExpr false c ++ X) "}" false (fun first => by simp [printExpr, hX]) (sym_not_bad (by decide) (by decide)) rfl rfl
theorem pf_if_some {c : Expr} {es es2 : List Expr} : PF (.ifE c (.mk es) (some (.mk es2))) := by
  obtain ⟨X, hX⟩ := printBlock_split es2
  exact pf_kw "if" (printExpr false c ++ printBlock (.mk es) ++ [w "else"] ++ X) "}" false
    (fun first => by simp [printExpr, hX]) (sym_not_bad (by decide) (by decide)) rfl rfl

theorem pf_binop {l r : Expr} {op : String} (pl : PF l) (pr : PF r) : PF (.binop l op r) := by
  obtain ⟨s0, tl, h1, h2⟩ := pl.hd
  refine ⟨⟨s0, tl ++ [w op] ++ printExpr false r, fun first => by simp [printExpr, h1], h2⟩, fun b first => ?_, rfl⟩
  simp only [printExpr]
  rw [fl_append, pr.fl]; rfl

theorem pf_stmt {e' e : Expr} (pe : PF e) (k : String) (X : List PTok)
    (hp : ∀ first, printExpr first e' = PTok.t k first :: (X ++ printExpr false e)) (hk : k ∉ badFirst)
    (ht : tailRet e' = tailRet e) (hn : e'.isInvalidOrPlaceholder = false) : PF e' := by
  refine ⟨⟨k, X ++ printExpr false e, hp, hk⟩, fun b first => ?_, hn⟩
  rw [hp, ht]
  show fl false (X ++ printExpr false e) = tailRet e
  rw [fl_append, pe.fl]

theorem pf_assign {x : String} {e : Expr} (hx : ValidName x) (pe : PF e) : PF (.assign x e) :=
  pf_stmt pe x [w "="] (fun first => by simp [printExpr, w]) (validName_not_bad hx) rfl rfl
theorem pf_update {op x : String} {e : Expr} (hx : ValidName x) (pe : PF e) : PF (.update op x e) :=
  pf_stmt pe x [w op] (fun first => by simp [printExpr, w]) (validName_not_bad hx) rfl rfl
theorem pf_ret_some {e : Expr} (pe : PF e) : PF (.ret (some e)) :=
  pf_stmt pe "return" [] (fun first => by simp [printExpr]) (sym_not_bad (by decide) (by decide)) rfl rfl
theorem pf_ret_none : PF (.ret none) :=
  ⟨⟨"return", [PTok.nl], fun first => by simp [printExpr], sym_not_bad (by decide) (by decide)⟩, fun b first => by simp [printExpr, fl, tailRet], rfl⟩

theorem simple_list (toks : Toks) (fuel i : Nat) (d : List DiagKind) (t : Tok)
    (h1 : toks[i]? = some t) (hx : t.text = "[") :
    parseSimple toks false (fuel + 1) ⟨i, d⟩ = parseListLiteral toks false fuel ⟨i, d⟩ := by
  rw [parseSimple_peek toks false fuel i d t h1, hx]; rfl

theorem unescape_escape (cs : List Char) : unescapeChars (escapeChars cs) = (0, cs) := by
  induction cs with
  | nil => simp [escapeChars, unescapeChars]
  | cons c r ih =>
    unfold escapeChars
    by_cases h1 : c = '\\'
    · subst h1; simp [unescapeChars, ih]
    · by_cases h2 : c = '"'
      · subst h2; simp [unescapeChars, ih]
      · by_cases h3 : c = '\n'
        · subst h3; simp [unescapeChars, ih]
        · by_cases h4 : c = '\t'
          · subst h4; simp [unescapeChars, ih]
          · simp only [beq_iff_eq, h1, h2, h3, h4, ↓reduceIte]
            rw [unescapeChars]
            · simp [ih]
            all_goals (intros; simp_all)

theorem dropLastQuote_snoc (l : List Char) : dropLastQuote (l ++ ['"']) = l := by
  simp [dropLastQuote]

theorem strTok_toList (s : String) : (strTok s).toList = '"' :: (escapeChars s.toList ++ ['"']) := by
  simp [strTok]

theorem unescapeTok_strTok (s : String) : unescapeTok (strTok s) = (0, s) := by
  simp [unescapeTok, strTok_toList, dropLastQuote_snoc, unescape_escape]

structure StrFacts (x : String) : Prop where
  str : isStringTok x = true
  notSym : isSymbolTok x = false
  notBad : x ∉ badFirst
  notStmt : x ∉ stmtKeywords
  ne1 : x ≠ "(" ∧ x ≠ "[" ∧ x ≠ "Dict" ∧ x ≠ "fun" ∧ x ≠ "assert"

theorem strFacts (s : String) : StrFacts (strTok s) := by
  have hstr : isStringTok (strTok s) = true := by simp [isStringTok, strTok_toList]
  have hsym : isSymbolTok (strTok s) = false := by simp [isSymbolTok, strTok_toList, isSymStart]
  have key : ∀ y : String, isStringTok y = false → strTok s ≠ y := fun _ => ne_of_class hstr
  exact ⟨hstr, hsym, fun hm => key _ (badFirst_class _ hm).2.2.2.1 rfl, notStmt_of_notSym hsym,
    key _ (by decide), key _ (by decide), key _ (by decide), key _ (by decide), key _ (by decide)⟩

theorem simple_str (toks : Toks) (fuel i : Nat) (d : List DiagKind) (t : Tok) (s : String)
    (h1 : toks[i]? = some t) (ht : t.text = strTok s) :
    parseSimple toks false (fuel + 1) ⟨i, d⟩ = .ok ⟨.strLit s, ⟨t.line, i + 1⟩⟩ ⟨i + 1, d⟩ := by
  have hf := strFacts s
  rw [simple_literal toks false fuel i d t h1 (ht ▸ hf.notSym) (ht ▸ hf.ne1.1) (ht ▸ hf.ne1.2.1), ht, if_pos hf.str]
  simp [bind_apply, P.bind, pure_apply, pop, h1, unescapeTok_strTok, diagN]

theorem pf_str (s : String) : PF (.strLit s) :=
  pf_leaf _ (strTok s) (fun _ => by simp [printExpr]) (strFacts s).notBad rfl rfl

theorem pf_tuple {es : List Expr} : PF (.tuple es) := by
  cases es with
  | nil => exact pf_kw "(" [] ")" true (fun first => by simp [printExpr, g]) lparen_not_bad rfl rfl
  | cons e r =>
    cases r with
    | nil => exact pf_kw "(" (printExpr true e ++ [g ","]) ")" true (fun first => by simp [printExpr, g]) lparen_not_bad rfl rfl
    | cons e2 r2 =>
      exact pf_kw "(" (printArgs true (e :: e2 :: r2)) ")" true (fun first => by simp [printExpr, g]) lparen_not_bad rfl rfl

theorem pf_list {es : List Expr} : PF (.list es) :=
  pf_kw "[" (printArgs true es) "]" true (fun first => by simp [printExpr, g]) lbrack_not_bad rfl rfl

theorem pf_mcall {r : Expr} {m : String} {args : List Expr} (pr : PF r) : PF (.mcall r m args) :=
  pf_post pr ([g ".", g m, g "("] ++ printArgs true args) ")" true (fun first => by simp [printExpr, g]) rfl rfl

/-- `Stop` on the next token; `dot`: the expression ends in a dot access; `el`: an `else` must not follow. -/
def StopT (dot el : Bool) : Fw := fun o => ∀ t, o = some t →
  t.text ≠ "=" ∧ t.text ≠ "+=" ∧ t.text ≠ "-=" ∧ ¬ (t.text = "{" ∧ t.touchesPrev = true) ∧
  (dot = true → t.text ≠ "(") ∧ ¬ (t.text = "(" ∧ t.touchesPrev = true) ∧ t.text ≠ "." ∧ t.text ≠ "::" ∧
  gardenBinaryOps.contains t.text = false ∧ (el = true → t.text ≠ "else")

def FolT (dot el : Bool) : Fw := fun o => ∀ t, o = some t →
  t.text ≠ "=" ∧ t.text ≠ "+=" ∧ t.text ≠ "-=" ∧ ¬ (t.text = "{" ∧ t.touchesPrev = true) ∧
  (dot = true → t.text ≠ "(") ∧ (el = true → t.text ≠ "else")

theorem StopT.fol {dot el : Bool} {o : Option Tok} (h : StopT dot el o) : FolT dot el o := fun t ht =>
  have := h t ht; ⟨this.1, this.2.1, this.2.2.1, this.2.2.2.1, this.2.2.2.2.1, this.2.2.2.2.2.2.2.2.2⟩

/-- `Stop` is `StopT` and the line condition after a bare `return`. -/
theorem stop_iff0 {e : Expr} {ln : Nat} {rest : List Tok} :
    Stop e ln rest ↔ StopT (endsDot e) true rest.head? ∧ (tailRet e = true → ∀ t, rest.head? = some t → ln + pnl e ≤ t.line) := by
  constructor
  · exact fun h => ⟨fun t ht => have := h t ht
      ⟨this.1, this.2.1, this.2.2.1, this.2.2.2.1, this.2.2.2.2.1, this.2.2.2.2.2.1, this.2.2.2.2.2.2.1, this.2.2.2.2.2.2.2.1,
        this.2.2.2.2.2.2.2.2.1, fun _ => this.2.2.2.2.2.2.2.2.2.2⟩, fun hb t ht => (h t ht).2.2.2.2.2.2.2.2.2.1 hb⟩
  · exact fun ⟨h, hl⟩ t ht => have := h t ht
      ⟨this.1, this.2.1, this.2.2.1, this.2.2.2.1, this.2.2.2.2.1, this.2.2.2.2.2.1, this.2.2.2.2.2.2.1, this.2.2.2.2.2.2.2.1,
        this.2.2.2.2.2.2.2.2.1, fun hb => hl hb t ht, this.2.2.2.2.2.2.2.2.2 rfl⟩

/-- The line condition is `LineOk` at the cursor after the text. -/
theorem stop_iff {e : Expr} (pe : PF e) (C : Cur) (first : Bool) (rest : List Tok) :
    Stop e C.ln rest ↔ StopT (endsDot e) true rest.head? ∧ LineOk (C.adv (printExpr first e)) rest.head? := by
  simp only [LineOk, Cur.adv, pe.fl, pe.nlc]; exact stop_iff0

def IsE (e : Expr) (r : PExpr) (j : Nat) : Prop := r.e = e ∧ r.pos.endPos = j

/-- A complete expression is read exactly: `FU` on the cursor. -/
def Full (el : Bool) (e : Expr) (n : Nat) : Prop :=
  ∀ toks C first, Rd toks n C (parseExpressionT toks false true) (printExpr first e) (StopT (endsDot e) el) (IsE e)

/-- The same for both settings of the infix flag: `FS` on the cursor. -/
def Stmt (el : Bool) (e : Expr) (n : Nat) : Prop :=
  ∀ toks C first b, Rd toks n C (parseExpressionT toks false b) (printExpr first e) (StopT (endsDot e) el) (IsE e)

theorem Stmt.full {el : Bool} {e : Expr} {n : Nat} (h : Stmt el e n) : Full el e n := fun toks C first => h toks C first true

theorem lexAux_eq_T {e : Expr} (pe : PF e) (b : Bool) (ln : Nat) (first : Bool) :
    lexAux b ln (printExpr first e) = T ln (first && !b) e := by
  obtain ⟨s, tl, h1, _⟩ := pe.hd
  simp [T, h1, lexAux]

theorem FU.full {e : Expr} {n : Nat} (h : FU e n) (pe : PF e) : Full true e n := by
  intro toks C first fuel rest d hf hD hF hl
  have hn : (T C.ln (first && !C.b) e).length = ntok (printExpr first e) := by rw [← lexAux_eq_T pe, length_lexAux]
  refine ok_mono (h fuel C.ln (first && !C.b) C.i rest d toks hf (by rw [← lexAux_eq_T pe]; exact hD)
    ((stop_iff pe C first rest).2 ⟨hF, hl⟩)) ?_
  rintro r s' ⟨h1, h2, h3⟩
  simp only [hn] at h2 h3
  exact ⟨⟨h1, h2⟩, h3⟩

theorem Full.fu {e : Expr} {n : Nat} (h : Full true e n) (pe : PF e) : FU e n := by
  intro fuel ln first i rest d toks hf hD hs
  obtain ⟨hF, hl⟩ := (stop_iff pe ⟨i, false, ln⟩ first rest).1 hs
  refine ok_mono (h toks ⟨i, false, ln⟩ first fuel rest d hf hD hF hl) ?_
  rintro r s' ⟨⟨h1, h2⟩, h3⟩
  have hn : (T ln first e).length = ntok (printExpr first e) := length_lexAux ..
  simp only [Cur.adv, ← hn] at h2 h3
  exact ⟨h1, h2, h3⟩


theorem Stmt.fs {e : Expr} {n : Nat} (h : Stmt true e n) (pe : PF e) : FS e n := by
  intro b fuel ln first i rest d toks hf hD hs
  obtain ⟨hF, hl⟩ := (stop_iff pe ⟨i, false, ln⟩ first rest).1 hs
  refine ok_mono (h toks ⟨i, false, ln⟩ first b fuel rest d hf hD hF hl) ?_
  rintro r s' ⟨⟨h1, h2⟩, h3⟩
  have hn : (T ln first e).length = ntok (printExpr first e) := length_lexAux ..
  simp only [Cur.adv, ← hn] at h2 h3
  exact ⟨h1, h2, h3⟩

theorem StopT.of {dot el : Bool} {t : Tok} (hs : t.text ∉ istopSet)
    (hg : t.touchesPrev = true → t.text ≠ "{" ∧ t.text ≠ "(") (hd : dot = true → t.text ≠ "(") : StopT dot el (some t) := by
  intro t' h; cases h
  have m : ∀ x, x ∈ istopSet → t.text ≠ x := fun x hx e => hs (e ▸ hx)
  refine ⟨m _ (by decide), m _ (by decide), m _ (by decide), fun h => (hg h.2).1 h.1, hd, fun h => (hg h.2).2 h.1,
    m _ (by decide), m _ (by decide), ?_, fun _ => m _ (by decide)⟩
  cases hc : gardenBinaryOps.contains t.text with
  | false => rfl
  | true => exact absurd (List.mem_append_right _ (by simpa using hc)) hs

theorem StopT.tk {dot el : Bool} {s : String} {tt : Bool} {l : Nat} (hs : s ∉ istopSet)
    (hg : tt = true → s ≠ "{" ∧ s ≠ "(") (hd : dot = true → s ≠ "(") : StopT dot el (some (tk s tt l)) := .of hs hg hd

theorem StopT.sep {dot el : Bool} {x : String} {o : Option Tok} (hx : x ∈ [",", ")", "]", "}", "=>"]) (h : isTok x o = true) :
    StopT dot el o := by
  obtain ⟨t, rfl, rfl⟩ := isTok_iff.mp h
  have hc : t.text ∉ istopSet ∧ t.text ≠ "(" ∧ t.text ≠ "{" :=
    (by decide : ∀ y ∈ [",", ")", "]", "}", "=>"], y ∉ istopSet ∧ y ≠ "(" ∧ y ≠ "{") _ hx
  exact .of hc.1 (fun _ => ⟨hc.2.2, hc.2.1⟩) (fun _ => hc.2.1)

theorem stop_of_tok {e : Expr} {ln : Nat} {s : String} {tt : Bool} {l2 : Nat} {rest : List Tok} (hs : s ∉ istopSet)
    (hg : tt = true → s ≠ "{" ∧ s ≠ "(") (hdot : endsDot e = true → s ≠ "(")
    (hl : tailRet e = true → ln + pnl e ≤ l2) : Stop e ln (tk s tt l2 :: rest) :=
  stop_iff0.2 ⟨.tk hs hg hdot, fun h t ht => by cases ht; exact hl h⟩

theorem stop_sep {e : Expr} {ln : Nat} {x : String} {tt : Bool} {lt : Nat} {rest : List Tok}
    (hx : x = "," ∨ x = ")" ∨ x = "]" ∨ x = "}" ∨ x = "=>") (ht : tailRet e = false) :
    Stop e ln (tk x tt lt :: rest) :=
  stop_iff0.2 ⟨.sep (x := x) (by simpa using hx) (by simp [isTok]), fun h => by rw [ht] at h; cases h⟩

theorem stop_lbrace {e : Expr} {ln : Nat} {l2 : Nat} {rest : List Tok} (ht : tailRet e = false) :
    Stop e ln (tk "{" false l2 :: rest) :=
  stop_of_tok (by decide) (fun h => by cases h) (fun _ => by decide) (fun h => by rw [ht] at h; cases h)

theorem printBlock_eq (es : List Expr) : printBlock (.mk es) = .t "{" false :: (printBlockItems es ++ [.nl, .t "}" false]) := by
  simp [printBlock, w]

theorem ntok_pos {e : Expr} (pe : PF e) (first : Bool) : 0 < ntok (printExpr first e) := by
  obtain ⟨s, tl, h1, _⟩ := pe.hd
  rw [h1]; exact Nat.succ_pos _

theorem blockLoop_rd (es : List Expr) (el : Bool) (hfu : ∀ e ∈ es, ∃ n, Full el e n) (hpf : ∀ e ∈ es, PF e) (hadj : Adj es) :
    ∃ N, ∀ toks C acc, Rd toks N C (fun k => blockLoop toks false k acc) (printBlockItems es ++ [.nl]) (Closes "}")
      fun r _ => r = acc ++ es := by
  induction es with
  | nil =>
    apply Exists.intro; intro toks C acc
    apply Rd.succ (blockLoop.eq_2 toks false acc)
    apply Rd.peekT (A := [.nl]) (fun o h _ => isTok_iff.mp h); intro t ht
    simp only [TokI.text, ht, beq_self_eq_true, ↓reduceIte]
    exact .nl (.pure (by simp))
  | cons e r ih =>
    obtain ⟨ne, hne⟩ := hfu e (List.mem_cons_self ..)
    have pe := hpf e (List.mem_cons_self ..)
    obtain ⟨N, hN⟩ := ih (fun x hx => hfu x (List.mem_cons_of_mem _ hx)) (fun x hx => hpf x (List.mem_cons_of_mem _ hx))
      (by cases r with | nil => trivial | cons e2 r2 => exact hadj.2)
    obtain ⟨s0, tl0, hp0, hb0⟩ := pe.hd
    apply Exists.intro; intro toks C acc
    rw [show printBlockItems (e :: r) ++ [.nl] = .nl :: (printExpr false e ++ (printBlockItems r ++ [.nl])) by
      simp [printBlockItems]]
    apply Rd.succ (blockLoop.eq_2 toks false acc)
    apply Rd.peekT (.text (by rw [hp0]; rfl)); intro t ht
    simp only [TokI.text, ht, not_badFirst hb0 (show "}" ∈ badFirst by decide), Bool.false_eq_true, ↓reduceIte]
    apply Rd.nl; apply Rd.getIdx
    apply Rd.bind (hne toks _ false)
    · intro o ho
      cases r with
      | nil => exact .sep (by decide) ho
      | cons e2 r2 =>
        -- the next item starts a line, so its first token is not glued
        obtain ⟨s2, tl2, hp2, hb2⟩ := (hpf e2 (List.mem_cons_of_mem _ (List.mem_cons_self ..))).hd
        rw [show printBlockItems (e2 :: r2) ++ [.nl] = .nl :: (printExpr false e2 ++ (printBlockItems r2 ++ [.nl])) by
          simp [printBlockItems], hp2]
        exact .tk (fun h => hb2 (istop_sub_bad _ h)) (fun h => by cases h) fun hd => hadj.1 hd _ _ (hp2 false)
    intro re hre
    simp only [hre.1, pe.ninv, Bool.false_eq_true, ↓reduceIte]
    apply Rd.getIdx
    simp only [gt_iff_lt, show C.nl.i < (C.nl.adv (printExpr false e)).i from Nat.lt_add_of_pos_right (ntok_pos pe _), ↓reduceIte]
    exact (hN toks _ _).conseq (by simp)

/-- Whatever the flag of its `{`: a block item at top level prints it with the item's. -/
def Blk (es : List Expr) (n : Nat) : Prop :=
  ∀ toks C t, Rd toks n C (parseBlock toks false) (.t "{" t :: (printBlockItems es ++ [.nl, .t "}" false]))
    (fun _ => True) fun r j => r.exprs = es ∧ r.close.endPos = j

theorem block_rd (es : List Expr) (el : Bool) (hfu : ∀ e ∈ es, ∃ n, Full el e n) (hpf : ∀ e ∈ es, PF e) (hadj : Adj es) :
    ∃ N, Blk es N := by
  obtain ⟨N, hN⟩ := blockLoop_rd es el hfu hpf hadj
  apply Exists.intro; intro toks C t
  apply Rd.succ (parseBlock.eq_2 toks false)
  apply Rd.req
  simp only [TokI.text, tk_text, bne_self_eq_false, Bool.false_eq_true, ↓reduceIte]
  rw [show printBlockItems es ++ [.nl, .t "}" false] = (printBlockItems es ++ [.nl]) ++ [.t "}" false] by simp]
  apply Rd.bind (hN toks _ [])
  · exact fun _ _ => rfl
  intro r hr
  apply Rd.req
  exact .pure ⟨by simpa using hr, rfl⟩

def Atom (el : Bool) (e : Expr) (n : Nat) : Prop :=
  ∀ toks C first, Rd toks n C (parseNoTrailing toks false) (printExpr first e) (FolT (endsDot e) el) (IsE e)

/-- The first-token dispatch of `parse_expression_no_trailing`, which also looks at the second token. -/
theorem Rd.stmtKw {toks : Toks} {N : Nat} {C : Cur} {A : List PTok} {F : Fw} {Q : PExpr → Nat → Prop} {kw : String} {t : Bool}
    {p : Nat → P PExpr} (hk : ∀ k, stmtDispatch toks false k kw = p k) (h2 : Nx C.tok A F NoAssign)
    (h : Rd toks N C p (.t kw t :: A) F Q) : Rd toks (N + 1) C (parseNoTrailing toks false) (.t kw t :: A) F Q := by
  intro fuel rest d hf hD hfo hl
  obtain ⟨k, rfl⟩ : ∃ k, fuel = k + 1 := ⟨fuel - 1, by omega⟩
  have hD' := hD; rw [Cur.lex_t, List.cons_append] at hD'
  have h1 : toks[C.i + 1]? = C.tok.nx A rest.head? := by rw [hD'.tail.head?, Cur.head?_lex]
  refine ok_rw ((noTrailing_kw hD'.head (h1 ▸ h2 _ hfo (Cur.adv_t .. ▸ hl))).trans (congrFun (hk k) _)) ?_
  exact h k rest d (by omega) hD hfo hl

def PStopT : Fw := fun o => ∀ t, o = some t → ¬ (t.text = "(" ∧ t.touchesPrev = true) ∧ t.text ≠ "." ∧ t.text ≠ "::"

theorem StopT.pstop {dot el : Bool} {o : Option Tok} (h : StopT dot el o) : PStopT o := fun t ht =>
  have := h t ht; ⟨this.2.2.2.2.2.1, this.2.2.2.2.2.2.1, this.2.2.2.2.2.2.2.1⟩

theorem trailing_stop {toks : Toks} {b : Bool} {k j : Nat} {d : List DiagKind} {pe : PExpr} (hs : PStopT toks[j]?)
    (hb : b = true → ∀ t, toks[j]? = some t → gardenBinaryOps.contains t.text = false) :
    trailing toks false b (k + 1) pe ⟨j, d⟩ = .ok pe ⟨j, d⟩ := by
  cases h3 : toks[j]? with
  | none => exact trailing_none toks b k j d pe h3
  | some t =>
    obtain ⟨a1, a2, a3⟩ := hs t h3
    rw [trailing_peek toks b k j d pe t h3, if_neg (by simp only [Bool.and_eq_true, beq_iff_eq]; exact fun hx => a1 ⟨hx.1.1, hx.2⟩),
      if_neg (by simpa using a2), if_neg (by simpa using a3),
      if_neg (fun h => by rw [hb (Bool.and_eq_true _ _ ▸ h).1 t h3, Bool.and_false] at h; cases h)]
    rfl

theorem trailing_stopT {toks : Toks} {b : Bool} {k j : Nat} {d : List DiagKind} {pe : PExpr} {dot el : Bool}
    (hs : StopT dot el toks[j]?) : trailing toks false b (k + 1) pe ⟨j, d⟩ = .ok pe ⟨j, d⟩ :=
  trailing_stop hs.pstop fun _ t ht => (hs t ht).2.2.2.2.2.2.2.2.1

/-- The dispatch on a first token that is no statement keyword: `parse_simple_expression`, then its own dispatch `he`
(which may look at the second token: `P2`). -/
theorem Rd.simple {toks : Toks} {N : Nat} {C : Cur} {A : List PTok} {F : Fw} {Q : PExpr → Nat → Prop} {kw : String} {t : Bool}
    {p : Nat → P PExpr} {P2 : Option Tok → Prop} (hkw : kw ∉ stmtKeywords) (h2 : Nx C.tok A F fun o => NoAssign o ∧ P2 o)
    (he : ∀ k d o, P2 o → toks[C.i]? = some (tk kw (t && !C.b) C.ln) → toks[C.i + 1]? = o →
      parseSimple toks false (k + 1) ⟨C.i, d⟩ = p k ⟨C.i, d⟩)
    (h : Rd toks N C p (.t kw t :: A) F Q) : Rd toks (N + 2) C (parseNoTrailing toks false) (.t kw t :: A) F Q := by
  intro fuel rest d hf hD hfo hl
  obtain ⟨k, rfl⟩ : ∃ k, fuel = k + 2 := ⟨fuel - 2, by omega⟩
  have hD' := hD; rw [Cur.lex_t, List.cons_append] at hD'
  have h1 : toks[C.i + 1]? = C.tok.nx A rest.head? := by rw [hD'.tail.head?, Cur.head?_lex]
  obtain ⟨ha, hp2⟩ := h2 _ hfo (Cur.adv_t .. ▸ hl)
  refine ok_rw ((noTrailing_simple hD'.head (h1 ▸ ha) hkw).trans (he k d _ hp2 hD'.head h1)) ?_
  exact h k rest d (by omega) hD hfo hl

theorem atom_leaf {el : Bool} {e : Expr} {x : String} (hp : ∀ first, printExpr first e = [.t x first]) (hkw : x ∉ stmtKeywords)
    (hs : ∀ (toks : Toks) (k i : Nat) (d : List DiagKind) (t : Tok), toks[i]? = some t → t.text = x →
      (∀ t2, toks[i + 1]? = some t2 → ¬ (t2.text = "{" ∧ t2.touchesPrev = true)) →
      parseSimple toks false (k + 1) ⟨i, d⟩ = .ok ⟨e, ⟨t.line, i + 1⟩⟩ ⟨i + 1, d⟩) : Atom el e 2 := by
  intro toks C first fuel rest d hf hD hfo _
  obtain ⟨k, rfl⟩ : ∃ k, fuel = k + 2 := ⟨fuel - 2, by omega⟩
  rw [hp] at hD ⊢
  have h0 := hD.head
  have h1 : toks[C.i + 1]? = rest.head? := hD.tail.head?
  have hf2 : ∀ t2, toks[C.i + 1]? = some t2 → _ := fun t2 h2 => hfo t2 (h1 ▸ h2)
  refine ok_of_eq ((noTrailing_simple h0 (fun t2 h2 => ⟨(hf2 t2 h2).1, (hf2 t2 h2).2.1, (hf2 t2 h2).2.2.1⟩) hkw).trans
    (hs toks k C.i d _ h0 rfl fun t2 h2 => (hf2 t2 h2).2.2.2.1)) ⟨⟨rfl, rfl⟩, rfl⟩

/-- A complete expression that `parse_expression_no_trailing` reads whole: the trailing loop stops at once. -/
theorem Rd.exprT_stop {toks : Toks} {N : Nat} {C : Cur} {A : List PTok} {dot el b : Bool} {e : Expr}
    (h : Rd toks (N + 1) C (parseNoTrailing toks false) A (StopT dot el) (IsE e)) :
    Rd toks (N + 2) C (parseExpressionT toks false b) A (StopT dot el) (IsE e) := by
  intro fuel rest d hf hD hfo hl
  obtain ⟨k, rfl⟩ : ∃ k, fuel = k + 2 := ⟨fuel - 2, by omega⟩
  refine ok_exprT' (ok_mono (h (k + 1) rest d (by omega) hD hfo hl) ?_)
  rintro r s' ⟨hr, rfl⟩
  have := hD.skip; rw [Cur.lex, length_lexAux] at this
  exact ok_of_eq (trailing_stopT (this.head? ▸ hfo)) ⟨hr, rfl⟩

theorem PF.nx {e : Expr} (pe : PF e) {C : Cur} {first : Bool} {X : List PTok} {F : Fw} {p : Option Tok → Prop}
    (h : ∀ s, s ∉ badFirst → p (some (tk s (first && !C.b) C.ln))) : Nx C (printExpr first e ++ X) F p := by
  obtain ⟨s, tl, h1, h2⟩ := pe.hd
  rw [h1]; exact .t (h s h2)

theorem noAssign_tk {s : String} {t : Bool} {l : Nat} (h : s ≠ "=" ∧ s ≠ "+=" ∧ s ≠ "-=") : NoAssign (some (tk s t l)) :=
  fun _ h2 => by cases h2; exact h

theorem PF.nx_noAssign {e : Expr} (pe : PF e) {C : Cur} {first : Bool} {X : List PTok} {F : Fw} :
    Nx C (printExpr first e ++ X) F NoAssign := pe.nx fun _ hs => noAssign_tk (bad_second hs)

theorem PF.nx_isTok {e : Expr} (pe : PF e) {C : Cur} {first : Bool} {X : List PTok} {F : Fw} {x : String} (hx : x ∈ badFirst) :
    Nx C (printExpr first e ++ X) F (isTok x · = false) := pe.nx fun _ hs => not_badFirst hs hx

theorem atom_while {c : Expr} {es : List Expr} {el el' : Bool} {nc : Nat} (hc : Full el' c nc) (pc : PF c)
    {nb : Nat} (hb : Blk es nb) : ∃ n, Atom el (.whileE c (.mk es)) n := by
  apply Exists.intro; intro toks C first
  rw [show printExpr first (.whileE c (.mk es)) = .t "while" first :: (printExpr false c ++ (printBlock (.mk es) ++ [])) by
    simp [printExpr], printBlock_eq]
  apply Rd.stmtKw (p := parseWhile toks false) (fun _ => rfl) pc.nx_noAssign
  apply Rd.succ (parseWhile.eq_2 toks false)
  apply Rd.req
  apply Rd.bind (hc toks _ false)
  · exact fun _ _ => .tk (by decide) (fun h => by cases h) (fun _ => by decide)
  intro rc hrc
  apply Rd.bind (hb toks _ false)
  · exact fun _ _ => trivial
  intro rb hrb
  exact .pure ⟨by simp [hrc.1, hrb.1, PBlock.block], by
    simp only [Pos.merge, TokI.pos, hrb.2]; exact Nat.max_eq_right (Nat.le_trans (Cur.le_adv C.tok _) (Cur.le_adv ..))⟩

/-- The trailing loop holding `e`, whose text ends at the current index. -/
def trailAt (toks : Toks) (b : Bool) (e : Expr) (ln' : Nat) : Nat → P PExpr :=
  fun k s => trailing toks false b k ⟨e, ⟨ln', s.idx⟩⟩ s

/-- Operand invariant in continuation-passing form (`R` on the cursor): after the text of `e` the parser is in the
trailing loop holding `e`; what that loop reads next (`A`) and returns is the caller's. -/
def Opd (c el : Bool) (e : Expr) (n : Nat) : Prop :=
  ∀ toks C first b A F (Q : PExpr → Nat → Prop) N, (c = false → b = true) →
    (∀ o, F o → FolT (endsDot e) el ((C.adv (printExpr first e)).nx A o)) →
    (c = false → ∀ o, F o → PStopT ((C.adv (printExpr first e)).nx A o)) →
    (∀ ln', Rd toks N (C.adv (printExpr first e)) (trailAt toks b e ln') A F Q) →
    Rd toks (N + n) C (parseExpressionT toks false b) (printExpr first e ++ A) F Q

theorem Opd.of_atom {el : Bool} {e : Expr} {n : Nat} (h : Atom el e n) : Opd true el e (n + 1) := by
  intro toks C first b A F Q N _ hfol _ hk
  refine Rd.mono (N := max n N + 1) ?_ (by omega)
  apply Rd.succ (parseExpressionT.eq_2 toks false b)
  apply Rd.bind (h toks C first) hfol; intro r hr
  refine (hk r.pos.line).at_eq fun k d => ?_
  obtain ⟨e', l, j⟩ := r; obtain ⟨h1, h2⟩ := hr
  simp only at h1 h2; subst h1; subst h2; rfl

theorem Opd.of_atoms {el : Bool} {e : Expr} (h : ∃ n, Atom el e n) : ∃ n, Opd true el e n :=
  h.elim fun _ hn => ⟨_, .of_atom hn⟩

theorem Opd.chain {el : Bool} {e : Expr} {n : Nat} (h : Opd true el e n) : Opd false el e n :=
  fun toks C first b A F Q N _ hfol _ hk => h toks C first b A F Q N (fun h => by cases h) hfol (fun h => by cases h) hk

theorem trail_stop {toks : Toks} {C : Cur} {b dot el : Bool} {e : Expr} {ln' : Nat} :
    Rd toks 1 C (trailAt toks b e ln') [] (StopT dot el) (IsE e) := by
  intro fuel rest d hf hD hfo _
  obtain ⟨k, rfl⟩ : ∃ k, fuel = k + 1 := ⟨fuel - 1, by omega⟩
  exact ok_of_eq (trailing_stopT (hD.head? ▸ hfo)) ⟨⟨rfl, rfl⟩, rfl⟩

theorem Full.of_opd {c el : Bool} {e : Expr} {n : Nat} (h : Opd c el e n) : Full el e (1 + n) := fun toks C first =>
  List.append_nil (printExpr first e) ▸ h toks C first true [] (StopT (endsDot e) el) (IsE e) 1 (fun _ => rfl)
    (fun _ ho => ho.fol) (fun _ _ ho => ho.pstop) fun _ => trail_stop

/-- A right operand: read with the infix flag off, it ends where the postfix forms end. -/
theorem Opd.rhs {el : Bool} {r : Expr} {n : Nat} (h : Opd true el r n) (toks : Toks) (C : Cur) :
    Rd toks (1 + n) C (parseExpressionT toks false false) (printExpr false r) (fun o => FolT (endsDot r) el o ∧ PStopT o) (IsE r) := by
  refine List.append_nil (printExpr false r) ▸ h toks C false false [] _ (IsE r) 1 (fun h => by cases h) (fun o ho => ho.1)
    (fun h => by cases h) fun ln' => ?_
  intro fuel rest d hf hD hfo _
  obtain ⟨k, rfl⟩ : ∃ k, fuel = k + 1 := ⟨fuel - 1, by omega⟩
  exact ok_of_eq (trailing_stop (hD.head? ▸ hfo.2) nofun) ⟨⟨rfl, rfl⟩, rfl⟩

/-- One round of the trailing loop at a token: the arm `m` it takes there (`hm`, from `trailing_peek`) is read by the rules. -/
theorem Rd.trail {toks : Toks} {b : Bool} {e : Expr} {ln' N : Nat} {C : Cur} {x : String} {t : Bool} {A : List PTok} {F : Fw}
    {Q : PExpr → Nat → Prop} {m : Nat → P PExpr}
    (hm : ∀ k d, toks[C.i]? = some (tk x (t && !C.b) C.ln) →
      trailing toks false b (k + 1) ⟨e, ⟨ln', C.i⟩⟩ ⟨C.i, d⟩ = m k ⟨C.i, d⟩)
    (h : Rd toks N C m (.t x t :: A) F Q) : Rd toks (N + 1) C (trailAt toks b e ln') (.t x t :: A) F Q := by
  intro fuel rest d hf hD hfo hl
  obtain ⟨k, rfl⟩ : ∃ k, fuel = k + 1 := ⟨fuel - 1, by omega⟩
  have hD' := hD; rw [Cur.lex_t, List.cons_append] at hD'
  exact ok_rw (hm k d hD'.head) (h k rest d (by omega) hD hfo hl)

theorem trail_dot {toks : Toks} {b : Bool} {e : Expr} {f : String} {ln' N : Nat} {C : Cur} {t1 : Bool} {A : List PTok} {F : Fw}
    {Q : PExpr → Nat → Prop} (hf : ValidName f) (hnp : Nx C.tok.tok A F (isTok "(" · = false))
    (h : Rd toks N C.tok.tok (trailAt toks b (.dot e f) ln') A F Q) :
    Rd toks (N + 1) C (trailAt toks b e ln') (.t "." t1 :: .t f true :: A) F Q := by
  refine Rd.trail (fun k d h0 => (trailing_peek toks b k C.i d _ _ h0).trans (by
    rw [if_neg (by simp), if_pos (show ((tk "." _ _).text == ".") = true from rfl)])) ?_
  apply Rd.pop
  apply Rd.peekTok
  simp only [tk_touch]
  apply Rd.sym hf
  apply Rd.peekIs hnp
  simp only [Bool.false_eq_true, ↓reduceIte]
  apply Rd.getIdx
  simp only [gt_iff_lt, Cur.tok_i, show C.i < C.i + 1 + 1 by omega, ↓reduceIte]
  exact h.at_eq fun k d => by simp [trailAt, Pos.merge, Cur.tok_i, show max C.i (C.i + 1 + 1) = C.i + 1 + 1 by omega]

theorem opd_dot {el : Bool} {r : Expr} {f : String} {n : Nat} (hr : Opd true el r n) (hf : ValidName f) :
    Opd true el (.dot r f) (1 + n) := by
  intro toks C first b A F Q N _ hfol _ hk
  have hC : C.adv (printExpr first (.dot r f)) = (C.adv (printExpr first r)).tok.tok := by
    simp [printExpr, g, Cur.adv_append, Cur.adv_t, Cur.adv_nil]
  rw [hC] at hfol hk
  have := hr toks C first b (.t "." true :: .t f true :: A) F Q (N + 1) (fun h => by cases h)
    (fun _ _ t ht => by cases ht; simp) (fun h => by cases h) fun ln' => trail_dot hf
      (fun o ho _ => by
        cases h : ((C.adv (printExpr first r)).tok.tok.nx A o) with
        | none => rfl
        | some t => simpa [isTok] using (hfol o ho t h).2.2.2.2.1 rfl) (hk ln')
  simpa [printExpr, g, Nat.add_assoc] using this

theorem Fol.folT {e : Expr} {rest : List Tok} (h : Fol e rest) : FolT (endsDot e) true rest.head? := fun t ht =>
  have := h t ht; ⟨this.1, this.2.1, this.2.2.1, this.2.2.2.1, this.2.2.2.2.1, fun _ => this.2.2.2.2.2⟩

theorem R.of_atom {e : Expr} {n : Nat} (h : Atom true e n) (pe : PF e) (ht : tailRet e = false) : R true e (n + 1) := by
  intro b fuel ln first i rest d toks Q _ hf hD hfo _ ha
  obtain ⟨k, rfl⟩ : ∃ k, fuel = k + 1 := ⟨fuel - 1, by omega⟩
  refine ok_exprT' (ok_mono (h toks ⟨i, false, ln⟩ first k rest d (by omega) hD hfo.folT
    (fun hb => by simp [Cur.adv, pe.fl, ht] at hb)) ?_)
  rintro ⟨e', l, j⟩ s' ⟨⟨h1, h2⟩, rfl⟩
  simp only at h1 h2; subst h1
  have hn : (T ln first e').length = ntok (printExpr first e') := length_lexAux ..
  exact ha.apply (by omega) (by simp [Cur.adv, hn]) (by simp [h2, Cur.adv, hn])

theorem printArgs_two (first : Bool) (a b : Expr) (r : List Expr) :
    printArgs first (a :: b :: r) = printExpr first a ++ (.t "," true :: printArgs false (b :: r)) := by simp [printArgs, g]

theorem commaSep_rd (args : List Expr) (el : Bool) (hfu : ∀ a ∈ args, ∃ n, Full el a n) (hpf : ∀ a ∈ args, PF a) :
    ∃ N, ∀ toks C first ol term acc, term = ")" ∨ term = "]" →
      Rd toks N C (fun k => commaSep toks false k ol term acc) (printArgs first args) (Closes term) fun r _ => r = acc ++ args := by
  induction args with
  | nil =>
    apply Exists.intro; intro toks C first ol term acc _
    apply Rd.succ (commaSep.eq_2 toks false ol term acc)
    exact .peekIs (.nil fun _ h => h) (.pure (by simp))
  | cons a r ih =>
    obtain ⟨na, hna⟩ := hfu a (List.mem_cons_self ..)
    have pa := hpf a (List.mem_cons_self ..)
    obtain ⟨N, hN⟩ := ih (fun x hx => hfu x (List.mem_cons_of_mem _ hx)) (fun x hx => hpf x (List.mem_cons_of_mem _ hx))
    obtain ⟨s0, tl0, hp0, hb0⟩ := pa.hd
    have hcl : ∀ term, term = ")" ∨ term = "]" → term ∈ badFirst ∧ term ≠ "," ∧ term ∈ [",", ")", "]", "}", "=>"] := by
      rintro _ (rfl | rfl) <;> decide
    cases r with
    | nil =>
      apply Exists.intro; intro toks C first ol term acc hterm
      obtain ⟨ht1, ht2, ht3⟩ := hcl term hterm
      rw [show printArgs first [a] = printExpr first a ++ [] by simp [printArgs]]
      apply Rd.succ (commaSep.eq_2 toks false ol term acc)
      apply Rd.peekIs (v := false) (.first (by rw [hp0]; rfl) fun t ht => by rw [isTok_of_text ht]; exact not_badFirst hb0 ht1)
      apply Rd.getIdx
      apply Rd.bind (hna toks C first)
      · exact fun _ ho => .sep ht3 ho
      intro ra hra
      simp only [hra.1, pa.ninv, Bool.false_eq_true, ↓reduceIte]
      apply Rd.getIdx
      simp only [gt_iff_lt, show C.i < (C.adv (printExpr first a)).i from Nat.lt_add_of_pos_right (ntok_pos pa _),
        decide_true, Bool.not_true, Bool.false_eq_true, ↓reduceIte]
      apply Rd.peekT .closes; intro t ht
      simp only [TokI.text, ht, show (term == ",") = false by simpa using ht2, bne_self_eq_false, Bool.false_eq_true, ↓reduceIte]
      exact .pure rfl
    | cons a2 r2 =>
      apply Exists.intro; intro toks C first ol term acc hterm
      obtain ⟨ht1, ht2, ht3⟩ := hcl term hterm
      rw [printArgs_two]
      apply Rd.succ (commaSep.eq_2 toks false ol term acc)
      apply Rd.peekIs (v := false) (.first (by rw [hp0]; rfl) fun t ht => by rw [isTok_of_text ht]; exact not_badFirst hb0 ht1)
      apply Rd.getIdx
      apply Rd.bind (hna toks C first)
      · exact fun _ _ => .sep (x := ",") (by decide) rfl
      intro ra hra
      simp only [hra.1, pa.ninv, Bool.false_eq_true, ↓reduceIte]
      apply Rd.getIdx
      simp only [gt_iff_lt, show C.i < (C.adv (printExpr first a)).i from Nat.lt_add_of_pos_right (ntok_pos pa _),
        decide_true, Bool.not_true, Bool.false_eq_true, ↓reduceIte]
      apply Rd.peekTok
      simp only [TokI.text, tk_text, beq_self_eq_true, ↓reduceIte]
      apply Rd.pop
      exact (hN toks _ false ol term _ hterm).conseq (by simp)

def Args (args : List Expr) (n : Nat) : Prop :=
  ∀ toks C t, Rd toks n C (parseCallArguments toks false) (.t "(" t :: (printArgs true args ++ [.t ")" true]))
    (fun _ => True) fun r j => r.1 = args ∧ r.2.endPos = j

theorem callArgs_rd (args : List Expr) (el : Bool) (hfu : ∀ a ∈ args, ∃ n, Full el a n) (hpf : ∀ a ∈ args, PF a) :
    ∃ N, Args args N := by
  obtain ⟨N, hN⟩ := commaSep_rd args el hfu hpf
  apply Exists.intro; intro toks C t
  apply Rd.succ (parseCallArguments.eq_2 toks false)
  apply Rd.req
  apply Rd.bind (hN toks _ true _ ")" [] (Or.inl rfl))
  · exact fun _ _ => rfl
  intro r hr
  simp only [closePos, P.bind_assoc]
  apply Rd.peekTok
  simp only [TokI.text, tk_text, beq_self_eq_true, ↓reduceIte, P.bind_assoc]
  apply Rd.pop
  exact .pure ⟨by simpa using hr, rfl⟩

theorem atom_paren {e : Expr} {el el' : Bool} {n : Nat} (he : Full el' e n) (pe : PF e) : ∃ k, Atom el (.paren e) k := by
  apply Exists.intro; intro toks C first
  rw [show printExpr first (.paren e) = .t "(" first :: (printExpr true e ++ (.t ")" true :: [])) by simp [printExpr, g]]
  apply Rd.simple (p := parseTupleOrParen toks false) (P2 := fun _ => True) (by decide) (pe.nx fun _ hs => ⟨noAssign_tk (bad_second hs), trivial⟩)
    (fun k d _ _ h0 _ => simple_paren toks k C.i d _ h0 rfl)
  apply Rd.succ (parseTupleOrParen.eq_2 toks false)
  apply Rd.req
  apply Rd.peekIs (pe.nx_isTok (by decide))
  apply Rd.bind (he toks _ true)
  · exact fun _ _ => .sep (x := ")") (by decide) rfl
  intro r hr
  apply Rd.peekIs (v := false) (.t rfl)
  apply Rd.req
  exact .pure ⟨by simp [hr.1], Nat.max_eq_right (Nat.le_trans (Cur.le_adv C.tok _) (Nat.le_succ _))⟩

theorem atom_if_none {c : Expr} {es : List Expr} {el' : Bool} {nc nb : Nat} (hc : Full el' c nc) (pc : PF c) (hb : Blk es nb) :
    ∃ n, Atom true (.ifE c (.mk es) none) n := by
  apply Exists.intro; intro toks C first
  rw [show printExpr first (.ifE c (.mk es) none) = .t "if" first :: (printExpr false c ++ (printBlock (.mk es) ++ [])) by
    simp [printExpr], printBlock_eq]
  apply Rd.stmtKw (p := parseIf toks false) (fun _ => rfl) pc.nx_noAssign
  apply Rd.succ (parseIf.eq_2 toks false)
  apply Rd.req
  apply Rd.bind (hc toks _ false)
  · exact fun _ _ => .tk (by decide) (fun h => by cases h) (fun _ => by decide)
  intro rc hrc
  apply Rd.bind (hb toks _ false)
  · exact fun _ _ => trivial
  intro rb hrb
  apply Rd.peekIs (v := false) (.nil fun o ho => by
    cases o with
    | none => rfl
    | some t => simpa [isTok] using (ho t rfl).2.2.2.2.2 rfl)
  exact .pure ⟨by simp [hrc.1, hrb.1, PBlock.block], by
    simp only [Pos.merge, TokI.pos, hrb.2]; exact Nat.max_eq_right (Nat.le_trans (Cur.le_adv C.tok _) (Cur.le_adv ..))⟩

theorem atom_if_some {c : Expr} {es es2 : List Expr} {el el' : Bool} {nc nb nb2 : Nat} (hc : Full el' c nc) (pc : PF c)
    (hb : Blk es nb) (hb2 : Blk es2 nb2) : ∃ n, Atom el (.ifE c (.mk es) (some (.mk es2))) n := by
  apply Exists.intro; intro toks C first
  rw [show printExpr first (.ifE c (.mk es) (some (.mk es2))) = .t "if" first :: (printExpr false c ++
      (printBlock (.mk es) ++ (.t "else" false :: (printBlock (.mk es2) ++ [])))) by simp [printExpr, w], printBlock_eq, printBlock_eq]
  apply Rd.stmtKw (p := parseIf toks false) (fun _ => rfl) pc.nx_noAssign
  apply Rd.succ (parseIf.eq_2 toks false)
  apply Rd.req
  apply Rd.bind (hc toks _ false)
  · exact fun _ _ => .tk (by decide) (fun h => by cases h) (fun _ => by decide)
  intro rc hrc
  apply Rd.bind (hb toks _ false)
  · exact fun _ _ => trivial
  intro rb hrb
  apply Rd.peekIs (.t rfl)
  apply Rd.pop
  apply Rd.peekIs (v := false) (.t rfl)
  apply Rd.bind (hb2 toks _ false)
  · exact fun _ _ => trivial
  intro rb2 hrb2
  exact .pure ⟨by simp [hrc.1, hrb.1, hrb2.1, PBlock.block], by
    simp only [Pos.merge, TokI.pos, hrb2.2, Cur.adv_i, Cur.tok_i]; omega⟩

theorem trail_ns {toks : Toks} {b : Bool} {e : Expr} {f : String} {ln' N : Nat} {C : Cur} {t1 : Bool} {A : List PTok} {F : Fw}
    {Q : PExpr → Nat → Prop} (hf : ValidName f) (h : Rd toks N C.tok.tok (trailAt toks b (.ns e f) ln') A F Q) :
    Rd toks (N + 1) C (trailAt toks b e ln') (.t "::" t1 :: .t f true :: A) F Q := by
  refine Rd.trail (fun k d h0 => (trailing_peek toks b k C.i d _ _ h0).trans (by
    rw [if_neg (by simp), if_neg (show ¬ ((tk "::" _ _).text == ".") = true from (by decide : ¬ (("::" : String) == ".") = true)),
      if_pos (show ((tk "::" _ _).text == "::") = true from rfl)])) ?_
  apply Rd.pop
  apply Rd.peekTok
  simp only [tk_touch]
  apply Rd.sym hf
  apply Rd.getIdx
  simp only [gt_iff_lt, Cur.tok_i, show C.i < C.i + 1 + 1 by omega, ↓reduceIte]
  exact h.at_eq fun k d => by simp [trailAt, Pos.merge, Cur.tok_i, show max C.i (C.i + 1 + 1) = C.i + 1 + 1 by omega]

theorem opd_ns {el : Bool} {r : Expr} {f : String} {n : Nat} (hr : Opd true el r n) (hf : ValidName f) :
    Opd true el (.ns r f) (1 + n) := by
  intro toks C first b A F Q N _ hfol _ hk
  have hC : C.adv (printExpr first (.ns r f)) = (C.adv (printExpr first r)).tok.tok := by
    simp [printExpr, g, Cur.adv_append, Cur.adv_t, Cur.adv_nil]
  rw [hC] at hk
  have := hr toks C first b (.t "::" true :: .t f true :: A) F Q (N + 1) (fun h => by cases h)
    (fun _ _ t ht => by cases ht; simp) (fun h => by cases h) fun ln' => trail_ns hf (hk ln')
  simpa [printExpr, g, Nat.add_assoc] using this

/-- The `(` of a call must be glued, so no newline may have been passed (`hb`). -/
theorem trail_call {toks : Toks} {b : Bool} {e : Expr} {args : List Expr} {ln' N n : Nat} {C : Cur} {A : List PTok} {F : Fw}
    {Q : PExpr → Nat → Prop} (hb : C.b = false) (ha : Args args n)
    (h : Rd toks N (C.adv (.t "(" true :: (printArgs true args ++ [.t ")" true]))) (trailAt toks b (.call e args) ln') A F Q) :
    Rd toks (max n N + 1) C (trailAt toks b e ln') (.t "(" true :: (printArgs true args ++ [.t ")" true]) ++ A) F Q := by
  refine Rd.trail (fun k d h0 => (trailing_peek toks b k C.i d _ _ h0).trans (by rw [if_pos (by simp [hb])])) ?_
  apply Rd.bind (ha toks C true)
  · exact fun _ _ => trivial
  rintro ⟨as, cl⟩ ⟨hr1, hr2⟩
  apply Rd.getIdx
  have hlt : C.i < (C.adv (.t "(" true :: (printArgs true args ++ [.t ")" true]))).i := by simp only [Cur.adv_i, ntok]; omega
  simp only [gt_iff_lt, hlt, ↓reduceIte]
  simp only at hr1 hr2
  exact h.at_eq fun k d => by simp [trailAt, Pos.merge, hr1, hr2, Nat.max_eq_right (Nat.le_of_lt hlt)]

theorem opd_call {el : Bool} {f : Expr} {args : List Expr} {n na : Nat} (hf : Opd true el f n) (pf : PF f)
    (tf : tailRet f = false) (hnd : endsDot f = false) (ha : Args args na) : Opd true el (.call f args) (na + 1 + n) := by
  intro toks C first b A F Q N _ hfol _ hk
  have hp : printExpr first (.call f args) = printExpr first f ++ (.t "(" true :: (printArgs true args ++ [.t ")" true])) := by
    simp [printExpr, g]
  rw [hp, Cur.adv_append] at hk
  have := hf toks C first b _ F Q _ (fun h => by cases h) (fun _ _ t ht => by cases ht; simp [hnd]) (fun h => by cases h)
    fun ln' => trail_call (by simp [Cur.adv, pf.fl, tf]) ha (hk ln')
  rw [hp, List.append_assoc]
  exact this.mono (by omega)

theorem trail_mcall {toks : Toks} {b : Bool} {e : Expr} {m : String} {args : List Expr} {ln' N n : Nat} {C : Cur} {t1 : Bool}
    {A : List PTok} {F : Fw} {Q : PExpr → Nat → Prop} (hm : ValidName m) (ha : Args args n)
    (h : Rd toks N (C.tok.tok.adv (.t "(" true :: (printArgs true args ++ [.t ")" true]))) (trailAt toks b (.mcall e m args) ln') A F Q) :
    Rd toks (max n N + 1) C (trailAt toks b e ln')
      (.t "." t1 :: .t m true :: ((.t "(" true :: (printArgs true args ++ [.t ")" true])) ++ A)) F Q := by
  refine Rd.trail (fun k d h0 => (trailing_peek toks b k C.i d _ _ h0).trans (by
    rw [if_neg (by simp), if_pos (show ((tk "." _ _).text == ".") = true from rfl)])) ?_
  apply Rd.pop
  apply Rd.peekTok
  simp only [tk_touch]
  apply Rd.sym hm
  apply Rd.peekIs (v := true) (.t rfl)
  simp only [↓reduceIte]
  apply Rd.bind (ha toks _ true)
  · exact fun _ _ => trivial
  rintro ⟨as, cl⟩ ⟨hr1, hr2⟩
  apply Rd.getIdx
  have hlt : C.i < (C.tok.tok.adv (.t "(" true :: (printArgs true args ++ [.t ")" true]))).i := by
    simp only [Cur.adv_i, Cur.tok_i]; omega
  simp only [gt_iff_lt, hlt, ↓reduceIte]
  simp only at hr1 hr2
  exact h.at_eq fun k d => by simp [trailAt, Pos.merge, hr1, hr2, Nat.max_eq_right (Nat.le_of_lt hlt)]

theorem opd_mcall {el : Bool} {r : Expr} {m : String} {args : List Expr} {n na : Nat} (hr : Opd true el r n) (hm : ValidName m)
    (ha : Args args na) : Opd true el (.mcall r m args) (na + 1 + n) := by
  intro toks C first b A F Q N _ hfol _ hk
  have hp : printExpr first (.mcall r m args) =
      printExpr first r ++ (.t "." true :: .t m true :: (.t "(" true :: (printArgs true args ++ [.t ")" true]))) := by
    simp [printExpr, g]
  rw [hp, Cur.adv_append, Cur.adv_t, Cur.adv_t] at hk
  have := hr toks C first b (.t "." true :: .t m true :: ((.t "(" true :: (printArgs true args ++ [.t ")" true])) ++ A)) F Q _
    (fun h => by cases h) (fun _ _ t ht => by cases ht; simp) (fun h => by cases h) fun ln' => trail_mcall hm ha (hk ln')
  rw [hp, List.append_assoc]
  exact this.mono (by omega)

/-- The right operand of an infix operator is read without infix operators, by a parser call of its own, which must
stop where the operand's text ends (`hFi`). -/
theorem trail_binop {toks : Toks} {e r : Expr} {op : String} {ln' N n : Nat} {C : Cur} {t1 : Bool} {A : List PTok} {F Fi : Fw}
    {Q : PExpr → Nat → Prop} (hop : gardenBinaryOps.contains op = true) (pr : PF r)
    (hr : Rd toks n C.tok (parseExpressionT toks false false) (printExpr false r) Fi (IsE r))
    (hFi : ∀ o, F o → Fi ((C.tok.adv (printExpr false r)).nx A o))
    (h : Rd toks N (C.tok.adv (printExpr false r)) (trailAt toks true (.binop e op r) ln') A F Q) :
    Rd toks (max n N + 1) C (trailAt toks true e ln') (.t op t1 :: (printExpr false r ++ A)) F Q := by
  obtain ⟨o1, o2, o3, _⟩ := binop_ne hop
  refine Rd.trail (fun k d h0 => (trailing_peek toks true k C.i d _ _ h0).trans (by
    rw [if_neg (by simp [o1]), if_neg (by simpa using o2), if_neg (by simpa using o3), if_pos (by simpa using hop)])) ?_
  apply Rd.pop
  apply Rd.bind hr hFi
  rintro rr ⟨hr1, hr2⟩
  apply Rd.getIdx
  have hlt : C.i < (C.tok.adv (printExpr false r)).i := by
    have := ntok_pos pr false; simp only [Cur.adv_i, Cur.tok_i]; omega
  simp only [gt_iff_lt, hlt, ↓reduceIte]
  exact h.at_eq fun k d => by simp [trailAt, Pos.merge, hr1, hr2, Nat.max_eq_right (Nat.le_of_lt hlt)]

theorem op_folT {op : String} (hop : gardenBinaryOps.contains op = true) {dot el tt : Bool} {ln : Nat} :
    FolT dot el (some (tk op tt ln)) := by
  obtain ⟨o1, _, _, o4, o5, o6, o7⟩ := binop_ne hop
  have oe : op ≠ "else" := by intro e; subst e; revert hop; decide
  exact fun t ht => by cases ht; simp [o4, o5, o6, o7, o1, oe]

theorem op_pstopT {op : String} (hop : gardenBinaryOps.contains op = true) {tt : Bool} {ln : Nat} :
    PStopT (some (tk op tt ln)) := by
  obtain ⟨o1, o2, o3, _⟩ := binop_ne hop
  exact fun t ht => by cases ht; simp [o1, o2, o3]

theorem printExpr_binop (first : Bool) (l r : Expr) (op : String) (A : List PTok) :
    printExpr first (.binop l op r) ++ A = printExpr first l ++ (.t op false :: (printExpr false r ++ A)) := by
  simp [printExpr, w]

theorem adv_binop (C : Cur) (first : Bool) (l r : Expr) (op : String) :
    C.adv (printExpr first (.binop l op r)) = ((C.adv (printExpr first l)).tok.adv (printExpr false r)) := by
  rw [← List.append_nil (printExpr _ _), printExpr_binop]; simp [Cur.adv_append, Cur.adv_t]

theorem opd_binop {el : Bool} {l r : Expr} {op : String} {nl nr : Nat} (hl : Opd false el l nl) (hr : Opd true el r nr)
    (pr : PF r) (hop : gardenBinaryOps.contains op = true) : Opd false el (.binop l op r) (nr + 2 + nl) := by
  intro toks C first b A F Q N hb hfol hps hk
  obtain rfl := hb rfl
  rw [adv_binop] at hk hfol hps
  rw [printExpr_binop]
  refine (hl toks C first true (.t op false :: (printExpr false r ++ A)) F Q _ (fun _ => rfl) (fun _ _ => op_folT hop)
    (fun _ _ _ => op_pstopT hop)
    fun ln' => trail_binop hop pr (hr.rhs toks _) (fun o ho => ⟨hfol o ho, hps rfl o ho⟩) (hk ln')).mono (by omega)

/-- `a op s` with `s` a statement form: the last operator of a chain may have an open-ended right operand. -/
theorem full_binop_stmt {el : Bool} {l r : Expr} {op : String} {nl nr : Nat} (hl : Opd false el l nl) (hr : Stmt el r nr)
    (pr : PF r) (hop : gardenBinaryOps.contains op = true) : Full el (.binop l op r) (max nr 1 + 1 + nl) := by
  intro toks C first
  rw [← List.append_nil (printExpr _ _), printExpr_binop]
  refine hl toks C first true (.t op false :: (printExpr false r ++ [])) _ _ _ (fun _ => rfl) (fun _ _ => op_folT hop)
    (fun _ _ _ => op_pstopT hop) fun ln' => trail_binop hop pr (hr toks _ false false) (fun _ ho => ho) ?_
  exact adv_binop C first l r op ▸ trail_stop

theorem nx_args {args : List Expr} (hpf : ∀ a ∈ args, PF a) {C : Cur} {first : Bool} {x : String} {t : Bool} {X : List PTok}
    {F : Fw} {p : Option Tok → Prop} (h1 : ∀ s, s ∉ badFirst → p (some (tk s (first && !C.b) C.ln)))
    (h2 : p (some (tk x (t && !C.b) C.ln))) : Nx C (printArgs first args ++ (.t x t :: X)) F p := by
  cases args with
  | nil => exact .t h2
  | cons a r =>
    cases r with
    | nil => rw [show printArgs first [a] = printExpr first a by simp [printArgs]]; exact (hpf a (List.mem_cons_self ..)).nx h1
    | cons b r => rw [printArgs_two, List.append_assoc]; exact (hpf a (List.mem_cons_self ..)).nx h1

theorem atom_list {items : List Expr} {el el' : Bool} (hfu : ∀ a ∈ items, ∃ n, Full el' a n) (hpf : ∀ a ∈ items, PF a) :
    ∃ n, Atom el (.list items) n := by
  obtain ⟨N, hN⟩ := commaSep_rd items el' hfu hpf
  apply Exists.intro; intro toks C first
  rw [show printExpr first (.list items) = .t "[" first :: (printArgs true items ++ (.t "]" true :: [])) by simp [printExpr, g]]
  apply Rd.simple (p := parseListLiteral toks false) (P2 := fun _ => True) (by decide)
    (nx_args hpf (fun _ hs => ⟨noAssign_tk (bad_second hs), trivial⟩) ⟨noAssign_tk (by decide), trivial⟩)
    (fun k d _ _ h0 _ => simple_list toks k C.i d _ h0 rfl)
  apply Rd.succ (parseListLiteral.eq_2 toks false)
  apply Rd.req
  apply Rd.bind (hN toks _ true _ "]" [] (Or.inr rfl))
  · exact fun _ _ => rfl
  intro r hr
  simp only [closePos, P.bind_assoc]
  apply Rd.peekTok
  simp only [TokI.text, tk_text, beq_self_eq_true, ↓reduceIte, P.bind_assoc]
  apply Rd.pop
  exact .pure ⟨by simpa using hr, by simp only [Pos.merge, TokI.pos, Cur.adv_i, Cur.tok_i]; omega⟩

def tupleTail : List Expr → List PTok
  | [] => []
  | e :: r => .t "," true :: (printExpr false e ++ tupleTail r)

theorem printArgs_cons (first : Bool) (e : Expr) (rs : List Expr) : printArgs first (e :: rs) = printExpr first e ++ tupleTail rs := by
  induction rs generalizing first e with
  | nil => simp [printArgs, tupleTail]
  | cons e2 r ih => rw [printArgs_two, ih]; rfl

theorem tupleLoop_rd (rs : List Expr) (el : Bool) (hfu : ∀ a ∈ rs, ∃ n, Full el a n) (hpf : ∀ a ∈ rs, PF a) :
    ∃ N, ∀ toks C acc, Rd toks N C (fun k => tupleLoop toks false k acc) (tupleTail rs) (Closes ")") fun r _ => r = acc ++ rs := by
  induction rs with
  | nil =>
    apply Exists.intro; intro toks C acc
    apply Rd.succ (tupleLoop.eq_2 toks false acc)
    apply Rd.peekIs (v := false) (.nil fun _ h => isTok_ne h (by decide))
    apply Rd.peekIs (.nil fun _ h => h)
    simp only [Bool.not_false, Bool.not_true, Bool.and_false, Bool.false_eq_true, ↓reduceIte]
    exact .peekIs (.nil fun _ h => h) (.pure (by simp))
  | cons a r ih =>
    obtain ⟨na, hna⟩ := hfu a (List.mem_cons_self ..)
    have pa := hpf a (List.mem_cons_self ..)
    obtain ⟨N, hN⟩ := ih (fun x hx => hfu x (List.mem_cons_of_mem _ hx)) (fun x hx => hpf x (List.mem_cons_of_mem _ hx))
    apply Exists.intro; intro toks C acc
    apply Rd.succ (tupleLoop.eq_2 toks false acc)
    apply Rd.peekIs (.t rfl)
    apply Rd.peekIs (v := false) (.t rfl)
    apply Rd.pop
    apply Rd.peekIs (pa.nx_isTok (by decide))
    apply Rd.getIdx
    apply Rd.bind (hna toks _ false)
    · intro o ho
      cases r with
      | nil => exact .sep (by decide) ho
      | cons => exact .sep (x := ",") (by decide) rfl
    intro ra hra
    simp only [hra.1, pa.ninv, Bool.not_false, Bool.and_false, Bool.false_eq_true, ↓reduceIte]
    apply Rd.getIdx
    simp only [gt_iff_lt, show C.tok.i < (C.tok.adv (printExpr false a)).i from Nat.lt_add_of_pos_right (ntok_pos pa _), ↓reduceIte]
    exact (hN toks _ _).conseq (by simp)

/-- A tuple with a first element: `X` is what the loop reads after it (`, e₂, …`, or the lone comma of a 1-tuple). -/
theorem atom_tuple_of {el el' : Bool} {e : Expr} {es : List Expr} {n : Nat} {X : List PTok} (he : Full el' e n) (pe : PF e)
    (hX : ∃ tl, X = .t "," true :: tl)
    (hl : ∃ N, ∀ toks C, Rd toks N C (fun k => tupleLoop toks false k [e]) X (Closes ")") fun r _ => r = e :: es)
    (hp : ∀ first, printExpr first (.tuple (e :: es)) = .t "(" first :: (printExpr true e ++ (X ++ (.t ")" true :: [])))) :
    ∃ k, Atom el (.tuple (e :: es)) k := by
  obtain ⟨N, hN⟩ := hl
  obtain ⟨tl, rfl⟩ := hX
  apply Exists.intro; intro toks C first
  rw [hp]
  apply Rd.simple (p := parseTupleOrParen toks false) (P2 := fun _ => True) (by decide)
    (pe.nx fun _ hs => ⟨noAssign_tk (bad_second hs), trivial⟩) (fun k d _ _ h0 _ => simple_paren toks k C.i d _ h0 rfl)
  apply Rd.succ (parseTupleOrParen.eq_2 toks false)
  apply Rd.req
  apply Rd.peekIs (pe.nx_isTok (by decide))
  apply Rd.bind (he toks _ true)
  · exact fun _ _ => .sep (x := ",") (by decide) rfl
  intro r hr
  apply Rd.peekIs (.t rfl)
  simp only [hr.1]
  apply Rd.bind (hN toks _)
  · exact fun _ _ => rfl
  intro rs hrs
  apply Rd.req
  exact .pure ⟨by simp [hrs], by simp only [Pos.merge, TokI.pos, Cur.adv_i, Cur.tok_i]; omega⟩

theorem atom_tuple {items : List Expr} {el el' : Bool} (hfu : ∀ a ∈ items, ∃ n, Full el' a n) (hpf : ∀ a ∈ items, PF a) :
    ∃ n, Atom el (.tuple items) n := by
  cases items with
  | nil =>
    apply Exists.intro; intro toks C first
    rw [show printExpr first (.tuple []) = [.t "(" first, .t ")" true] by simp [printExpr, g]]
    apply Rd.simple (p := parseTupleOrParen toks false) (P2 := fun _ => True) (by decide)
      (.t ⟨noAssign_tk (by decide), trivial⟩) (fun k d _ _ h0 _ => simple_paren toks k C.i d _ h0 rfl)
    apply Rd.succ (parseTupleOrParen.eq_2 toks false)
    apply Rd.req
    apply Rd.peekIs (.t rfl)
    apply Rd.req
    exact .pure ⟨rfl, by simp only [Pos.merge, TokI.pos, Cur.tok_i]; omega⟩
  | cons e es =>
    obtain ⟨n, he⟩ := hfu e (List.mem_cons_self ..)
    have pe := hpf e (List.mem_cons_self ..)
    cases es with
    | nil =>
      refine atom_tuple_of he pe ⟨[], rfl⟩ ⟨1, fun toks C => ?_⟩ (fun first => by simp [printExpr, g])
      -- the lone comma of a 1-tuple
      exact .succ (tupleLoop.eq_2 toks false [e]) (.peekIs (.t rfl) (.peekIs (v := false) (.t rfl)
        (.pop (.peekIs (.nil fun _ h => h) (.pure rfl)))))
    | cons e2 r =>
      obtain ⟨N, hN⟩ := tupleLoop_rd (e2 :: r) el' (fun x hx => hfu x (List.mem_cons_of_mem _ hx))
        (fun x hx => hpf x (List.mem_cons_of_mem _ hx))
      exact atom_tuple_of he pe ⟨_, rfl⟩ ⟨N, fun toks C => (hN toks C [e]).conseq (by simp)⟩
        (fun first => by simp [printExpr, g, printArgs_cons, tupleTail])

theorem BlockOK.blk {es : List Expr} (hb : BlockOK es) : ∃ n, Blk es n :=
  block_rd es true (fun e he => (hb.fu e he).imp fun _ h => h.full (hb.pf e he)) hb.pf hb.adj

theorem Rd.assignOp {toks : Toks} {N : Nat} {C : Cur} {A : List PTok} {F : Fw} {Q : PExpr → Nat → Prop} {x op : String}
    {t t2 : Bool} {p : Nat → P PExpr}
    (he : ∀ k d, toks[C.i]? = some (tk x (t && !C.b) C.ln) → toks[C.i + 1]? = some (tk op t2 C.ln) →
      parseNoTrailing toks false (k + 1) ⟨C.i, d⟩ = p k ⟨C.i, d⟩)
    (h : Rd toks N C p (.t x t :: .t op t2 :: A) F Q) :
    Rd toks (N + 1) C (parseNoTrailing toks false) (.t x t :: .t op t2 :: A) F Q := by
  intro fuel rest d hf hD hfo hl
  obtain ⟨k, rfl⟩ : ∃ k, fuel = k + 1 := ⟨fuel - 1, by omega⟩
  have hD' := hD; rw [Cur.lex_t, Cur.lex_t, List.cons_append, List.cons_append] at hD'
  exact ok_rw (he k d hD'.head (by simpa [Cur.tok] using hD'.tail.head)) (h k rest d (by omega) hD hfo hl)

theorem stmt_ret_none {el : Bool} : ∃ n, Stmt el (.ret none) n := by
  apply Exists.intro; intro toks C first b
  rw [show printExpr first (.ret none) = [.t "return" first, .nl] by simp [printExpr]]
  apply Rd.exprT_stop
  apply Rd.stmtKw (p := parseReturn toks false) (fun _ => rfl)
    (fun o ho _ t2 h => have := ho t2 h; ⟨this.1, this.2.1, this.2.2.1⟩)
  apply Rd.succ (parseReturn.eq_2 toks false)
  apply Rd.req
  -- the next token, if any, is on a later line: all that `LineOk` is for
  apply Rd.peek (p := fun o => ∀ t, o = some t → C.ln + 1 ≤ t.line)
    (show Nx C.tok [.nl] _ _ from fun o _ hl t ht => hl rfl t ht)
  intro o ho
  cases o with
  | none => exact .nl (.pure ⟨rfl, rfl⟩)
  | some t =>
    simp only [Option.map_some, tk_endLine, show (C.ln == t.line) = false by have := ho t rfl; simp; omega,
      Bool.false_eq_true, ↓reduceIte]
    exact .nl (.pure ⟨rfl, rfl⟩)

theorem stmt_ret_some {el : Bool} {e : Expr} {n : Nat} (he : Full el e n) (pe : PF e) : ∃ k, Stmt el (.ret (some e)) k := by
  apply Exists.intro; intro toks C first b
  rw [show printExpr first (.ret (some e)) = .t "return" first :: (printExpr false e ++ []) by simp [printExpr]]
  apply Rd.exprT_stop (e := .ret (some e)) (dot := endsDot e)
  apply Rd.stmtKw (p := parseReturn toks false) (fun _ => rfl) pe.nx_noAssign
  apply Rd.succ (parseReturn.eq_2 toks false)
  apply Rd.req
  apply Rd.peekT (p := fun t => t.line = C.ln) (pe.nx (C := C.tok) fun _ _ => ⟨_, rfl, rfl⟩); intro t ht
  simp only [tk_endLine, ht, beq_self_eq_true, ↓reduceIte]
  apply Rd.bind (he toks _ false)
  · exact fun _ h => h
  intro r hr
  exact .pure ⟨by simp [hr.1], by simp only [Pos.merge, TokI.pos, hr.2, Cur.adv_i, Cur.tok_i]; omega⟩

theorem stmt_assign {el : Bool} {x : String} {e : Expr} {n : Nat} (hx : ValidName x) (he : Full el e n) :
    ∃ k, Stmt el (.assign x e) k := by
  apply Exists.intro; intro toks C first b
  rw [show printExpr first (.assign x e) = .t x first :: .t "=" false :: (printExpr false e ++ []) by simp [printExpr, w]]
  apply Rd.exprT_stop (e := .assign x e) (dot := endsDot e)
  apply Rd.assignOp (p := parseAssign toks false) (fun k d h0 h1 => noTrailing_assign h0 h1 rfl)
  apply Rd.succ (parseAssign.eq_2 toks false)
  apply Rd.sym hx
  apply Rd.peekIs (.t rfl)
  apply Rd.req
  apply Rd.bind (he toks _ false)
  · exact fun _ h => h
  intro r hr
  exact .pure ⟨by simp [hr.1], by simp only [Pos.merge, hr.2, Cur.adv_i, Cur.tok_i]; omega⟩

theorem stmt_update {el : Bool} {op x : String} {e : Expr} {n : Nat} (hop : op = "+=" ∨ op = "-=") (hx : ValidName x)
    (he : Full el e n) : ∃ k, Stmt el (.update op x e) k := by
  rcases hop with rfl | rfl <;>
  · apply Exists.intro; intro toks C first b
    rw [show ∀ op, printExpr first (.update op x e) = .t x first :: .t op false :: (printExpr false e ++ []) by simp [printExpr, w]]
    apply Rd.exprT_stop (e := .update _ x e) (dot := endsDot e)
    apply Rd.assignOp (p := parseAssignUpdate toks false) (fun k d h0 h1 => noTrailing_update h0 h1 (by simp))
    apply Rd.succ (parseAssignUpdate.eq_2 toks false)
    apply Rd.sym hx
    apply Rd.reqA
    simp only [TokI.text, tk_text, beq_self_eq_true, show (("-=" : String) == "+=") = false by decide, Bool.false_eq_true,
      ↓reduceIte]
    apply Rd.bind (he toks _ false)
    · exact fun _ h => h
    intro r hr
    exact .pure ⟨by simp [hr.1], by simp only [Pos.merge, hr.2, Cur.adv_i, Cur.tok_i]; omega⟩

theorem atom_var {el : Bool} {x : String} (hx : ValidName x) : Atom el (.var x) 2 :=
  atom_leaf (fun _ => by simp [printExpr]) hx.notStmt fun toks k i d t h0 ht h2 => by
    rw [← ht] at hx ⊢; exact simple_var toks k i d t h0 hx h2

theorem atom_int {el : Bool} {v : Int} (hv : IntTok (toString v) v) : Atom el (.intLit v) 2 :=
  atom_leaf (fun _ => by simp [printExpr]) hv.notStmt fun toks k i d t h0 ht _ => simple_int toks k i d t v h0 (ht ▸ hv)

theorem atom_str {el : Bool} (s : String) : Atom el (.strLit s) 2 :=
  atom_leaf (fun _ => by simp [printExpr]) (strFacts s).notStmt fun toks k i d t h0 ht _ => simple_str toks k i d t s h0 ht

/-- `break` and `continue`: the dispatcher itself takes the keyword and returns the node. -/
theorem atom_kw0 {el : Bool} {e : Expr} {kw : String} (hp : ∀ first, printExpr first e = [.t kw first])
    (hd : ∀ toks k, stmtDispatch toks false k kw = do let t ← requireToken toks kw; pure ⟨e, t.pos⟩) : Atom el e 1 := by
  intro toks C first
  rw [hp]
  exact .stmtKw (hd toks) (.nil fun o ho t2 h => have := ho t2 h; ⟨this.1, this.2.1, this.2.2.1⟩) (.req (.pure ⟨rfl, rfl⟩))

theorem atom_brk {el : Bool} : Atom el .brk 1 := atom_kw0 (kw := "break") (fun _ => by simp [printExpr]) fun _ _ => rfl
theorem atom_cont {el : Bool} : Atom el .cont 1 := atom_kw0 (kw := "continue") (fun _ => by simp [printExpr]) fun _ _ => rfl

end RT

namespace ParseLemmas
open Parse Print RT

theorem flat_args (first : Bool) (args : List Expr)
    (h : ∀ a ∈ args, ∀ first, Flat (printExpr first a)) : Flat (printArgs first args) := by
  induction args generalizing first with
  | nil => simp [printArgs, Flat, fl, nlc]
  | cons a rest ih =>
    cases rest with
    | nil => simpa [printArgs] using h a (List.mem_cons_self ..) first
    | cons a2 rest2 =>
      rw [printArgs]
      · exact ((h a (List.mem_cons_self ..) first).append (.cons .nil)).append
          (ih false (fun x hx => h x (List.mem_cons_of_mem _ hx)))
      · simp

theorem WF.flat {c : Bool} {e : Expr} (h : WF c e) : ∀ first, Flat (printExpr first e) := by
  induction h with
  | int _ => intro first; simp [printExpr, Flat.cons, Flat.nil]
  | var _ => intro first; simp [printExpr, Flat.cons, Flat.nil]
  | call _ _ ihf iha =>
    intro first
    rw [printExpr]
    exact (((ihf first).append (.cons .nil)).append (flat_args _ _ iha)).append (.cons .nil)
  | paren _ ih =>
    intro first
    rw [printExpr]
    exact ((Flat.cons .nil).append (ih true)).append (.cons .nil)
  | closed _ ih => exact ih
  | binop _ _ _ ihl ihr =>
    intro first
    rw [printExpr]
    exact ((ihl first).append (.cons .nil)).append (ihr false)

theorem T_paren (ln : Nat) (first : Bool) (e : Expr) (h : Flat (printExpr true e)) :
    T ln first (.paren e) = ⟨"(", first, ln, ln⟩ :: (T ln true e ++ [⟨")", true, ln, ln⟩]) := by
  simp [ParseLemmas.T, lexOf, printExpr, lexAux_append, lexAux, h.1, h.2, g]

theorem T_binop (ln : Nat) (first : Bool) (l r : Expr) (op : String) (h : Flat (printExpr first l)) :
    T ln first (.binop l op r) = T ln first l ++ ⟨op, false, ln, ln⟩ :: T ln false r := by
  simp [ParseLemmas.T, lexOf, printExpr, lexAux_append, lexAux, h.1, h.2, w]

/-- The operator / call / parenthesis fragment is read by the same node lemmas as every other tree, with nothing asked
about a following `else` (no tree of the fragment ends in an `if`). -/
theorem WF.opd {c : Bool} {e : Expr} (h : WF c e) :
    PF e ∧ tailRet e = false ∧ endsDot e = false ∧ ∃ n, Opd c false e n := by
  induction h with
  | int hi => exact ⟨pf_int hi.tok, rfl, rfl, _, .of_atom (atom_int hi.tok)⟩
  | var hx => exact ⟨pf_var hx, rfl, rfl, _, .of_atom (atom_var hx)⟩
  | call _ _ ihf iha =>
    obtain ⟨pf, tf, df, nf, hf⟩ := ihf
    obtain ⟨na, ha⟩ := callArgs_rd _ false (fun a h => (iha a h).2.2.2.elim fun _ h => ⟨_, Full.of_opd h⟩) fun a h => (iha a h).1
    exact ⟨pf_call pf, rfl, rfl, _, opd_call hf pf tf df ha⟩
  | paren _ ih =>
    obtain ⟨pe, _, _, n, he⟩ := ih
    exact ⟨pf_paren, rfl, rfl, (atom_paren (Full.of_opd he) pe).elim fun _ h => ⟨_, .of_atom h⟩⟩
  | closed _ ih => exact ⟨ih.1, ih.2.1, ih.2.2.1, ih.2.2.2.imp fun _ h => h.chain⟩
  | binop _ hop _ ihl ihr =>
    obtain ⟨pl, _, _, nl, hl⟩ := ihl
    obtain ⟨pr, tr, dr, nr, hr⟩ := ihr
    exact ⟨pf_binop pl pr, tr, dr, _, opd_binop hl hr pr hop⟩

/-- Round trip for the fragment: the printed tokens of a well-formed chain, in any context that does
not continue the expression, parse back to exactly that chain, consuming exactly those tokens and
emitting no diagnostic — for every sufficiently large fuel. -/
theorem parse_print_fragment {e : Expr} (h : WF false e) :
    ∃ n, ∀ (fuel ln : Nat) (first : Bool) (pre rest : List Tok) (d : List DiagKind),
      n ≤ fuel → Follow rest → ChainStop rest →
      ∃ ln', parseExpression (pre ++ T ln first e ++ rest) false fuel ⟨pre.length, d⟩ =
        .ok ⟨e, ⟨ln', pre.length + (T ln first e).length⟩⟩ ⟨pre.length + (T ln first e).length, d⟩ := by
  obtain ⟨pe, te, de, n, hn⟩ := h.opd
  refine ⟨1 + n, fun fuel ln first pre rest d hf hfo hc => ?_⟩
  have hs : StopT (endsDot e) false rest.head? := fun t ht => by
    have a := hfo t ht; have c := hc t ht
    exact ⟨a.1, a.2.1, a.2.2.1, a.2.2.2, fun _ => c.1, fun h => c.1 h.1, c.2.1, c.2.2.1, c.2.2.2, fun h => by cases h⟩
  obtain ⟨⟨e', l, j⟩, s', h1, ⟨h2, h3⟩, rfl⟩ := Full.of_opd hn (pre ++ T ln first e ++ rest) ⟨pre.length, false, ln⟩ first fuel rest d
    hf (by simp [D, Cur.lex, T, lexOf]) hs (fun hb => by simp [Cur.adv, pe.fl, te] at hb)
  simp only at h2 h3; subst h2; subst h3
  exact ⟨l, h1.trans (by simp [Cur.adv, T, lexOf, length_lexAux])⟩

end ParseLemmas
