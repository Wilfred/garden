import GardenVerif.Lemmas.RefSem
/-! Alpha-renaming with closures (C19): closure values carry code and a captured environment, which differ by the
renaming, so the runs of `p` and `renProg c p` are related by a value relation `VRel`, not equal. `VRelL` and `RRel`
say what `LRel (VRel c)` and `Res.Rel (VRel c)` say: `VRelL` is a member of the mutual definition of `VRel`, and both
occur in the statements of Props/C19. -/

namespace Validators
open Machine (Expr Case Dest BinOp Program FunDef EnumDef)
open RefSem

mutual
/-- Values of the original run / of the renamed run. Closures are related when the captured
environments are pointwise related (`CER`, which also says whether `c.x`, looked up in the captured
environment, resolves to the renamed binder) and parameters / body are the renaming of the original
ones under that resolution state. -/
inductive VRel (c : RenCfg) : Val → Val → Prop
  | int (v : Int64) : VRel c (.int v) (.int v)
  | str (s : String) : VRel c (.str s) (.str s)
  | list {a b : List Val} : VRelL c a b → VRel c (.list a) (.list b)
  | tuple {a b : List Val} : VRelL c a b → VRel c (.tuple a) (.tuple b)
  | enumN (t : String) (i : Nat) : VRel c (.enumV t i none) (.enumV t i none)
  | enumS (t : String) (i : Nat) {v v' : Val} : VRel c v v' →
      VRel c (.enumV t i (some v)) (.enumV t i (some v'))
  | enumC (t : String) (i : Nat) : VRel c (.enumC t i) (.enumC t i)
  | fn (n : String) : VRel c (.fn n) (.fn n)
  | builtin (n : String) : VRel c (.builtin n) (.builtin n)
  | closure {act : Bool} {cenv cenv' : List (String × Val)} (hit : Option Nat) (ps : List String)
      (body : List Expr) :
      CER c act cenv cenv' → freshNames c.y ps = true → freshSeq c.y body = true →
      VRel c (.closure cenv ps body)
        (.closure cenv' (renNames c hit act 0 ps).1 (renSeq c (renNames c hit act 0 ps).2 body))
inductive VRelL (c : RenCfg) : List Val → List Val → Prop
  | nil : VRelL c [] []
  | cons {v v' : Val} {l l' : List Val} : VRel c v v' → VRelL c l l' → VRelL c (v :: l) (v' :: l')
inductive CER (c : RenCfg) : Bool → List (String × Val) → List (String × Val) → Prop
  | nil : CER c false [] []
  | other {a : Bool} {e e' : List (String × Val)} (k : String) {v v' : Val} :
      k ≠ c.x → k ≠ c.y → VRel c v v' → CER c a e e' → CER c a ((k, v) :: e) ((k, v') :: e')
  | hit {a : Bool} {e e' : List (String × Val)} {v v' : Val} : VRel c v v' → CER c a e e' →
      CER c true ((c.x, v) :: e) ((c.y, v') :: e')
  | shadow {a : Bool} {e e' : List (String × Val)} {v v' : Val} : VRel c v v' → CER c a e e' →
      CER c false ((c.x, v) :: e) ((c.x, v') :: e')
end

theorem VRelL.length {c : RenCfg} : ∀ {l l' : List Val}, VRelL c l l' → l'.length = l.length
  | _, _, .nil => rfl
  | _, _, .cons h t => by simp [VRelL.length t]

mutual
theorem VRel.display {c : RenCfg} (en : List EnumDef) :
    ∀ {v v' : Val}, VRel c v v' → display en v' = display en v
  | _, _, .int _ => rfl
  | _, _, .str _ => rfl
  | _, _, .list h => by simp only [RefSem.display, VRelL.display en h]
  | _, _, .tuple h => by simp only [RefSem.display, VRelL.display en h, VRelL.length h]
  | _, _, .enumN _ _ => rfl
  | _, _, .enumS _ _ h => by simp only [RefSem.display, VRel.display en h]
  | _, _, .enumC _ _ => rfl
  | _, _, .fn _ => rfl
  | _, _, .builtin _ => rfl
  | _, _, .closure _ _ _ _ _ _ => rfl
theorem VRelL.display {c : RenCfg} (en : List EnumDef) :
    ∀ {l l' : List Val}, VRelL c l l' → displayList en l' = displayList en l
  | _, _, .nil => rfl
  | _, _, .cons h t => by simp only [RefSem.displayList, VRel.display en h, VRelL.display en t]
end

/- `valueEq` computes by evaluation on constructors: off the diagonal both sides are `false`, on it they
unfold to the same test of the parts. -/
mutual
theorem VRel.valueEq {c : RenCfg} :
    ∀ {a a' b b' : Val}, VRel c a a' → VRel c b b' → valueEq a' b' = valueEq a b
  | _, _, _, _, .int _, hb | _, _, _, _, .str _, hb | _, _, _, _, .enumN _ _, hb | _, _, _, _, .enumC _ _, hb
  | _, _, _, _, .fn _, hb | _, _, _, _, .builtin _, hb | _, _, _, _, .closure _ _ _ _ _ _, hb => by
      cases hb <;> rfl
  | _, _, _, _, .list h, hb | _, _, _, _, .tuple h, hb => by
      cases hb <;> first | rfl | exact VRelL.valueEq h ‹_›
  | _, _, _, _, .enumS _ _ h, hb => by
      cases hb <;> first | rfl | exact congrArg (_ && ·) (VRel.valueEq h ‹_›)
theorem VRelL.valueEq {c : RenCfg} :
    ∀ {a a' b b' : List Val}, VRelL c a a' → VRelL c b b' → valueEqList a' b' = valueEqList a b
  | _, _, _, _, .nil, hb => by cases hb <;> rfl
  | _, _, _, _, .cons h t, hb => by
      cases hb with
      | nil => rfl
      | cons h2 t2 =>
        show (valueEq _ _ && valueEqList _ _) = (valueEq _ _ && valueEqList _ _)
        rw [VRel.valueEq h h2, VRelL.valueEq t t2]
end

theorem VRel.asBool {c : RenCfg} {v v' : Val} (h : VRel c v v') : v'.asBool = v.asBool := by
  cases h <;> first | rfl | simp [Val.asBool]

theorem VRel.unit (c : RenCfg) : VRel c vUnit vUnit := VRel.enumN _ _
theorem VRel.bool (c : RenCfg) (b : Bool) : VRel c (vBool b) (vBool b) := VRel.enumN _ _

theorem VRelL.getElem? {c : RenCfg} : ∀ {l l' : List Val}, VRelL c l l' → ∀ i : Nat, ORel (VRel c) l[i]? l'[i]?
  | _, _, .nil, i => by simp only [List.getElem?_nil]; exact ORel.nn
  | _, _, .cons h t, 0 => h
  | _, _, .cons h t, i + 1 => by simpa using VRelL.getElem? t i

theorem VRelL.set {c : RenCfg} : ∀ {l l' : List Val}, VRelL c l l' → ∀ (i : Nat) {v v' : Val}, VRel c v v' →
    VRelL c (l.set i v) (l'.set i v')
  | _, _, .nil, i, _, _, hv => by simpa using VRelL.nil
  | _, _, .cons h t, 0, _, _, hv => by simpa using VRelL.cons hv t
  | _, _, .cons h t, i + 1, _, _, hv => by simpa using VRelL.cons h (VRelL.set t i hv)

theorem VRelL.append {c : RenCfg} : ∀ {l l' m m' : List Val}, VRelL c l l' → VRelL c m m' →
    VRelL c (l ++ m) (l' ++ m')
  | _, _, _, _, .nil, hm => by simpa using hm
  | _, _, _, _, .cons h t, hm => by simpa using VRelL.cons h (VRelL.append t hm)

def SRel (c : RenCfg) (s s' : RefSem.St) : Prop := VRelL c s.store s'.store ∧ s'.out = s.out

inductive RRel (c : RenCfg) : Res → Res → Prop
  | val {v v' : Val} : VRel c v v' → RRel c (.val v) (.val v')
  | ret {v v' : Val} : VRel c v v' → RRel c (.ret v) (.ret v')
  | brk : RRel c .brk .brk
  | cont : RRel c .cont .cont
  | err (k : EK) : RRel c (.err k) (.err k)
  | unsup (w : String) : RRel c (.unsup w) (.unsup w)
  | timeout : RRel c .timeout .timeout

/-- What `C19.alpha_sound_related` concludes of the two runs. -/
def PR (c : RenCfg) (a a' : Res × RefSem.St) : Prop := RRel c a.1 a'.1 ∧ SRel c a.2 a'.2

theorem RRel.outcome {c : RenCfg} {r r' : Res} (h : RRel c r r') : r'.outcome = r.outcome := by
  cases h <;> rfl

theorem VRel.refl_simple (c : RenCfg) {v : Val} (h : simpleV v = true) : VRel c v v := by
  cases v <;> simp [simpleV] at h <;> try constructor
  rename_i t i o; cases o <;> simp at h; constructor

theorem ofSimple_simple (v : Machine.Value) : simpleV (ofSimple v) = true := by
  cases v <;> try rfl
  rename_i t i o; cases o <;> rfl

def intOp (o : BinOp) (lv rv : Val) : Res :=
  match lv, rv with
  | .int a, .int b =>
    match Machine.intBinop o a b with
    | .ok v => .val (ofSimple v)
    | .err _ => .err .arith
    | .panic site => .unsup site
  | _, _ => .err .typeError

theorem intOp_rel {c : RenCfg} (o : BinOp) {lv lv' rv rv' : Val} (hl : VRel c lv lv') (hr : VRel c rv rv') :
    RRel c (intOp o lv rv) (intOp o lv' rv') := by
  cases hl <;> first | exact RRel.err _ | skip
  cases hr <;> first | exact RRel.err _ | skip
  rename_i a b
  simp only [intOp]
  generalize Machine.intBinop o a b = r
  cases r
  · exact .val (VRel.refl_simple c (ofSimple_simple _))
  · exact RRel.err _
  · exact RRel.unsup _

theorem binop_rel {c : RenCfg} (op : BinOp) {lv lv' rv rv' : Val} (hl : VRel c lv lv') (hr : VRel c rv rv') :
    RRel c (RefSem.binop op lv rv) (RefSem.binop op lv' rv') := by
  cases op
  case eq => simp only [RefSem.binop, VRel.valueEq hl hr]; exact .val (VRel.bool c _)
  case ne => simp only [RefSem.binop, VRel.valueEq hl hr]; exact .val (VRel.bool c _)
  case and =>
    simp only [RefSem.binop, hl.asBool, hr.asBool]
    cases lv.asBool <;> cases rv.asBool <;> first | exact RRel.err _ | exact .val (VRel.bool c _)
  case or =>
    simp only [RefSem.binop, hl.asBool, hr.asBool]
    cases lv.asBool <;> cases rv.asBool <;> first | exact RRel.err _ | exact .val (VRel.bool c _)
  case concat =>
    simp only [RefSem.binop]
    cases hl <;> cases hr <;> first | exact RRel.err _ | exact .val (VRel.str _)
  case floatOp => exact RRel.unsup _
  -- for the remaining operators `RefSem.binop` unfolds to `intOp`
  case add => exact intOp_rel .add hl hr
  case sub => exact intOp_rel .sub hl hr
  case mul => exact intOp_rel .mul hl hr
  case div => exact intOp_rel .div hl hr
  case mod => exact intOp_rel .mod hl hr
  case pow => exact intOp_rel .pow hl hr
  case bitand => exact intOp_rel .bitand hl hr
  case bitor => exact intOp_rel .bitor hl hr
  case lt => exact intOp_rel .lt hl hr
  case le => exact intOp_rel .le hl hr
  case gt => exact intOp_rel .gt hl hr
  case ge => exact intOp_rel .ge hl hr

theorem capture_rel {c : RenCfg} {act env env'} (h : ER c act env env') {st st' : List Val}
    (hs : VRelL c st st') : CER c act (capture env st) (capture env' st') := by
  have hval : ∀ l : Nat, VRel c ((st[l]?).getD vUnit) ((st'[l]?).getD vUnit) := by
    intro l
    have := hs.getElem? l
    cases h1 : st[l]? <;> cases h2 : st'[l]? <;> rw [h1, h2] at this <;>
      first | exact VRel.unit c | exact this.elim | exact this
  induction h with
  | nil => exact CER.nil
  | other k l h1 h2 _ ih => exact CER.other k h1 h2 (hval l) ih
  | hit l _ ih => exact CER.hit (hval l) ih
  | shadow l _ ih => exact CER.shadow (hval l) ih

theorem bindNames_snoc (ks : List String) (k : String) :
    ∀ (vs : List Val) (v : Val) (env : Env) (s : RefSem.St), vs.length = ks.length →
      RefSem.bindNames (ks ++ [k]) (vs ++ [v]) env s
        = RefSem.bindNames [k] [v] (RefSem.bindNames ks vs env s).1 (RefSem.bindNames ks vs env s).2 := by
  induction ks with
  | nil => intro vs v env s h; cases vs <;> simp_all [RefSem.bindNames]
  | cons k0 ks ih =>
    intro vs v env s h
    cases vs with
    | nil => simp at h
    | cons v0 vs =>
      simp only [List.cons_append, RefSem.bindNames]
      exact ih vs v _ _ (by simpa using h)

theorem CER.rebind {c : RenCfg} (hx : c.x ≠ "_") (hy : c.y ≠ "_") :
    ∀ {act : Bool} {cenv cenv' : List (String × Val)}, CER c act cenv cenv' →
      ∀ (s s' : RefSem.St), SRel c s s' →
      ER c act (RefSem.bindNames (cenv.reverse.map (·.1)) (cenv.reverse.map (·.2)) [] s).1
        (RefSem.bindNames (cenv'.reverse.map (·.1)) (cenv'.reverse.map (·.2)) [] s').1 ∧
      SRel c (RefSem.bindNames (cenv.reverse.map (·.1)) (cenv.reverse.map (·.2)) [] s).2
        (RefSem.bindNames (cenv'.reverse.map (·.1)) (cenv'.reverse.map (·.2)) [] s').2
  | _, _, _, .nil, s, s', hs => by simpa [RefSem.bindNames] using ⟨ER.nil, hs⟩
  | _, _, _, .other (e := e) (e' := e') k (v := v) (v' := v') h1 h2 hv ht, s, s', hs => by
      have ih := CER.rebind hx hy ht s s' hs
      simp only [List.reverse_cons, List.map_append, List.map_cons, List.map_nil]
      rw [bindNames_snoc _ _ _ _ _ _ (by simp), bindNames_snoc _ _ _ _ _ _ (by simp)]
      have hlen := ih.2.1.length
      simp only [RefSem.bindNames, hlen]
      by_cases hu : (k == "_") = true
      · simp only [hu, if_true]
        exact ⟨ih.1, ih.2.1.append (.cons hv .nil), ih.2.2⟩
      · simp only [hu, Bool.false_eq_true, if_false]
        exact ⟨ER.other _ _ h1 h2 ih.1, ih.2.1.append (.cons hv .nil), ih.2.2⟩
  | _, _, _, .hit (e := e) (e' := e') (v := v) (v' := v') hv ht, s, s', hs => by
      have ih := CER.rebind hx hy ht s s' hs
      have hne : (c.x == "_") = false := by simpa using hx
      have hne' : (c.y == "_") = false := by simpa using hy
      simp only [List.reverse_cons, List.map_append, List.map_cons, List.map_nil]
      rw [bindNames_snoc _ _ _ _ _ _ (by simp), bindNames_snoc _ _ _ _ _ _ (by simp)]
      have hlen := ih.2.1.length
      simp only [RefSem.bindNames, hlen, hne, hne', Bool.false_eq_true, if_false]
      exact ⟨ER.hit _ ih.1, ih.2.1.append (.cons hv .nil), ih.2.2⟩
  | _, _, _, .shadow (e := e) (e' := e') (v := v) (v' := v') hv ht, s, s', hs => by
      have ih := CER.rebind hx hy ht s s' hs
      have hne : (c.x == "_") = false := by simpa using hx
      simp only [List.reverse_cons, List.map_append, List.map_cons, List.map_nil]
      rw [bindNames_snoc _ _ _ _ _ _ (by simp), bindNames_snoc _ _ _ _ _ _ (by simp)]
      have hlen := ih.2.1.length
      simp only [RefSem.bindNames, hlen, hne, Bool.false_eq_true, if_false]
      exact ⟨ER.shadow _ ih.1, ih.2.1.append (.cons hv .nil), ih.2.2⟩

theorem VRelL.lrel {c : RenCfg} : ∀ {l l' : List Val}, VRelL c l l' → LRel (VRel c) l l'
  | _, _, .nil => .nil
  | _, _, .cons h t => .cons h (VRelL.lrel t)

theorem VRelL.of_lrel {c : RenCfg} : ∀ {l l' : List Val}, LRel (VRel c) l l' → VRelL c l l'
  | _, _, .nil => .nil
  | _, _, .cons h t => .cons h (VRelL.of_lrel t)

theorem RRel.rel {c : RenCfg} {r r' : Res} (h : RRel c r r') : Res.Rel (VRel c) r r' := by
  cases h <;> first | assumption | exact rfl

theorem RRel.of_rel {c : RenCfg} {r r' : Res} (h : Res.Rel (VRel c) r r') : RRel c r r' := by
  cases r <;> cases r' <;> first | exact .val h | exact .ret h | (cases h; done) | (cases h; constructor)

def vrel (c : RenCfg) : ValRel where
  V := VRel c
  shape h := by
    cases h with
    | list h => exact .list h.lrel
    | tuple h => exact .tuple h.lrel
    | enumN t i => exact .enumV t i ORel.nn
    | enumS t i h => exact .enumV t i h
    | closure => exact .closure ..
    | _ => constructor
  intro {v v'} h hc := by
    cases h with
    | list h => exact .list (.of_lrel h)
    | tuple h => exact .tuple (.of_lrel h)
    | enumV t i hp =>
      rename_i pl pl'
      cases pl <;> cases pl' <;> first | exact .enumN t i | exact hp.elim | exact .enumS t i hp
    | closure => cases hc
    | _ => constructor
  binopV h1 h2 := (binop_rel _ h1 h2).rel
  displayV h := h.display _

/-- `PR c` as a relation the evaluator respects. -/
def prC (c : RenCfg) : EvalRel where
  toValRel := vrel c
  C := SRel c
  E _ _ := SRel c
  Q _ _ := PR c
  start h := h
  trans _ h := h
  done h hr := ⟨.of_rel hr, h⟩
  emit t h := ⟨.val (VRel.unit c), h.1, by simp [h.2]⟩
  mono _ h := h
  bind {_ _ a a' k k'} h hk := by
    obtain ⟨r, s⟩ := a
    obtain ⟨r', s'⟩ := a'
    obtain ⟨hr, hs⟩ := h
    cases hr <;> simp only [RefSem.bind]
    · exact hk _ _ _ _ ‹_› hs
    all_goals exact ⟨by constructor <;> assumption, hs⟩
  loop {_ _ a a' k k'} h hk := by
    obtain ⟨r, s⟩ := a
    obtain ⟨r', s'⟩ := a'
    obtain ⟨hr, hs⟩ := h
    cases hr
    case val => exact hk _ _ hs
    case cont => exact hk _ _ hs
    case brk => exact ⟨.val (VRel.unit c), hs⟩
    all_goals exact ⟨by constructor <;> assumption, hs⟩
  funResult {_ _ a a'} h := by
    obtain ⟨r, s⟩ := a
    obtain ⟨r', s'⟩ := a'
    obtain ⟨hr, hs⟩ := h
    cases hr <;> simp only [funResult]
    · exact ⟨.val ‹_›, hs⟩
    · exact ⟨.val ‹_›, hs⟩
    · exact ⟨.err _, hs⟩
    · exact ⟨.err _, hs⟩
    · exact ⟨.err _, hs⟩
    · exact ⟨.unsup _, hs⟩
    · exact ⟨.timeout, hs⟩

theorem prC_pointwise (c : RenCfg) : (prC c).Pointwise where
  step h := h
  get l h := h.1.getElem? l
  len h := h.1.length
  set l h hv := ⟨h.1.set l hv, h.2⟩
  push h hv := ⟨h.1.append (.cons hv .nil), h.2⟩

theorem prC_closOK {c : RenCfg} (hx : c.x ≠ "_") (hy : c.y ≠ "_") : ClosOK c (prC c) where
  lam hit ps body hER hs hf1 hf2 := VRel.closure hit ps body (capture_rel hER hs.1) hf1 hf2
  app h := by
    cases h with
    | closure hit ps body hcer hfp hfb => exact ⟨_, hit, _, rfl, hfp, hfb, fun s s' hs => CER.rebind hx hy hcer s s' hs⟩

end Validators
