import GardenVerif.Lemmas.EvalUpTo
/-!
# C27 — Eval-up-to reports the value the expression takes when run (PARTIAL by design)

The statements are about `stepWith d` for ANY dispatch function `d`, hence about `Machine.step`
(`applies_to_machine_step`) and about `TestRunner.tstep` (test bodies with `assert`), for programs
of any size and runs of any length.

Proved:
* `stop_is_prefix_step` / `stop_is_prefix`: up to the first completion of the observed node the
  run with `stopAt = some id` is STEP FOR STEP the run with `stopAt = none` of the same (marked)
  program: same states except for the `stopAt` field, same errors, same panics.
* `stop_at_first_completion`: when eval-up-to returns a value, it does so at the FIRST step of
  that common run at which the observed node completes (`EvalUpTo.fires`: a tick on that node
  with `doneSub`, or a `for` loop entering its body, or the return of the frame the observed call
  created), and the value is the top of the value stack there (the frame's result for a call);
  or the node is never completed and the value is the one the whole evaluation ends with.
* `error_only_before_completion`: eval-up-to reports an error only if the run without the
  request fails with the same error at the same step, before the node completes.

The property that DESIGN.md §7 C27 calls mark_used_preserves (no theorem of that name exists) is proved only LOCALLY, for the observed node's own steps
(`…_partial` theorems below), for node kinds `EvalUpTo.Simple` (literals, variables, closures, operators,
`let`, assignment, update, list and tuple literals — the kinds for which `set_observed_expr_value_used`
changes one flag and nothing below it):
* `mark_used_pending_partial`: before its completion the marked node does what the unmarked node
  does, except that its own pending entries carry the flag (`unflagD`);
* `mark_used_completion_partial`: at its completion the marked node leaves exactly the frame the
  unmarked node leaves plus ONE extra value on top; errors and panics are the same;
* `marked_stop_reports_pushed_value_partial`: that extra value is what eval-up-to reports (`fires`).
MISSING for the full statement: (0) no theorem here mentions `EvalUpTo.evalUpToTest`, `evalUpToExprs`
or `markUsed`: the statements are about `runWith d` on a node written `withUsed true e`, and the step
from `markUsed id` to that form is not stated; (1) that the steps BETWEEN the node's own steps are unaffected by the
flag carried by the node's pending entry — every dispatch arm only pushes on the entry stack, except
`break` / `continue` / `return`, which scan or clear it (`break` reads a loop's flag) — i.e. a
simulation through every arm of `dispatch`; (2) `if` / `match` (the flags of the branch results are
recomputed), loops (the value is pushed one step before completion), calls (the flag travels into
the callee frame as `callerUses`), `return` / `break` / `continue`. For these the property rests on
the direct oracle (eval-up-to vs the instrumented run of the UNMARKED program, harness/c27.py) and on
the flag-by-flag / tick-by-tick correspondence of `EvalUpTo.markUsed` with the real tool.
-/

namespace C27
open Machine TestRunner EvalUpTo

def contSteps (d : Program → Frame → St → Expr → Disp) : Nat → State → Option State
  | 0, s => some s
  | k + 1, s =>
    match stepWith d s with
    | .cont s' => contSteps d k s'
    | _ => none

theorem contSteps_succ (d : Program → Frame → St → Expr → Disp) (k : Nat) (s sk : State) :
    contSteps d (k + 1) s = some sk ↔ ∃ s', stepWith d s = .cont s' ∧ contSteps d k s' = some sk := by
  rw [contSteps]
  split <;> simp_all

/-- One step: unless the observed node completes at this step, the run that was asked to stop
does exactly what the run that was not asked does. -/
theorem stop_is_prefix_step (d : Program → Frame → St → Expr → Disp) (s : State) (h : fires d s = none) :
    mapState clr (stepWith d s) = stepWith d (clr s) := by
  have := step_stop d s
  rw [h] at this
  exact this

/-- One step: if the observed node completes at this step, eval-up-to returns its value here,
and the other run simply continues. -/
theorem stop_at_completion_step (d : Program → Frame → St → Expr → Disp) (s : State) (v : Value)
    (h : fires d s = some v) :
    ∃ s', stepWith d s = .done s' v ∧ ∃ s'', stepWith d (clr s) = .cont s'' := by
  have := step_stop d s
  rw [h] at this
  exact this

theorem cont_no_completion (d : Program → Frame → St → Expr → Disp) (s s' : State)
    (h : stepWith d s = .cont s') : fires d s = none := by
  cases hf : fires d s with
  | none => rfl
  | some v =>
    obtain ⟨s1, h1, _⟩ := stop_at_completion_step d s v hf
    rw [h] at h1; cases h1

/-- **Prefix**: every continuing prefix of the stop-run is, state by state, a prefix of the
run without the request. -/
theorem stop_is_prefix (d : Program → Frame → St → Expr → Disp) :
    ∀ (k : Nat) (s sk : State), contSteps d k s = some sk → contSteps d k (clr s) = some (clr sk)
  | 0, s, sk, h => by cases h; rfl
  | k + 1, s, sk, h => by
    obtain ⟨s', hs, h'⟩ := (contSteps_succ d k s sk).mp h
    have hfree := stop_is_prefix_step d s (cont_no_completion d s s' hs)
    rw [hs] at hfree
    exact (contSteps_succ d k (clr s) (clr sk)).mpr ⟨clr s', hfree.symm, stop_is_prefix d k s' sk h'⟩

theorem no_completion_before (d : Program → Frame → St → Expr → Disp) :
    ∀ (k : Nat) (s sk : State), contSteps d k s = some sk →
    ∀ j sj, j < k → contSteps d j s = some sj → fires d sj = none
  | 0, s, sk, h, j, sj, hj, _ => by omega
  | k + 1, s, sk, h, j, sj, hj, hsj => by
    obtain ⟨s', hs, h'⟩ := (contSteps_succ d k s sk).mp h
    cases j with
    | zero => cases hsj; exact cont_no_completion d s s' hs
    | succ j' =>
      obtain ⟨s'', hs2, hsj'⟩ := (contSteps_succ d j' s sj).mp hsj
      rw [hs] at hs2; cases hs2
      exact no_completion_before d k s' sk h' j' sj (by omega) hsj'

theorem contSteps_snoc (d : Program → Frame → St → Expr → Disp) :
    ∀ (k : Nat) (s a a' : State), contSteps d k s = some a → stepWith d a = .cont a' →
    contSteps d (k + 1) s = some a'
  | 0, s, a, a', h, hs => by cases h; exact (contSteps_succ d 0 s a').mpr ⟨a', hs, rfl⟩
  | k + 1, s, a, a', h, hs => by
    obtain ⟨s1, h1, h2⟩ := (contSteps_succ d k s a).mp h
    exact (contSteps_succ d (k + 1) s a').mpr ⟨s1, h1, contSteps_snoc d k s1 a a' h2 hs⟩

theorem run_decompose (d : Program → Frame → St → Expr → Disp) (n : Nat) (s : State) :
    match runWith d n s with
    | .done s' v => ∃ sk, (∃ k, contSteps d k s = some sk) ∧ stepWith d sk = .done s' v
    | .error s' e => ∃ sk, (∃ k, contSteps d k s = some sk) ∧ stepWith d sk = .error s' e
    | .outOfFuel s' => ∃ k, contSteps d k s = some s'
    | _ => True :=
  runWith_inv d (P := fun a => ∃ k, contSteps d k s = some a)
    (fun a a' ⟨k, hk⟩ hs => ⟨k + 1, contSteps_snoc d k s a a' hk hs⟩) n s ⟨0, rfl⟩

/-- **Eval-up-to stops at the first completion.** If the run with the request returns `v`, then
after some number `k` of steps that both runs share (same states up to `stopAt`), none of which
completes the observed node, either the node completes at step `k` and `v` is its value there
(`fires`), or the evaluation as a whole ends at step `k` with `v` in both runs. -/
theorem stop_at_first_completion (d : Program → Frame → St → Expr → Disp) (n : Nat) (s s' : State) (v : Value)
    (h : runWith d n s = .done s' v) :
    ∃ k sk, contSteps d k s = some sk ∧ contSteps d k (clr s) = some (clr sk) ∧
      (∀ j sj, j < k → contSteps d j s = some sj → fires d sj = none) ∧
      (fires d sk = some v ∨ (fires d sk = none ∧ stepWith d (clr sk) = .done (clr s') v)) := by
  have hdec := run_decompose d n s
  rw [h] at hdec
  obtain ⟨sk, ⟨k, hc⟩, hd⟩ := hdec
  refine ⟨k, sk, hc, stop_is_prefix d k s sk hc, no_completion_before d k s sk hc, ?_⟩
  cases hf : fires d sk with
  | some w =>
    obtain ⟨s1, h1, _⟩ := stop_at_completion_step d sk w hf
    rw [hd] at h1
    cases h1
    exact Or.inl rfl
  | none =>
    have hfree := stop_is_prefix_step d sk hf
    rw [hd] at hfree
    exact Or.inr ⟨rfl, hfree.symm⟩

/-- **Errors are genuine.** If the run with the request ends in an error, the run without the
request fails with the same error at the same step, and the observed node has not completed. -/
theorem error_only_before_completion (d : Program → Frame → St → Expr → Disp) (n : Nat) (s s' : State) (e : Err)
    (h : runWith d n s = .error s' e) :
    ∃ k sk, contSteps d k (clr s) = some (clr sk) ∧ stepWith d (clr sk) = .error (clr s') e ∧
      (∀ j sj, j ≤ k → contSteps d j s = some sj → fires d sj = none) := by
  have hdec := run_decompose d n s
  rw [h] at hdec
  obtain ⟨sk, ⟨k, hc⟩, hd⟩ := hdec
  have hnf : fires d sk = none := by
    cases hf : fires d sk with
    | none => rfl
    | some w =>
      obtain ⟨s1, h1, _⟩ := stop_at_completion_step d sk w hf
      rw [hd] at h1; cases h1
  have hfree := stop_is_prefix_step d sk hnf
  rw [hd] at hfree
  refine ⟨k, sk, stop_is_prefix d k s sk hc, hfree.symm, ?_⟩
  intro j sj hj hsj
  by_cases hjk : j < k
  · exact no_completion_before d k s sk hc j sj hjk hsj
  · have : j = k := by omega
    subst this
    rw [hc] at hsj; cases hsj; exact hnf

/-- **Marking, before completion** (partial: the node's own steps only; see the head). -/
theorem mark_used_pending_partial (p : Program) (f : Frame) (st : St) (e : Expr)
    (hs : Simple e = true) (hd : doneSub st e = false) :
    unflagD e.id (dispatch p f st (withUsed true e)) = unflagD e.id (dispatch p f st e) := by
  have hne : st ≠ .E := by rintro rfl; cases e <;> cases hd
  have hm := unflag_marked e true
  cases e <;> first | cases hs | skip
  case int | str | var | lambda => simp [doneSub] at hd
  -- what is left: operators, `let`, assignment, update, list and tuple literals, not yet in state E.
  -- Each pushes itself (with its flag) and its operands; `unflag` erases that flag.
  all_goals
    simp only [withUsed, dispatch_binop_of_ne hne, dispatch_let_of_ne hne, dispatch_assign_of_ne hne,
      dispatch_update_of_ne hne, dispatch_list_of_ne hne, dispatch_tuple_of_ne hne,
      unflagD, unflagF_foldl, unflagF_pushE] at hm ⊢
    rw [hm]

/-- **Marking, at completion** (partial: the node's own steps only; see the head). -/
theorem mark_used_completion_partial (p : Program) (f : Frame) (st : St) (e : Expr)
    (hs : Simple e = true) (hu : e.used = false) (hd : doneSub st e = true) :
    ExtraPush (dispatch p f st e) (dispatch p f st (withUsed true e)) := by
  have := simple_completion_flag p f st e hs hd
  rwa [← hu, withUsed_self] at this

/-- **The reported value is the value the marking makes the node push.** If the step of the
unmarked statement-position node succeeds leaving frame `f1`, the marked node leaves `f1` plus one
value `v`, the stop test fires at this step, and `v` is what eval-up-to returns. -/
theorem marked_stop_reports_pushed_value_partial (s : State) (f : Frame) (callers : List Frame) (st : St)
    (e : Expr) (rest : List (St × Expr)) (f1 : Frame)
    (hfr : s.frames = f :: callers) (hex : f.exprs = (st, withUsed true e) :: rest)
    (hq : (s.interrupted || s.interruptAt.contains (s.ticks + 1)) = false)
    (hl : limitReached s.tickLimit (s.ticks + 1) = false)
    (hsl : limitExceeded s.stackLimit s.frames.length = false)
    (hstop : s.stopAt = some e.id)
    (hs : Simple e = true) (hu : e.used = false) (hd : doneSub st e = true)
    (hplain : dispatch s.prog { f with exprs := rest } st e = .ok f1) :
    ∃ v, dispatch s.prog { f with exprs := rest } st (withUsed true e) = .ok (f1.pushV v) ∧
      fires dispatch s = some v ∧ ∃ s', stepWith dispatch s = .done s' v := by
  have hc := mark_used_completion_partial s.prog { f with exprs := rest } st e hs hu hd
  rw [hplain] at hc
  obtain ⟨v, hv⟩ := hc
  have h2 : fires dispatch s = some v := by
    rw [fires_entry dispatch hfr hex, refusal_eq_none.mpr ⟨hq, hl, hsl⟩]
    simp only [hv, stopValue_eq_report, hstop, withUsed_id, beq_self_eq_true, if_true]
    simp [report, doneSub_withUsed, hd, Frame.pushV]
  obtain ⟨s', h3, _⟩ := stop_at_completion_step dispatch s v h2
  exact ⟨v, hv, h2, s', h3⟩

/-- Two of the hypotheses of `marked_stop_reports_pushed_value_partial`, `Simple` and `doneSub`, hold of
the statement `1 + 2` (value unused) in state E; the others are not instantiated together here. -/
example : Simple (.binop 3 false .add (.int 1 true 1) (.int 2 true 2)) = true ∧
    doneSub .E (.binop 3 false .add (.int 1 true 1) (.int 2 true 2)) = true := ⟨rfl, rfl⟩

/-- The statements apply to the evaluator model itself. -/
theorem applies_to_machine_step (s : State) : stepWith dispatch s = step s := rfl

/-- A concrete completion: the literal `5` with id 1, observed, in a test-like frame. -/
example : fires dispatch
    { prog := ⟨[], [], []⟩, frames := [initFrame [.int 1 true 5]], ticks := 0, out := "", interrupted := false,
      tickLimit := none, stackLimit := none, interruptAt := [], stopAt := some 1 } = some (.int 5) := by rfl

end C27
