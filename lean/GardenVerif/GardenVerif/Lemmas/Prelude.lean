import GardenVerif.Model.Prelude
/-!
For C32: what the loops of Model/Prelude.lean (fuel, accumulators, Int indices, exceptions) compute, in
terms of `List Char` / `List α`. The reference that `split` and `replace` are compared with, `splitCore`,
is defined here.
-/


namespace Prelude

@[simp] theorem Res.bind_ok {α β : Type} (v : α) (f : α → Res β) : (Res.ok v).bind f = f v := rfl
@[simp] theorem Res.bind_exn {α β : Type} (k : String) (f : α → Res β) : (Res.exn k : Res α).bind f = .exn k := rfl
@[simp] theorem Res.bind_fuel {α β : Type} (f : α → Res β) : (Res.outOfFuel : Res α).bind f = .outOfFuel := rfl

theorem Res.terminates_of_ok {α : Type} {run : Nat → Res α} {b : Nat} {v : α} (h : run b = .ok v) :
    ∃ n, n ≤ b ∧ run n ≠ .outOfFuel :=
  ⟨b, Nat.le_refl b, by rw [h]; nofun⟩

theorem concat_eq {α : Type} (a b : List α) : concat a b = a ++ b := by
  unfold concat
  induction b generalizing a with
  | nil => simp
  | cons x xs ih => simp only [List.foldl_cons, ih]; simp [listAppend]

theorem map_foldl {α β : Type} (l : List α) (f : α → β) (acc : List β) :
    l.foldl (fun items item => listAppend items (f item)) acc = acc ++ l.map f := by
  induction l generalizing acc with
  | nil => simp
  | cons x xs ih => simp only [List.foldl_cons, ih]; simp [listAppend]

theorem filter_foldl {α : Type} (l : List α) (f : α → Bool) (acc : List α) :
    l.foldl (fun result item => if f item then listAppend result item else result) acc = acc ++ l.filter f := by
  induction l generalizing acc with
  | nil => simp
  | cons x xs ih =>
    simp only [List.foldl_cons, ih, List.filter_cons]
    cases f x <;> simp [listAppend]

theorem filter_eq {α : Type} (l : List α) (f : α → Bool) : filter l f = l.filter f := by
  simp [filter, filter_foldl]

theorem enumerate_foldl {α : Type} (l : List α) (acc : List (Int × α)) (i : Nat) :
    l.foldl (fun (st : List (Int × α) × Int) item => (listAppend st.1 (st.2, item), st.2 + 1)) (acc, (i : Int))
      = (acc ++ (l.zipIdx i).map (fun p => ((p.2 : Int), p.1)), ((i + l.length : Nat) : Int)) := by
  induction l generalizing acc i with
  | nil => simp
  | cons x xs ih =>
    simp only [List.foldl_cons]
    have := ih (listAppend acc ((i : Int), x)) (i + 1)
    simp only [Int.natCast_add, Int.cast_ofNat_Int] at this ⊢
    rw [this]
    simp [listAppend, List.zipIdx_cons]
    omega

theorem listGet_eq {α : Type} (l : List α) (i : Int) :
    listGet l i = if 0 ≤ i then l[i.toNat]? else none := by
  unfold listGet
  by_cases h : 0 ≤ i
  · simp only [h, ite_true]
    split
    · have : l.length ≤ i.toNat := by omega
      simp [this]
    · rfl
  · have : i < 0 := by omega
    simp [h, this]

theorem rangeLoop_eq (j : Int) (fuel : Nat) (i : Int) (items : List Int) (h : (j - i).toNat + 1 ≤ fuel) :
    rangeLoop j fuel i items = .ok (items ++ (List.range (j - i).toNat).map (fun (k : Nat) => i + (k : Int))) := by
  induction fuel generalizing i items with
  | zero => omega
  | succ fuel ih =>
    unfold rangeLoop
    by_cases hij : i < j
    · simp only [hij, ite_true]
      rw [ih (i + 1) _ (by omega)]
      have : (j - i).toNat = (j - (i + 1)).toNat + 1 := by omega
      rw [this, List.range_succ_eq_map]
      simp [listAppend, Function.comp_def]
      intro a _
      omega
    · simp only [hij, ite_false]
      have : (j - i).toNat = 0 := by omega
      simp [this]

theorem flatten_intersperse (sep x : Str) (xs : List Str) :
    (List.intersperse sep (x :: xs)).flatten = x ++ (xs.map (sep ++ ·)).flatten := by
  induction xs generalizing x with
  | nil => simp
  | cons y ys ih => simp [ih]

theorem joinLoop_eq (sep : Str) (items : List Str) (i : Nat) (acc : Str) (hi : i ≠ 0) :
    joinLoop sep items i acc = acc ++ (items.map (sep ++ ·)).flatten := by
  induction items generalizing i acc with
  | nil => simp [joinLoop]
  | cons x xs ih =>
    unfold joinLoop
    rw [ih (i + 1) _ (by omega)]
    simp [hi]

theorem join_eq (sep : Str) (items : List Str) : join sep items = List.intercalate sep items := by
  cases items with
  | nil => simp [join, joinLoop, List.intercalate]
  | cons x xs =>
    unfold join joinLoop
    rw [joinLoop_eq sep xs 1 _ (by omega)]
    simp [List.intercalate, flatten_intersperse]

/-- Clamping both ends of a slice to `[0, len]` is what `take`/`drop` do by themselves. -/
theorem take_drop_clamp {α : Type} (l : List α) (a b : Nat) :
    (l.drop (Min.min a l.length)).take
        (Max.max (Min.min b l.length) (Min.min a l.length) - Min.min a l.length) =
      (l.take b).drop a := by
  rw [List.drop_take]
  by_cases ha : l.length ≤ a
  · rw [Nat.min_eq_right ha, List.drop_eq_nil_of_le (Nat.le_refl _), List.drop_eq_nil_of_le ha,
      List.take_nil, List.take_nil]
  · rw [Nat.min_eq_left (show a ≤ l.length by omega)]
    by_cases hb : b ≤ l.length
    · rw [Nat.min_eq_left hb]
      congr 1; omega
    · rw [Nat.min_eq_right (by omega), List.take_of_length_le (by rw [List.length_drop]; omega),
        List.take_of_length_le (by rw [List.length_drop]; omega)]

theorem listSlice_eq {α : Type} (l : List α) (i j : Int) :
    listSlice l i j = (l.take (if j < 0 then (l.length : Int) + j else j).toNat).drop i.toNat := by
  have clamp : ∀ x : Int, (Min.min (Max.max x 0) (l.length : Int)).toNat = Min.min x.toNat l.length := by
    intro x; omega
  unfold listSlice
  simp only [clamp]
  exact take_drop_clamp l _ _

theorem listSlice_tail {α : Type} (x : α) (xs : List α) :
    listSlice (x :: xs) 1 (listLen (x :: xs)) = xs := by
  rw [listSlice_eq]
  split
  · rename_i h; simp [listLen] at h; omega
  · simp only [listLen, Int.toNat_natCast, List.take_length]
    rfl

theorem sortNums_sound (fuel : Nat) (items : List Int) (h : items.length + 1 ≤ fuel) :
    ∃ r, sortNums fuel items = .ok r ∧ r.Pairwise (· ≤ ·) ∧ r.Perm items := by
  induction fuel generalizing items with
  | zero => omega
  | succ fuel ih =>
    cases items with
    | nil => exact ⟨[], by simp [sortNums, first, listGet], List.Pairwise.nil, List.Perm.refl _⟩
    | cons pivot rest =>
      have hf : first (pivot :: rest) = some pivot := by simp [first, listGet]
      unfold sortNums
      simp only [hf, listSlice_tail, filter_eq]
      have l1 := List.length_filter_le (fun x => decide (x < pivot)) rest
      have l2 := List.length_filter_le (fun x => decide (x ≥ pivot)) rest
      simp only [List.length_cons] at h
      obtain ⟨a, ha, sa, pa⟩ := ih (rest.filter (fun x => decide (x < pivot))) (by omega)
      obtain ⟨b, hb, sb, pb⟩ := ih (rest.filter (fun x => decide (x ≥ pivot))) (by omega)
      refine ⟨a ++ [pivot] ++ b, ?_, ?_, ?_⟩
      · simp [ha, hb, concat_eq]
      · have ma : ∀ x ∈ a, x < pivot := by
          intro x hx
          have := (pa.mem_iff).1 hx
          simpa using (List.mem_filter.1 this).2
        have mb : ∀ x ∈ b, pivot ≤ x := by
          intro x hx
          have := (pb.mem_iff).1 hx
          simpa using (List.mem_filter.1 this).2
        rw [List.append_assoc, List.pairwise_append]
        refine ⟨sa, ?_, ?_⟩
        · simp only [List.singleton_append, List.pairwise_cons]
          exact ⟨mb, sb⟩
        · intro x hx y hy
          have := ma x hx
          simp only [List.singleton_append, List.mem_cons] at hy
          rcases hy with rfl | hy
          · omega
          · have := mb y hy; omega
      · have hfe : rest.filter (fun x => decide (x ≥ pivot)) = rest.filter (fun x => !decide (x < pivot)) := by
          apply List.filter_congr
          intro x _
          by_cases hx : x < pivot <;> simp [hx] <;> omega
        have p1 : (a ++ b).Perm rest :=
          ((pa.append pb).trans (by rw [hfe]; exact List.filter_append_perm _ rest))
        rw [List.append_assoc, List.singleton_append]
        exact List.perm_middle.trans (p1.cons pivot)

theorem substring_ok (s : Str) (i j : Int) (hi : 0 ≤ i) (hij : i ≤ j) :
    substring s i j = .ok ((s.take j.toNat).drop i.toNat) := by
  obtain ⟨a, rfl⟩ := Int.eq_ofNat_of_zero_le hi
  obtain ⟨b, rfl⟩ := Int.eq_ofNat_of_zero_le (Int.le_trans hi hij)
  unfold substring
  rw [if_neg (Int.not_lt.2 hi), if_neg (Int.not_lt.2 hij), List.drop_take]
  simp only [Int.toNat_natCast, Int.toNat_sub]

theorem substring_nat (s : Str) (k n : Nat) :
    substring s (k : Int) ((k : Int) + (n : Int)) = .ok ((s.drop k).take n) := by
  rw [substring_ok _ _ _ (Int.natCast_nonneg k) (Int.le_add_of_nonneg_right (Int.natCast_nonneg n)),
    List.drop_take]
  simp only [← Int.natCast_add, Int.toNat_natCast, Nat.add_sub_cancel_left]

theorem take_drop_eq_iff (s sub : Str) (j : Nat) :
    (s.drop j).take sub.length = sub ↔ ∃ t, s.drop j = sub ++ t := by
  constructor
  · intro h
    have h2 := (List.take_append_drop sub.length (s.drop j)).symm
    rw [h] at h2
    exact ⟨_, h2⟩
  · rintro ⟨t, h⟩
    rw [h, List.take_left']
    rfl

theorem infix_iff_window (s sub : Str) :
    sub <:+: s ↔ ∃ j, j + sub.length ≤ s.length ∧ (s.drop j).take sub.length = sub := by
  constructor
  · rintro ⟨a, b, h⟩
    refine ⟨a.length, ?_, ?_⟩
    · rw [← h]; simp
    · rw [take_drop_eq_iff]
      exact ⟨b, by rw [← h, List.append_assoc, List.drop_left' rfl]⟩
  · rintro ⟨j, hj, h⟩
    obtain ⟨t, ht⟩ := (take_drop_eq_iff s sub j).1 h
    exact ⟨s.take j, t, by rw [List.append_assoc, ← ht, List.take_append_drop]⟩

theorem containsLoop_eq (this sub : Str) (hm : sub.length ≤ this.length) (fuel i : Nat)
    (hf : this.length - sub.length + 2 ≤ fuel + i) (hi : i ≤ this.length - sub.length + 1) :
    containsLoop this sub fuel (i : Int) = .ok ((List.range' i (this.length - sub.length + 1 - i)).any
      (fun j => (this.drop j).take sub.length == sub)) := by
  induction fuel generalizing i with
  | zero => omega
  | succ fuel ih =>
    unfold containsLoop
    by_cases hc : (i : Int) ≤ strLen this - strLen sub
    · simp only [strLen] at hc
      simp only [hc, strLen, ite_true, substring_nat, Res.bind_ok]
      have e : this.length - sub.length + 1 - i = (this.length - sub.length + 1 - (i + 1)) + 1 := by omega
      rw [e, List.range'_succ, List.any_cons]
      by_cases hs : ((this.drop i).take sub.length == sub) = true
      · simp [hs]
      · have ih' := ih (i + 1) (by omega) (by omega)
        simp only [Int.natCast_add, Int.cast_ofNat_Int] at ih'
        simp only [hs, ih']
        simp
    · simp only [strLen] at hc
      simp only [strLen, hc, ite_false]
      have e : this.length - sub.length + 1 - i = 0 := by omega
      simp [e]

theorem length_takeWhile_add_dropWhile (p : Char → Bool) (l : Str) :
    (l.takeWhile p).length + (l.dropWhile p).length = l.length := by
  rw [← List.length_append, List.takeWhile_append_dropWhile]

theorem trimLeftLoop_eq (s : Str) (fuel i : Nat) (hi : i ≤ s.length) (hf : s.length + 1 ≤ fuel + i) :
    trimLeftLoop s fuel (i : Int) = .ok ((i + ((s.drop i).takeWhile (· == ' ')).length : Nat) : Int) := by
  induction fuel generalizing i with
  | zero =>
    have : i = s.length + 1 := by omega
    omega
  | succ fuel ih =>
    unfold trimLeftLoop
    by_cases hc : (i : Int) < strLen s
    · simp only [strLen] at hc
      have hlt : i < s.length := by omega
      have hd : s.drop i = s[i] :: s.drop (i + 1) := List.drop_eq_getElem_cons hlt
      have hs := substring_nat s i 1
      simp only [Int.cast_ofNat_Int] at hs
      simp only [strLen, hc, ite_true, hs, Res.bind_ok]
      rw [hd]
      simp only [List.take_succ_cons, List.take_zero, List.takeWhile_cons]
      by_cases hsp : s[i] = ' '
      · have ih' := ih (i + 1) (by omega) (by omega)
        simp only [Int.natCast_add, Int.cast_ofNat_Int] at ih'
        simp [hsp, ih']
        omega
      · simp [hsp]
    · simp only [strLen] at hc
      have : i = s.length := by omega
      subst this
      simp [strLen]

/-- The loop returns the index of the last non-space of `s.take n`, `-1` if there is none. -/
theorem trimRightLoop_eq (s : Str) (fuel n : Nat) (hn : n ≤ s.length) (hf : n + 1 ≤ fuel) :
    trimRightLoop s fuel ((n : Int) - 1) =
      .ok (((((s.take n).reverse.dropWhile (· == ' ')).length : Nat) : Int) - 1) := by
  induction fuel generalizing n with
  | zero => omega
  | succ fuel ih =>
    unfold trimRightLoop
    cases n with
    | zero => simp
    | succ k =>
      have e1 : ((k + 1 : Nat) : Int) - 1 = (k : Int) := by omega
      have hlt : k < s.length := by omega
      have hs := substring_nat s k 1
      simp only [Int.cast_ofNat_Int] at hs
      have hd : s.drop k = s[k] :: s.drop (k + 1) := List.drop_eq_getElem_cons hlt
      rw [e1]
      have hk0 : (k : Int) ≥ 0 := by omega
      simp only [hk0, ite_true, hs, Res.bind_ok, hd, List.take_succ_cons, List.take_zero]
      have ht : s.take (k + 1) = s.take k ++ [s[k]] := by
        rw [List.take_add_one, List.getElem?_eq_getElem hlt]; rfl
      rw [ht, List.reverse_append]
      simp only [List.reverse_singleton, List.singleton_append, List.dropWhile_cons]
      by_cases hsp : s[k] = ' '
      · have ih' := ih k (by omega) (by omega)
        simp [hsp, ih']
      · simp [hsp]
        omega

theorem find_spec (s n : Str) :
    match find s n with
    | some k => n <+: s.drop k ∧ k + n.length ≤ s.length ∧ ∀ j, j < k → ¬ n <+: s.drop j
    | none => ∀ j, j ≤ s.length → ¬ n <+: s.drop j := by
  induction s with
  | nil =>
    unfold find
    cases n with
    | nil => exact ⟨List.prefix_refl _, Nat.le_refl _, fun j hj => absurd hj (Nat.not_lt_zero j)⟩
    | cons a as => intro j _; simp
  | cons c cs ih =>
    unfold find
    by_cases hp : n.isPrefixOf (c :: cs) = true
    · rw [if_pos hp]
      have hp' := List.isPrefixOf_iff_prefix.1 hp
      exact ⟨hp', by simpa using hp'.length_le, fun j hj => absurd hj (Nat.not_lt_zero j)⟩
    · rw [if_neg hp]
      have h0 : ¬ n <+: (c :: cs).drop 0 := fun hc => hp (List.isPrefixOf_iff_prefix.2 hc)
      cases hf : find cs n with
      | none =>
        rw [hf] at ih
        intro j hj
        cases j with
        | zero => exact h0
        | succ j' => exact ih j' (by simpa using hj)
      | some k' =>
        rw [hf] at ih
        simp only [Option.map_some]
        refine ⟨ih.1, by simp only [List.length_cons]; omega, fun j hj => ?_⟩
        cases j with
        | zero => exact h0
        | succ j' => exact ih.2.2 j' (by omega)

theorem find_some_spec {s n : Str} {k : Nat} (h : find s n = some k) :
    n <+: s.drop k ∧ k + n.length ≤ s.length ∧ ∀ j, j < k → ¬ n <+: s.drop j := by
  have := find_spec s n; rwa [h] at this

theorem find_cut {s n : Str} {k : Nat} (h : find s n = some k) :
    s.take k ++ (n ++ s.drop (k + n.length)) = s := by
  obtain ⟨t, ht⟩ := (find_some_spec h).1
  have : s.drop (k + n.length) = t := by rw [← List.drop_drop, ← ht, List.drop_left' rfl]
  rw [this, ht, List.take_append_drop]

theorem indexOf_of_find_none (s n : Str) (h : find s n = none) : indexOf s n = none := by
  simp [indexOf, h]

/-- `k < |s|` rather than a non-empty needle, so that the empty needle at offset 0 is covered. -/
theorem cut_ok {s n : Str} {k : Nat} (h : find s n = some k) (hk : k < s.length) :
    indexOf s n = some (k : Int) ∧ substring s 0 (k : Int) = .ok (s.take k) ∧
    substring s ((k : Int) + strLen n) (strLen s) = .ok (s.drop (k + n.length)) := by
  have hb := (find_some_spec h).2.1
  refine ⟨by simp [indexOf, h, hk], ?_, ?_⟩
  · rw [substring_ok _ _ _ (by omega) (by omega)]; simp
  · simp only [strLen]
    rw [substring_ok _ _ _ (by omega) (by omega)]
    simp [← Int.natCast_add]

theorem find_lt {s n : Str} {k : Nat} (hn : n ≠ []) (h : find s n = some k) : k < s.length := by
  have := (find_some_spec h).2.1
  have : 0 < n.length := List.length_pos_iff.2 hn
  omega

/-- Reference for `split`: cut at the leftmost occurrence, continue after it. `f` bounds the number
of cuts only to make the recursion structural; `splitCore` supplies `|s|`, which is enough for a
non-empty needle because every cut shortens the string. -/
def splitCoreF (n : Str) : Nat → Str → List Str
  | 0, s => [s]
  | f + 1, s =>
    match find s n with
    | none => [s]
    | some k => s.take k :: splitCoreF n f (s.drop (k + n.length))

def splitCore (n s : Str) : List Str := splitCoreF n s.length s

theorem splitCoreF_ne_nil (n : Str) (f : Nat) (s : Str) : splitCoreF n f s ≠ [] := by
  cases f <;> simp [splitCoreF] <;> split <;> simp

theorem find_nil_of_ne (n : Str) (hn : n ≠ []) : find [] n = none := by
  cases n with
  | nil => exact absurd rfl hn
  | cons a as => simp [find]

/-- `split` and `replace` run the same loop: cut at the leftmost occurrence, append `g piece` to the
accumulator, continue after the occurrence. `L` is the loop, `G` what it makes of the reference pieces. -/
theorem cutLoop_eq (n : Str) (hn : n ≠ []) (g : Str → List Str) (G : List Str → List Str)
    (hG1 : ∀ x, G [x] = [x]) (hG2 : ∀ x y ys, G (x :: y :: ys) = g x ++ G (y :: ys))
    (L : Nat → Str → List Str → Res (List Str))
    (hnone : ∀ fuel s parts, find s n = none → L (fuel + 1) s parts = .ok (parts ++ [s]))
    (hsome : ∀ fuel s parts k, find s n = some k →
      L (fuel + 1) s parts = L fuel (s.drop (k + n.length)) (parts ++ g (s.take k)))
    (f fuel : Nat) (s : Str) (parts : List Str) (hf : s.length ≤ f) (hfuel : s.length + 1 ≤ fuel) :
    L fuel s parts = .ok (parts ++ G (splitCoreF n f s)) := by
  obtain ⟨fuel, rfl⟩ := Nat.exists_eq_add_one_of_ne_zero (show fuel ≠ 0 by omega)
  induction f generalizing fuel s parts with
  | zero =>
    have : s = [] := List.eq_nil_of_length_eq_zero (by omega)
    subst this
    rw [hnone _ _ _ (find_nil_of_ne n hn), splitCoreF, hG1]
  | succ f ih =>
    unfold splitCoreF
    cases hfd : find s n with
    | none => rw [hnone _ _ _ hfd, hG1]
    | some k =>
      have hb := (find_some_spec hfd).2.1
      have hpos : 0 < n.length := List.length_pos_iff.2 hn
      obtain ⟨fuel, rfl⟩ := Nat.exists_eq_add_one_of_ne_zero (show fuel ≠ 0 by omega)
      obtain ⟨y, ys, hy⟩ := List.exists_cons_of_ne_nil (splitCoreF_ne_nil n f (s.drop (k + n.length)))
      show L _ s parts = .ok (parts ++ G (s.take k :: splitCoreF n f (s.drop (k + n.length))))
      rw [hsome _ _ _ _ hfd, ih (s := s.drop (k + n.length)) (fuel := fuel) (hf := by simp; omega)
        (hfuel := by simp; omega), hy, hG2, List.append_assoc]

theorem splitLoop_eq (n : Str) (hn : n ≠ []) (f fuel : Nat) (s : Str) (parts : List Str)
    (hf : s.length ≤ f) (hfuel : s.length + 1 ≤ fuel) :
    splitLoop n fuel s parts = .ok (parts ++ splitCoreF n f s) := by
  refine cutLoop_eq n hn (fun p => [p]) id (fun _ => rfl) (fun _ _ _ => rfl) (splitLoop n) ?_ ?_
    f fuel s parts hf hfuel
  · intro fuel s parts h
    simp only [splitLoop, indexOf_of_find_none s n h, listAppend]
  · intro fuel s parts k h
    obtain ⟨hi, h1, h2⟩ := cut_ok h (find_lt hn h)
    simp only [splitLoop, hi, h1, h2, Res.bind_ok, listAppend]

theorem replaceLoop_eq (n after : Str) (hn : n ≠ []) (f fuel : Nat) (s : Str) (parts : List Str)
    (hf : s.length ≤ f) (hfuel : s.length + 1 ≤ fuel) :
    replaceLoop n after fuel s parts = .ok (parts ++ List.intersperse after (splitCoreF n f s)) := by
  refine cutLoop_eq n hn (fun p => [p, after]) (List.intersperse after) (fun _ => rfl)
    (fun _ _ _ => rfl) (replaceLoop n after) ?_ ?_ f fuel s parts hf hfuel
  · intro fuel s parts h
    simp only [replaceLoop, indexOf_of_find_none s n h, listAppend]
  · intro fuel s parts k h
    obtain ⟨hi, h1, h2⟩ := cut_ok h (find_lt hn h)
    simp only [replaceLoop, hi, h1, h2, Res.bind_ok, listAppend, List.append_assoc,
      List.cons_append, List.nil_append]

theorem flatten_intersperse_nil (xs : List Str) : (List.intersperse [] xs).flatten = xs.flatten := by
  cases xs with
  | nil => rfl
  | cons x xs => rw [flatten_intersperse]; simp

theorem splitCoreF_join (n : Str) (f : Nat) (s : Str) :
    List.intercalate n (splitCoreF n f s) = s := by
  induction f generalizing s with
  | zero => simp [splitCoreF, List.intercalate]
  | succ f ih =>
    unfold splitCoreF
    cases hfd : find s n with
    | none => simp [List.intercalate]
    | some k =>
      obtain ⟨y, ys, hy⟩ := List.exists_cons_of_ne_nil (splitCoreF_ne_nil n f (s.drop (k + n.length)))
      have ih' := ih (s.drop (k + n.length))
      simp only [hy, List.intercalate] at ih' ⊢
      simp only [List.intersperse_cons_cons, List.flatten_cons, ih']
      exact find_cut hfd

theorem splitInclusiveNl_flatten (s cur : Str) :
    (splitInclusiveNl s cur).flatten = cur.reverse ++ s := by
  induction s generalizing cur with
  | nil => unfold splitInclusiveNl; cases cur <;> simp
  | cons c cs ih =>
    unfold splitInclusiveNl
    split <;> simp [ih]

/-- With the empty needle on a non-empty string a turn of either loop cuts at offset 0 and continues with
the same string. -/
theorem empty_needle_cut (s : Str) (hs : s ≠ []) :
    indexOf s [] = some 0 ∧ substring s 0 0 = .ok [] ∧ substring s (0 + strLen []) (strLen s) = .ok s := by
  have hf : find s [] = some 0 := by cases s <;> simp [find]
  simpa using cut_ok hf (List.length_pos_iff.2 hs)

theorem diverges_of_step {σ α : Type} (L : Nat → σ → Res α) (h0 : ∀ p, L 0 p = .outOfFuel)
    (hstep : ∀ fuel p, ∃ p', L (fuel + 1) p = L fuel p') : ∀ fuel p, L fuel p = .outOfFuel := by
  intro fuel
  induction fuel with
  | zero => exact h0
  | succ fuel ih => intro p; obtain ⟨p', h⟩ := hstep fuel p; rw [h]; exact ih p'

end Prelude
