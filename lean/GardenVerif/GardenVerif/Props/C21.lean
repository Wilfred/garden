import GardenVerif.Lemmas.Extract
/-!
# C21 — Wrap-in-dbg and add-type-annotation preserve behaviour

(V) certified validator over the reference semantics `RefSem` (Model/RefSem.lean; `dbg` returns its
argument and writes nothing to stdout, as the real `dbg` writes to stderr only).

Relations (Model/Extract.lean), both decided by the driver on the two trees of the REAL parser:
* `IsDbgWrap p p' t`: up to node ids and `value_is_used` flags, `p'` is `p` with the node `t` (exactly
  one node, not a `let`) replaced by the call `dbg(<that node>)`; decided by `dbgwrapCheck`.
* `IsAnnotationAdd p p'`: the hint-free trees are equal up to ids / flags (`Machine.Expr` carries no
  hints; that exactly one hint was added is read off the `astq` dumps by the driver op `annot_check`).

Fuel. `RefSem` is fuel-indexed (fuel = nesting depth of the evaluation), and `dbg(e)` needs two more
levels than `e`, so "same run for the same fuel" is false at the boundary. The theorems say: whenever
one side ends (result other than `timeout`) with fuel `n`, the other side ends in exactly the same
way — same result value, same final store, same printed output — with fuel `3 * n` (resp. `n`).
Together with fuel monotonicity (`run_mono`) this is "the same behaviour for all sufficient fuel".

Proved for ALL programs and all fuel, for the closure-free restriction `cl = false` of `RefSem`
(a `fun` literal / closure call is `unsupported` on both sides), hence the suffix `_partial`:
* `eval_congr_partial` — the reusable core: replacing any set of sub-expressions `e` by `wrap e`,
  where `wrap e` evaluates like `e` in every state (hypothesis `Local`), preserves the run;
* `run_mono` — fuel monotonicity; `strip_invariant_partial` — node ids and use flags do not matter;
* `dbg_identity_partial`, `dbg_identity_behaviour_partial`, `dbgwrapCheck_behaviour_partial`;
* `annot_sound_partial` — see there for what is modelled.
Not proved, so the full statements are open: the same with `cl = true` (closures). Closure values carry code, so
the two runs' values differ by the transformation; the proof needs a value relation instead of equality (and
for `dbg` an invariant "no closure in the state rebinds `dbg`"). The relation and the checkers do
cover closures, and the direct oracle runs the real interpreter on closure-using programs.
-/

namespace C21
open Extract RefSem Validators
open Machine (Program Expr)

theorem dbgwrapCheck_sound (p p' : Program) (t : Nat) (h : dbgwrapCheck p p' t = true) :
    IsDbgWrap p p' t := by
  simp only [dbgwrapCheck, Bool.and_eq_true, beq_iff_eq] at h
  exact ⟨progEq_sound _ _ h.1, h.2⟩

theorem annotCheck_sound (p p' : Program) (h : annotCheck p p' = true) : IsAnnotationAdd p p' :=
  progEq_sound _ _ h

theorem run_mono (p : Program) (n k : Nat) (hn : isTO (run false p n).1 = false) :
    run false p (n + k) = run false p n :=
  ((evalSeq_mono p (Nat.le_add_right n k) [] St.init p.toplevel).eq_of_not_to hn).symm

/-- The congruence on which C21 and the repeated-operand fix of C22 rest. `WP c p` is `p` with every node selected
by `c.sel` replaced by `c.wrap <node>`.
If `wrap x` evaluates like `x` in every state (`Local c p`: with `c.k` more fuel; it may fail with the
designated error `c.fk`), then
(1) a run of `p` that ends with fuel `n` is reproduced exactly by `WP c p` with fuel `(c.k+1) * n`,
    unless the wrapped program ends with the wrapper's failure;
(2) a run of `WP c p` that ends with fuel `n`, not with the wrapper's failure, is the run of `p`. -/
theorem eval_congr_partial (c : WCfg) (p : Program) (hc : Local c p)
    (hb : bokSeq c.ok p.toplevel = true) :
    (∀ n, isTO (run false p n).1 = false →
      run false (WP c p) ((c.k + 1) * n) = run false p n ∨
      failedBy c.fk (run false (WP c p) ((c.k + 1) * n)).1 = true) ∧
    (∀ n, isTO (run false (WP c p) n).1 = false →
      run false p n = run false (WP c p) n ∨ failedBy c.fk (run false (WP c p) n).1 = true) := by
  constructor
  · intro n hn
    have h := simF_seq hc (Nat.le_refl ((c.k + 1) * n)) [] St.init p.toplevel EnvOK.nil hb
    rcases h with h | h | h | h
    · rw [show evalSeq false p n [] St.init p.toplevel = run false p n from rfl, hn] at h; cases h
    · exact Or.inl h.symm
    · simp [failedBy] at h
    · exact Or.inr h
  · intro n hn
    have h := simB_seq hc (Nat.le_refl n) [] St.init p.toplevel EnvOK.nil hb
    rcases h with h | h | h | h
    · rw [show evalSeq false (WP c p) n [] St.init (WSeq c p.toplevel) = run false (WP c p) n from rfl, hn] at h
      cases h
    · exact Or.inl h.symm
    · exact Or.inr h
    · simp [failedBy] at h

theorem strip_invariant_partial (p : Program) (n : Nat)
    (h : isTO (run false p n).1 = false ∨ isTO (run false (WP stripCfg p) n).1 = false) :
    run false (WP stripCfg p) n = run false p n :=
  strip_run p n h

/-- The property dbg_identity of DESIGN.md §7 (closure-free restriction): `p'` is `p` with one expression `e`
replaced by `dbg(e)`, and `dbg` means the built-in in `p` (`dbgFree`). -/
theorem dbg_identity_partial (p p' : Program) (t : Nat) (h : IsDbgWrap p p' t) (hd : dbgFree p = true) :
    (∀ n, isTO (run false p n).1 = false → run false p' (3 * n) = run false p n) ∧
    (∀ n, isTO (run false p' n).1 = false → run false p n = run false p' n) := by
  have hb : bokSeq (dbgCfg t).ok p.toplevel = true := by
    simp only [dbgFree, bokProg, Bool.and_eq_true] at hd
    exact hd.1.1.2
  have hc := eval_congr_partial (dbgCfg t) p (local_dbg hd t) hb
  constructor
  · intro n hn
    have h1 := hc.1 n hn
    simp only [dbgCfg, failedBy, Bool.false_eq_true, or_false] at h1
    have h1' : run false (WP (dbgCfg t) p) (3 * n) = run false p n := h1
    rw [← h.1] at h1'
    have h2 := strip_invariant_partial p' (3 * n) (Or.inr (by rw [h1']; exact hn))
    rw [← h2, h1']
  · intro n hn
    have h2 := strip_invariant_partial p' n (Or.inl hn)
    have h3 : isTO (run false (WP (dbgCfg t) p) n).1 = false := by rw [← h.1, h2]; exact hn
    have h1 := hc.2 n h3
    simp only [dbgCfg, failedBy, Bool.false_eq_true, or_false] at h1
    have h1' : run false p n = run false (WP (dbgCfg t) p) n := h1
    rw [h1', ← h.1, h2]

theorem dbg_identity_behaviour_partial (p p' : Program) (t : Nat) (h : IsDbgWrap p p' t)
    (hd : dbgFree p = true) :
    (∀ n, (behaviour false p n).1 ≠ .timeout → behaviour false p' (3 * n) = behaviour false p n) ∧
    (∀ n, (behaviour false p' n).1 ≠ .timeout → behaviour false p n = behaviour false p' n) := by
  have := dbg_identity_partial p p' t h hd
  constructor
  · intro n hn
    simp only [behaviour] at hn ⊢
    rw [this.1 n (isTO_of_outcome hn)]
  · intro n hn
    simp only [behaviour] at hn ⊢
    rw [this.2 n (isTO_of_outcome hn)]

theorem dbgwrapCheck_behaviour_partial (p p' : Program) (t : Nat) (h : dbgwrapCheck p p' t = true)
    (hd : dbgFree p = true) (n : Nat) (hn : (behaviour false p n).1 ≠ .timeout) :
    behaviour false p' (3 * n) = behaviour false p n :=
  (dbg_identity_behaviour_partial p p' t (dbgwrapCheck_sound p p' t h) hd).1 n hn

/-- The property annot_sound of DESIGN.md §7 (closure-free restriction). What is modelled: `RefSem` has no type
hints. A hint `T` on a `let` (resp. a function's return type) makes the real evaluator check the bound (returned)
value against `T` and raise a type error if it does not fit. The hinted program is modelled as
`WP (chkCfg sel chk fk) p'`: the unhinted tree `p'` in which the nodes `sel` (the `let`'s right-hand
side; the returned expressions) are wrapped in a context `chk` that is a partial identity
(`PartialId chk ok fk`: in every program and state, `chk x` evaluates `x` and passes its value on if
`ok` accepts it, else fails with `fk`; instances: `partialId_int` (`x + 0`), `partialId_str`).
Parameter hints (checked at call time) are not modelled.
The statement has the two halves of `eval_congr_partial`, the check's failure `fk` being the exception; so under
the hypothesis of the property (every value reaching the binding fits the hint: the check never fails) the
behaviour is unchanged. Whether the suggested hint satisfies it is decided per input by the oracle (no new `check`
diagnostics, same stdout and same end of `garden run`). -/
theorem annot_sound_partial (p p' : Program) (h : IsAnnotationAdd p p')
    (chk : Expr → Expr) (ok : Val → Bool) (fk : EK) (hchk : PartialId chk ok fk) (sel : Nat → Bool) :
    (∀ n, isTO (run false p n).1 = false →
      run false (WP (chkCfg sel chk fk) p') (3 * n) = run false p n ∨
      (run false (WP (chkCfg sel chk fk) p') (3 * n)).1 = .err fk) ∧
    (∀ n, isTO (run false (WP (chkCfg sel chk fk) p') n).1 = false →
      run false p n = run false (WP (chkCfg sel chk fk) p') n ∨
      (run false (WP (chkCfg sel chk fk) p') n).1 = .err fk) := by
  have hc := eval_congr_partial (chkCfg sel chk fk) p' (local_chk hchk sel p') (bokSeq_true _)
  have hk : (chkCfg sel chk fk).k + 1 = 3 := rfl
  rw [hk] at hc
  constructor
  · intro n hn
    have e := strip_eq_run h n (Or.inl hn)
    rcases hc.1 n (by rw [e]; exact hn) with h1 | h1
    · left; rw [h1, e]
    · right; exact failedBy_some h1
  · intro n hn
    rcases hc.2 n hn with h1 | h1
    · left
      have e := strip_eq_run h n (Or.inr (by rw [h1]; exact hn))
      rw [← e, h1]
    · right; exact failedBy_some h1

/-- Non-trivial instance of the relation: `println(string_repr(1 + 2))` (ids 1–7) and the output of
the tool at the literal `1` (node 6): `println(string_repr(dbg(1) + 2))` with fresh ids / flags. -/
example :
    let p : Program := ⟨[], [], [.call 1 false (.var 2 true "println")
      [.call 3 true (.var 4 true "string_repr") [.binop 5 true .add (.int 6 true 1) (.int 7 true 2)]]]⟩
    let p' : Program := ⟨[], [], [.call 11 false (.var 12 true "println")
      [.call 13 true (.var 14 true "string_repr") [.binop 15 true .add
        (.call 16 true (.var 17 true "dbg") [.int 18 true 1]) (.int 19 true 2)]]]⟩
    dbgwrapCheck p p' 6 = true ∧ dbgFree p = true := by
  intro p p'
  have h : WP stripCfg p' = WP (dbgCfg 6) p := by rfl
  exact ⟨by rw [dbgwrapCheck, progEq_of_eq h]; rfl, by decide⟩

end C21
