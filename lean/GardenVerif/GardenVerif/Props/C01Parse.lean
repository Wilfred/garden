import GardenVerif.Lemmas.Parse
import GardenVerif.Lemmas.Lex
/-!
C01 (parser half) — the parser model M2 with `pn = false` (the tree with the repairs named in
Model/Parse.lean) does not panic: `parse_no_panic`, for the whole parser and EVERY fuel, so it does not rest on any
termination bound. Induction on fuel for all fuel at once: `Specs toks fuel` for the 28 mutually recursive functions of
the expression block; type hints, parameters, destructuring and the definitions only need `Moves`, which every
instruction of theirs has. Covered panic sites, named by their line in the PINNED parser.rs as in
Model/Parse.lean (in /repo the same assertions stand at 333, 409, 1033, 1120, 1393, 2397, 3137): the progress
assertions parser.rs:328, 404, 995 (dead), 1082, 1361, 2334, 3067 (those at 1995, 2183, 2812 are `break`s in
this tree), `expect("TODO: handle empty …")` 86/151, `unwrap`s 229/512, `unpop`.
Also: `parse_no_panic_partial` / `parseBlock_no_panic` (any start state inside the token list),
`parseExpression_progress` (the invariant the assertions gesture at: the index never moves back, and
moves strictly forward unless the result is `Invalid` / a placeholder).

The one backward move is `Mv`: `parse_symbol` at the end of the file hands back the previous token and may
un-pop it, back onto a LAST token that is not symbol-like. Its direct callers `parseTypeHint`,
`parseLetDestination`, `parsePattern` are shown `Mv` only (started at the end of the file they do end one token
back); the callers one level up, which begin with a keyword or an opening token, are shown to end at or beyond
their own start (`kw_then`, `strict_after`, `def_strict`).

The sections follow the call graph, callees first: `level0` the token primitives, `level1` type hints, parameters,
destructuring and patterns, `level2` one step of the induction per function of the expression block, `final` the
induction, `level3` definitions and the items loop.

Hypothesis `LexLike toks` (what the parser relies on from the lexer): a float-looking token is a whole
float (else `parse::<f64>().unwrap()` panics) and a symbol-like token sits on one line (else
`parse_symbol`'s same-line test can un-pop a keyword it just consumed and `try`/… would make no
progress). It is proved about the lexer model (`LexLikeProof.lex_lexLike`, end of this file), which gives the
hypothesis-free `lex_parse_no_panic` (declared in the root namespace, after `LexLikeProof`);
harness/c01.py additionally checks it on every real token stream of every run
(coverage.lexlike_token_streams_checked / lexlike_violations).
-/

namespace C01Parse
open Parse ParseLemmas

/-- Weakest precondition: `m` run from `s` does not panic and, if it returns, `Q` holds. -/
def wp {α} (m : P α) (Q : α → St → Prop) (s : St) : Prop :=
  match m s with
  | .ok a s' => Q a s'
  | .panic _ => False
  | .outOfFuel => True

theorem wp_bind {α β} (m : P α) (f : α → P β) (Q : β → St → Prop) (s : St) :
    wp (m >>= f) Q s ↔ wp m (fun a s' => wp (f a) Q s') s := by
  simp only [wp, bind_apply, P.bind]
  cases m s <;> simp

theorem wp_pure {α} (a : α) (Q : α → St → Prop) (s : St) : wp (pure a : P α) Q s ↔ Q a s := Iff.rfl
theorem wp_panic {α} (x : String) (Q : α → St → Prop) (s : St) : wp (Parse.panic x : P α) Q s ↔ False := Iff.rfl

theorem wp_getIdx (Q : Nat → St → Prop) (s : St) : wp getIdx Q s ↔ Q s.idx s := Iff.rfl
theorem wp_diag (k : DiagKind) (Q : Unit → St → Prop) (s : St) :
    wp (diag k) Q s ↔ Q () { s with diags := s.diags ++ [k] } := Iff.rfl
theorem wp_peekAt (toks : Toks) (k : Nat) (Q : Option TokI → St → Prop) (s : St) :
    wp (peekAt toks k) Q s ↔ Q ((toks[s.idx + k]?).map fun t => ⟨t, s.idx + k⟩) s := Iff.rfl
theorem wp_peek (toks : Toks) (Q : Option TokI → St → Prop) (s : St) :
    wp (peek toks) Q s ↔ Q ((toks[s.idx]?).map fun t => ⟨t, s.idx⟩) s := Iff.rfl
theorem wp_pop (toks : Toks) (Q : Option TokI → St → Prop) (s : St) :
    wp (pop toks) Q s ↔ (match toks[s.idx]? with
      | some t => Q (some ⟨t, s.idx⟩) { s with idx := s.idx + 1 }
      | none => Q none s) := by
  simp only [wp, pop]; cases toks[s.idx]? <;> exact Iff.rfl
theorem wp_prev (toks : Toks) (Q : Option TokI → St → Prop) (s : St) :
    wp (prev toks) Q s ↔ Q (if s.idx = 0 then none else (toks[s.idx - 1]?).map fun t => ⟨t, s.idx - 1⟩) s :=
  Iff.rfl
theorem wp_unpop (Q : Unit → St → Prop) (s : St) :
    wp unpop Q s ↔ (0 < s.idx ∧ Q () { s with idx := s.idx - 1 }) := by
  simp only [wp, unpop]
  by_cases h : 0 < s.idx <;> simp [h]
theorem wp_ite {α} (c : Prop) [Decidable c] (a b : P α) (Q : α → St → Prop) (s : St) :
    wp (if c then a else b) Q s ↔ (if c then wp a Q s else wp b Q s) := by
  split <;> rfl
theorem wp_mono {α} {m : P α} {Q Q' : α → St → Prop} {s : St} (h : wp m Q s) (hq : ∀ a s', Q a s' → Q' a s') :
    wp m Q' s := by
  unfold wp at *
  cases hm : m s with
  | ok a s' => rw [hm] at h; exact hq a s' h
  | panic p => rw [hm] at h; exact h
  | outOfFuel => trivial

/-- `1` iff the last token is a symbol-like token (then `parse_symbol` at the end of the file does not
un-pop, for lexer-like tokens). A number and not a Boolean, so that every fact about `Mv` is linear arithmetic
(`Mv.trans` and the `stay` / `back` steps of `spec_parseSymbol` close by `omega`). -/
def lastSym (toks : Toks) : Nat :=
  match toks.getLast? with
  | some t => if isSymbolTok t.text then 1 else 0
  | none => 0

/-- Movement allowed to a parse function: forwards, or — only when started at the end of the file
and the last token is not symbol-like — back onto the last token. -/
def Mv (toks : Toks) (i j : Nat) : Prop :=
  j ≤ toks.length ∧ (i ≤ j ∨ (i = toks.length ∧ j + 1 = toks.length ∧ lastSym toks = 0))

structure LexLike (toks : Toks) : Prop where
  floats : ∀ t ∈ toks, isFloatTok t.text = true → floatWhole (t.text.toList.filter (· != '_')) = true
  symLines : ∀ t ∈ toks, isSymbolTok t.text = true → t.endLine = t.line

theorem get_lt {toks : Toks} {i : Nat} {t : Tok} (h : toks[i]? = some t) : i < toks.length :=
  (List.getElem?_eq_some_iff.mp h).1

theorem get_none {toks : Toks} {i : Nat} (h : toks[i]? = none) : toks.length ≤ i :=
  List.getElem?_eq_none_iff.mp h

theorem lastSym_eq {toks : Toks} {t : Tok} (h : toks[toks.length - 1]? = some t) :
    lastSym toks = if isSymbolTok t.text then 1 else 0 := by
  have : toks.getLast? = some t := by rw [List.getLast?_eq_getElem?]; exact h
  simp only [lastSym, this]

def tokIs (toks : Toks) (i : Nat) (x : String) : Bool :=
  match toks[i]? with | some t => t.text == x | none => false

theorem wp_peekIs (toks : Toks) (x : String) (Q : Bool → St → Prop) (s : St) :
    wp (peekIs toks x) Q s ↔ Q (tokIs toks s.idx x) s := Iff.rfl

theorem tokIs_get {toks : Toks} {i : Nat} {x : String} (h : tokIs toks i x = true) :
    ∃ t, toks[i]? = some t ∧ t.text = x := by
  unfold tokIs at h
  cases ht : toks[i]? with
  | none => simp [ht] at h
  | some t => exact ⟨t, rfl, by simpa [ht] using h⟩

theorem tokIs_of_get {toks : Toks} {i : Nat} {t : Tok} (h : toks[i]? = some t) {x : String}
    (hx : (t.text == x) = true) : tokIs toks i x = true := by
  simp only [tokIs, h]; exact hx

theorem tokIs_lt {toks : Toks} {i : Nat} {x : String} (h : tokIs toks i x = true) : i < toks.length :=
  let ⟨_, ht, _⟩ := tokIs_get h; get_lt ht

theorem Mv.refl {toks : Toks} {i : Nat} (h : i ≤ toks.length) : Mv toks i i := ⟨h, Or.inl (Nat.le_refl _)⟩

theorem Mv.trans {toks : Toks} {i j k : Nat} (h1 : Mv toks i j) (h2 : Mv toks j k) : Mv toks i k := by
  simp only [Mv] at *; omega

theorem Mv.step {toks : Toks} {i j : Nat} (h : i ≤ j) (hj : j ≤ toks.length) : Mv toks i j := ⟨hj, Or.inl h⟩

/-- After popping a symbol-like token at `i`, whatever follows (movement `Mv` from `i+1`) ends beyond `i`:
the only backward move is onto a LAST token that is not symbol-like. -/
theorem kw_strict {toks : Toks} {i j : Nat} {kw : String} (hk : tokIs toks i kw = true) (hsym : isSymbolTok kw = true)
    (hm : Mv toks (i + 1) j) : i < j := by
  obtain ⟨t, ht, hx⟩ := tokIs_get hk
  rcases hm.2 with h | ⟨h1, h2, h3⟩
  · omega
  · have hlast : toks[toks.length - 1]? = some t := by
      have : toks.length - 1 = i := by omega
      rw [this]; exact ht
    rw [lastSym_eq hlast, hx, hsym] at h3
    cases h3

def Took (toks : Toks) (x : String) (s s' : St) : Prop :=
  s'.idx ≤ toks.length ∧
    ((tokIs toks s.idx x = true ∧ s'.idx = s.idx + 1) ∨ (tokIs toks s.idx x = false ∧ s'.idx = s.idx))

theorem Took.le {toks : Toks} {x : String} {s s' : St} (h : Took toks x s s') :
    s.idx ≤ s'.idx ∧ s'.idx ≤ s.idx + 1 := by
  rcases h.2 with ⟨_, h⟩ | ⟨_, h⟩ <;> omega

theorem Took.eq {toks : Toks} {x : String} {s s' : St} (h : Took toks x s s') (hk : tokIs toks s.idx x = true) :
    s'.idx = s.idx + 1 := by
  rcases h.2 with ⟨_, h⟩ | ⟨hf, _⟩
  · exact h
  · rw [hk] at hf; cases hf

theorem ite_intro {c : Prop} [Decidable c] {a b : Prop} (ha : c → a) (hb : ¬c → b) : if c then a else b := by
  split
  · exact ha (by assumption)
  · exact hb (by assumption)

/-- `ite_intro` on a program's `if` itself, for where `wpsimp` has not been run (it would enter every branch first). -/
theorem wp_if {α} {c : Prop} [Decidable c] {a b : P α} {Q : α → St → Prop} {s : St}
    (ha : c → wp a Q s) (hb : ¬c → wp b Q s) : wp (if c then a else b) Q s :=
  (wp_ite ..).mpr (ite_intro ha hb)

/-- Run the program an equation of Lemmas/Parse.lean gives for this state (a dispatcher after its look-ahead). -/
theorem wp_eq {α} {m m' : P α} {s : St} {Q : α → St → Prop} (h : m s = m' s) (hq : wp m' Q s) : wp m Q s := by
  unfold wp at *; rw [h]; exact hq

/-- Unfolds the monad operations and the token-stream primitives under `wp`. -/
macro "wpsimp" : tactic =>
  `(tactic| simp only [wp_bind, wp_pure, wp_panic, wp_getIdx, wp_diag, wp_peek, wp_peekAt, wp_peekIs,
      wp_pop, wp_prev, wp_unpop, wp_ite, Nat.add_zero, Option.map_some, Option.map_none,
      Option.isNone_some, Option.isNone_none, Bool.not_false, Bool.not_true, Bool.true_and, Bool.false_and,
      Bool.and_true, Bool.and_false, Bool.false_eq_true, ↓reduceIte])

macro "tk" h:ident : tactic =>
  `(tactic| (try simp only [$h:ident, Bool.false_eq_true, ↓reduceIte, Option.map_some, Option.map_none]))

theorem wp_callee {α β} {m : P α} {f : α → P β} {Q : β → St → Prop} {s : St} {R : α → St → Prop}
    (hm : wp m R s) (hf : ∀ a s', R a s' → wp (f a) Q s') : wp (m >>= f) Q s := by
  rw [wp_bind]; exact wp_mono hm hf

section level0
variable (toks : Toks) (hne : toks ≠ [])
include hne

theorem len_pos : 0 < toks.length := List.length_pos_iff.mpr hne

theorem spec_requireAToken (s : St) (hs : s.idx ≤ toks.length) :
    wp (requireAToken toks) (fun t s' =>
      (∃ t0, toks[s.idx]? = some t0 ∧ t = ⟨t0, s.idx⟩ ∧ s'.idx = s.idx + 1) ∨
      (toks[s.idx]? = none ∧ s'.idx = s.idx ∧ 0 < s.idx ∧ t.i = s.idx - 1 ∧ toks[s.idx - 1]? = some t.tok)) s := by
  unfold requireAToken
  simp only [wp_bind, wp_pop]
  cases h : toks[s.idx]? with
  | some t0 => simp [wp_pure]
  | none =>
    have hl := get_none h
    have hp := len_pos toks hne
    have h0 : s.idx ≠ 0 := by omega
    have hlt : s.idx - 1 < toks.length := by omega
    have hpv : toks[s.idx - 1]? = some toks[s.idx - 1] := List.getElem?_eq_getElem hlt
    simp only [wp_prev, wp_diag, h0, ↓reduceIte, hpv, Option.map_some, wp_pure]
    simp; omega

theorem spec_checkRequiredToken (x : String) (s : St) (hs : s.idx ≤ toks.length) :
    wp (checkRequiredToken toks x) (fun r s' => r.1 = tokIs toks s.idx x ∧ Took toks x s s') s := by
  unfold checkRequiredToken
  simp only [wp_bind, wp_prev, wp_pop, tokIs, Took]
  cases h : toks[s.idx]? with
  | some t0 =>
    have := get_lt h
    by_cases hx : t0.text = x
    · simp [TokI.text, hx, wp_pure]; omega
    · simp [TokI.text, hx, wp_pure, wp_bind, wp_diag, wp_unpop]; omega
  | none =>
    have hl := get_none h
    have hp := len_pos toks hne
    have h0 : s.idx ≠ 0 := by omega
    have hlt : s.idx - 1 < toks.length := by omega
    have hpv : toks[s.idx - 1]? = some toks[s.idx - 1] := List.getElem?_eq_getElem hlt
    simp [wp_diag, h0, hpv, wp_pure, hs]

theorem spec_requireToken (x : String) (s : St) (hs : s.idx ≤ toks.length) :
    wp (requireToken toks x) (fun _ s' => Took toks x s s') s :=
  wp_callee (spec_checkRequiredToken toks hne x s hs) fun _ _ h => h.2

/-- `parse_symbol`: never panics; away from the end of the file it moves 0 or 1
forwards and a non-placeholder name means it consumed the token; at the end of the file it may move
back onto the last token, only if that token is not symbol-like. -/
theorem spec_parseSymbol (hl : LexLike toks) (pn : Bool) (s : St) (hs : s.idx ≤ toks.length) :
    wp (parseSymbol toks pn) (fun r s' => Mv toks s.idx s'.idx ∧
      (s.idx < toks.length → s.idx ≤ s'.idx ∧ s'.idx ≤ s.idx + 1 ∧
        (isPlaceholderName r.name = false → s'.idx = s.idx + 1))) s := by
  unfold parseSymbol
  rw [wp_bind, wp_prev, wp_bind]
  refine wp_mono (spec_requireAToken toks hne s hs) fun t s1 h1 => ?_
  -- where `require_a_token` left us: one token further, or at the end of the file with the last token in hand
  have pos : (s.idx < toks.length ∧ s1.idx = s.idx + 1) ∨
      (s.idx = toks.length ∧ s1.idx = s.idx ∧ 0 < s.idx ∧ toks[toks.length - 1]? = some t.tok ∧
        (if s.idx = 0 then none else (toks[s.idx - 1]?).map fun t => (⟨t, s.idx - 1⟩ : TokI)) = some t) := by
    rcases h1 with ⟨t0, ht0, rfl, hi⟩ | ⟨hnone, hi, hpos, hti, hprev⟩
    · exact Or.inl ⟨get_lt ht0, hi⟩
    · have hlen : s.idx = toks.length := Nat.le_antisymm hs (get_none hnone)
      refine Or.inr ⟨hlen, hi, hpos, hlen ▸ hprev, ?_⟩
      rw [if_neg (Nat.ne_of_gt hpos), hprev]
      cases t; cases hti; rfl
  -- stay at `s1`, or un-pop: allowed unless we are at the end of the file behind a symbol-like last token
  have stay : ∀ {n : String}, Mv toks s.idx s1.idx ∧ (s.idx < toks.length → s.idx ≤ s1.idx ∧ s1.idx ≤ s.idx + 1 ∧
      (isPlaceholderName n = false → s1.idx = s.idx + 1)) := by
    intro n; simp only [Mv]; omega
  have back : ∀ {n : String}, isPlaceholderName n = true →
      (s.idx = toks.length → lastSym toks = 0) → 0 < s1.idx ∧ Mv toks s.idx (s1.idx - 1) ∧
        (s.idx < toks.length → s.idx ≤ s1.idx - 1 ∧ s1.idx - 1 ≤ s.idx + 1 ∧
          (isPlaceholderName n = false → s1.idx - 1 = s.idx + 1)) := by
    intro n hn hz; simp only [Mv, hn]; simp; omega
  cases c1 : isSymbolTok t.text with
  | false =>
    simp only [Bool.not_false, ↓reduceIte, wp_bind, wp_diag, wp_unpop, wp_pure]
    refine back (by decide) fun hlen => ?_
    rcases pos with h | ⟨_, _, _, hlast, _⟩
    · omega
    · rw [lastSym_eq hlast]; simp only [TokI.text] at c1; rw [c1]; rfl
  | true =>
    cases c2 : keywords.contains t.text with
    | false => simp only [Bool.not_true, Bool.false_eq_true, ↓reduceIte, wp_pure]; exact stay
    | true =>
      simp only [Bool.not_true, Bool.false_eq_true, ↓reduceIte]
      -- a keyword: consumed if it stands on the line of the previous token, else un-popped
      refine wp_if (fun _ => ?_) fun hline => ?_
      · simp only [wp_bind, wp_diag, wp_pure]; exact stay
      · simp only [wp_bind, wp_diag, wp_unpop, wp_pure]
        refine back (by decide) fun hlen => ?_
        -- at the end of the file the previous token is `t` itself, which sits on one line
        rcases pos with h | ⟨_, _, _, hlast, hprev⟩
        · omega
        · exfalso
          have := hl.symLines t.tok (List.mem_of_getElem? hlast) c1
          rw [hprev] at hline
          exact hline (by simp [this])

end level0

theorem spec_dupDiags (xs seen : List String) (s : St) :
    wp (dupDiags xs seen) (fun _ s' => s'.idx = s.idx) s := by
  induction xs generalizing seen s with
  | nil => simp [dupDiags, wp_pure]
  | cons x xs ih =>
    unfold dupDiags
    split
    · exact ih seen s
    · split
      · rw [wp_bind, wp_diag]; exact ih seen _
      · exact ih _ s

theorem spec_diagN (n : Nat) (k : DiagKind) (s : St) : wp (diagN n k) (fun _ s' => s'.idx = s.idx) s := by
  induction n generalizing s with
  | zero => simp [diagN, wp_pure]
  | succ n ih => unfold diagN; rw [wp_bind, wp_diag]; exact ih _

theorem spec_closePos (toks : Toks) (term : String) (s : St) (hs : s.idx ≤ toks.length) :
    wp (closePos toks term) (fun _ s' => s.idx ≤ s'.idx ∧ s'.idx ≤ s.idx + 1 ∧ s'.idx ≤ toks.length) s := by
  unfold closePos
  rw [wp_bind, wp_peek]
  cases h : toks[s.idx]? with
  | none =>
    simp only [Option.map_none, wp_bind, wp_prev]
    split <;> simp [wp_pure, hs]
  | some t =>
    have := get_lt h
    simp only [Option.map_some]
    rw [wp_ite]
    split
    · simp [wp_bind, wp_pop, h, wp_pure]; omega
    · simp only [wp_bind, wp_prev]
      split <;> simp [wp_pure, hs]

theorem spec_skipToCloseBrace (toks : Toks) (s : St) (hs : s.idx ≤ toks.length) :
    wp (skipToCloseBrace toks) (fun _ s' => s.idx ≤ s'.idx ∧ s'.idx ≤ toks.length ∧
      (tokIs toks s.idx "}" = false → s.idx < toks.length → s.idx < s'.idx)) s := by
  simp only [wp, skipToCloseBrace]
  have h1 : ((toks.drop s.idx).takeWhile (fun t => t.text != "}")).length ≤ (toks.drop s.idx).length :=
    (List.takeWhile_sublist _).length_le
  have h2 : (toks.drop s.idx).length = toks.length - s.idx := by simp
  refine ⟨by omega, by omega, ?_⟩
  intro hne' hlt
  have hget : toks[s.idx]? = some toks[s.idx] := List.getElem?_eq_getElem hlt
  have hd : toks.drop s.idx = toks[s.idx] :: toks.drop (s.idx + 1) := by
    exact List.drop_eq_getElem_cons hlt
  simp only [tokIs, hget] at hne'
  have : (toks[s.idx].text != "}") = true := by simp [bne, hne']
  rw [hd, List.takeWhile_cons, if_pos this]
  simp

/-! Most functions are specified by a relation between the index they start at and the index they end at that
holds of every forward step and composes. For such a relation every instruction moves by it, so a whole
function does: its proof is its program, read instruction by instruction (the rules see the body of a function at
`fuel + 1` through its definitional unfolding; no equation of the function is called for). -/

structure Movement (toks : Toks) where
  R : Nat → Nat → Prop
  inside : ∀ {i j}, R i j → j ≤ toks.length
  forward : ∀ {i j}, i ≤ j → j ≤ toks.length → R i j
  trans : ∀ {i j k}, R i j → R j k → R i k

/-- Movement by `Mv`: for whatever may call `parse_symbol` at the end of the file. -/
def byMv (toks : Toks) : Movement toks := ⟨Mv toks, fun h => h.1, Mv.step, Mv.trans⟩

/-- Movement forward only (`Fw` on indices): the functions of the expression block, except `fieldsLoop` and `matchLoop`. -/
def byFw (toks : Toks) : Movement toks :=
  ⟨fun i j => i ≤ j ∧ j ≤ toks.length, fun h => h.2, fun h h' => ⟨h, h'⟩, fun a b => ⟨Nat.le_trans a.1 b.1, b.2⟩⟩

def Moves {toks : Toks} {α} (M : Movement toks) (m : P α) : Prop :=
  ∀ s, s.idx ≤ toks.length → wp m (fun _ s' => M.R s.idx s'.idx) s

section moves
variable {toks : Toks} {M : Movement toks} {α β : Type}

theorem Moves.pure {a : α} : Moves M (pure a : P α) := fun _ hs => M.forward (Nat.le_refl _) hs

theorem Moves.outOfFuel : Moves M (outOfFuel : P α) := fun _ _ => trivial

theorem Moves.bind {m : P α} {f : α → P β} (hm : Moves M m) (hf : ∀ a, Moves M (f a)) : Moves M (m >>= f) :=
  fun s hs => wp_callee (hm s hs) fun a s1 m1 => wp_mono (hf a s1 (M.inside m1)) fun _ _ m2 => M.trans m1 m2

/-- A branch that only the pinned tree (`pn = true`) takes. -/
theorem Moves.repaired {a b : P α} (hb : Moves M b) : Moves M (if false = true then a else b) := by
  rw [if_neg Bool.false_ne_true]; exact hb

theorem Moves.ite {c : Prop} [Decidable c] {a b : P α} (ha : Moves M a) (hb : Moves M b) :
    Moves M (if c then a else b) := by
  split
  · exact ha
  · exact hb

theorem Moves.of_fw {m : P α} (h : ∀ s, s.idx ≤ toks.length → wp m (fun _ s' => s.idx ≤ s'.idx ∧ s'.idx ≤ toks.length) s) :
    Moves M m :=
  fun s hs => wp_mono (h s hs) fun _ _ e => M.forward e.1 e.2

theorem Moves.stay {m : P α} (h : ∀ s, wp m (fun _ s' => s'.idx = s.idx) s) : Moves M m :=
  .of_fw fun s hs => wp_mono (h s) fun _ s' e => by rw [e]; exact ⟨Nat.le_refl _, hs⟩

theorem Moves.getIdx : Moves M getIdx := Moves.stay fun _ => rfl
theorem Moves.peek : Moves M (peek toks) := Moves.stay fun _ => rfl
theorem Moves.peekIs {x : String} : Moves M (peekIs toks x) := Moves.stay fun _ => rfl
theorem Moves.getDiags : Moves M getDiags := Moves.stay fun _ => rfl
theorem Moves.setDiags {d : List DiagKind} : Moves M (setDiags d) := Moves.stay fun _ => rfl
theorem Moves.diag {k : DiagKind} : Moves M (diag k) := Moves.stay fun _ => rfl
theorem Moves.dupDiags (xs seen : List String) : Moves M (dupDiags xs seen) := .stay (spec_dupDiags xs seen)
theorem Moves.diagN (n : Nat) (k : DiagKind) : Moves M (diagN n k) := .stay (spec_diagN n k)

theorem Moves.pop : Moves M (pop toks) := by
  refine .of_fw fun s hs => ?_
  rw [wp_pop]
  cases h : toks[s.idx]? with
  | none => exact ⟨Nat.le_refl _, hs⟩
  | some t => exact ⟨Nat.le_succ _, get_lt h⟩

theorem Moves.peekIs_ite {x : String} {a b : P α}
    (ha : ∀ s, s.idx ≤ toks.length → tokIs toks s.idx x = true → wp a (fun _ s' => M.R s.idx s'.idx) s)
    (hb : Moves M b) : Moves M (Parse.peekIs toks x >>= fun c => if c = true then a else b) := by
  intro s hs
  rw [wp_bind, wp_peekIs]
  exact wp_if (ha s hs) fun _ => hb s hs

theorem Moves.closePos {x : String} : Moves M (closePos toks x) :=
  .of_fw fun s hs => wp_mono (spec_closePos toks x s hs) fun _ _ h => ⟨h.1, h.2.2⟩

end moves

section level1
variable (toks : Toks) (hne : toks ≠ []) (hl : LexLike toks)
include hne

theorem Moves.requireToken {M : Movement toks} (x : String) : Moves M (requireToken toks x) :=
  .of_fw fun s hs => wp_mono (spec_requireToken toks hne x s hs) fun _ _ h => ⟨h.le.1, h.1⟩

theorem Moves.checkRequiredToken {M : Movement toks} (x : String) : Moves M (checkRequiredToken toks x) :=
  .of_fw fun s hs => wp_mono (spec_checkRequiredToken toks hne x s hs) fun _ _ h => ⟨h.2.le.1, h.2.1⟩

theorem Moves.requiredTokenOk {M : Movement toks} (x : String) : Moves M (requiredTokenOk toks x) :=
  .of_fw fun s hs => wp_callee (spec_checkRequiredToken toks hne x s hs) fun _ _ h => ⟨h.2.le.1, h.2.1⟩

include hl

theorem Moves.parseSymbol : Moves (byMv toks) (parseSymbol toks false) :=
  fun s hs => wp_mono (spec_parseSymbol toks hne hl false s hs) fun _ _ h => h.1

theorem hints_ok : ∀ fuel,
    Moves (byMv toks) (parseTypeHint toks false fuel) ∧ Moves (byMv toks) (parseTypeArguments toks false fuel) ∧
    (∀ acc, Moves (byMv toks) (typeArgsLoop toks false fuel acc)) ∧ Moves (byMv toks) (parseTupleTypeHint toks false fuel) ∧
    (∀ acc, Moves (byMv toks) (tupleHintLoop toks false fuel acc)) := by
  intro fuel
  have sym := Moves.parseSymbol toks hne hl
  have req := Moves.requireToken (M := byMv toks) toks hne
  induction fuel with
  | zero => exact ⟨.outOfFuel, .outOfFuel, fun _ => .outOfFuel, .outOfFuel, fun _ => .outOfFuel⟩
  | succ fuel ih =>
    obtain ⟨hint, args, argsL, tuple, tupleL⟩ := ih
    refine ⟨?_, ?_, fun acc => ?_, ?_, fun acc => ?_⟩
    · exact .bind .peekIs fun _ => .ite tuple <| .bind sym fun _ => .bind args fun _ =>
        .ite (.bind .diag fun _ => .pure) .pure
    · exact .bind .peekIs fun _ => .ite .pure <|
        .bind (req _) fun _ => .bind (argsL _) fun _ => .bind (req _) fun _ => .pure
    · refine .bind .peekIs fun _ => .ite .pure <| .bind .peek fun _ => .ite .pure <|
        .bind hint fun _ => .bind .peek fun t => ?_
      cases t with
      | none => exact .bind .diag fun _ => .pure
      | some t => exact .ite (.bind .pop fun _ => argsL _) (.ite .pure (.bind .diag fun _ => .pure))
    · exact .bind (req _) fun _ => .bind (tupleL _) fun _ => .bind (req _) fun _ => .pure
    · refine .bind .getIdx fun _ => .bind .peekIs fun _ => .ite .pure <|
        .bind hint fun _ => .bind .peek fun t => ?_
      cases t with
      | none => exact .bind .diag fun _ => .pure
      | some t =>
        exact .ite .pure <| .ite
          (.bind .pop fun _ => .bind .getIdx fun _ => .ite (tupleL _) (.repaired .pure))
          (.bind .diag fun _ => .bind .pop fun _ => .bind .getIdx fun _ => .ite (tupleL _) (.repaired .pure))

theorem hint_ok (fuel : Nat) : Moves (byMv toks) (parseTypeHint toks false fuel) := (hints_ok toks hne hl fuel).1

theorem typeParamsLoop_ok : ∀ fuel acc, Moves (byMv toks) (typeParamsLoop toks false fuel acc)
  | 0, _ => .outOfFuel
  | fuel + 1, acc => by
    refine .bind .peekIs fun _ => .ite .pure <| .bind .getIdx fun _ =>
      .bind (.parseSymbol toks hne hl) fun _ => .bind .peek fun t => ?_
    cases t with
    | none => exact .bind .diag fun _ => .pure
    | some t =>
      exact .ite (.bind .pop fun _ => .bind .getIdx fun _ => .ite .pure (typeParamsLoop_ok fuel _))
        (.ite .pure (.bind .diag fun _ => .pure))

theorem parseTypeParams_ok (fuel : Nat) : Moves (byMv toks) (parseTypeParams toks false fuel) :=
  .bind .peekIs fun _ => .ite .pure <| .bind (.requireToken toks hne _) fun _ =>
    .bind (typeParamsLoop_ok toks hne hl fuel _) fun _ => .bind (.requireToken toks hne _) fun _ => .pure

theorem parseColonAnd_ok (fuel : Nat) : Moves (byMv toks) (parseColonAnd toks false fuel) :=
  .bind (.requireToken toks hne _) fun _ => hint_ok toks hne hl fuel

theorem parseColonAndHintOpt_ok (fuel : Nat) : Moves (byMv toks) (parseColonAndHintOpt toks false fuel) := by
  refine .bind .peek fun t => ?_
  cases t with
  | none => exact .pure
  | some t =>
    exact .ite (.bind (parseColonAnd_ok toks hne hl fuel) fun _ => .pure)
      (.ite (.bind .diag fun _ => .bind (hint_ok toks hne hl fuel) fun _ => .pure) .pure)

theorem paramsLoop_ok : ∀ fuel acc, Moves (byMv toks) (paramsLoop toks false fuel acc)
  | 0, _ => .outOfFuel
  | fuel + 1, acc => by
    refine .bind .getIdx fun _ => .bind .peekIs fun _ => .ite .pure <|
      .bind (.bind (.parseSymbol toks hne hl) fun _ => .bind (parseColonAndHintOpt_ok toks hne hl fuel) fun _ => .pure)
        fun _ => .bind .peek fun t => ?_
    cases t with
    | none => exact .bind .diag fun _ => .pure
    | some t =>
      exact .ite (.bind .pop fun _ => .bind .getIdx fun _ => .ite (paramsLoop_ok fuel _) (.repaired .pure))
        (.ite .pure (.bind .diag fun _ => .pure))

theorem parseParameters_ok (fuel : Nat) : Moves (byMv toks) (parseParameters toks false fuel) := by
  refine .bind (.checkRequiredToken toks hne _) fun r => ?_
  obtain ⟨ok, _⟩ := r
  exact .ite .pure <| .bind (paramsLoop_ok toks hne hl fuel _) fun _ => .bind (.requireToken toks hne _) fun _ =>
    .bind (.dupDiags _ _) fun _ => .pure

theorem destLoop_ok : ∀ fuel acc, Moves (byMv toks) (destLoop toks false fuel acc)
  | 0, _ => .outOfFuel
  | fuel + 1, acc => by
    exact .bind .peekIs fun _ => .ite (.bind .pop fun _ => .pure) <| .bind .getIdx fun _ =>
      .bind (.parseSymbol toks hne hl) fun _ => .bind .peekIs fun _ => .ite .pure <|
      .bind .peekIs fun _ => .ite
        (.bind (.requireToken toks hne _) fun _ => .bind .getIdx fun _ => .ite (destLoop_ok fuel _) (.repaired .pure))
        (.bind .getIdx fun _ => .ite (destLoop_ok fuel _) (.repaired .pure))

theorem parseLetDestination_ok (fuel : Nat) : Moves (byMv toks) (parseLetDestination toks false fuel) :=
  .bind .peekIs fun _ => .ite
    (.bind .pop fun _ => .bind (destLoop_ok toks hne hl fuel _) fun _ => .bind (.dupDiags _ _) fun _ => .pure)
    (.bind (.parseSymbol toks hne hl) fun _ => .pure)

theorem parsePattern_ok (fuel : Nat) : Moves (byMv toks) (parsePattern toks false fuel) :=
  .bind (.parseSymbol toks hne hl) fun _ => .bind .peekIs fun _ => .ite
    (.bind (.requireToken toks hne _) fun _ => .bind (parseLetDestination_ok toks hne hl fuel) fun _ =>
      .bind (.requireToken toks hne _) fun _ => .pure)
    .pure

end level1

def Fw (toks : Toks) (s s' : St) : Prop := s.idx ≤ s'.idx ∧ s'.idx ≤ toks.length
def Sf (toks : Toks) (s s' : St) : Prop := s.idx < s'.idx ∧ s'.idx ≤ toks.length
def Ex (toks : Toks) (s : St) (r : PExpr) (s' : St) : Prop :=
  s.idx ≤ s'.idx ∧ s'.idx ≤ toks.length ∧ (r.e.isInvalidOrPlaceholder = false → s.idx < s'.idx)

/-- The specifications of the 28 functions of the expression block at one fuel level. The preconditions say
what the dispatcher has already seen (`assign`, `update`, `structLit`: the second token exists; the keyword forms:
the keyword is there). Loops that begin with `parse_symbol` (`fieldsL`, `matchL`) move by `Mv`, since it may step
back at the end of the file; the rest move forward. -/
structure Specs (toks : Toks) (fuel : Nat) : Prop where
  exprT : ∀ b s, s.idx ≤ toks.length → wp (parseExpressionT toks false b fuel) (fun r s' => Ex toks s r s') s
  trail : ∀ b e s, s.idx ≤ toks.length →
    wp (trailing toks false b fuel e) (fun r s' => Fw toks s s' ∧ (r = e ∨ s.idx < s'.idx)) s
  callArgs : ∀ s, s.idx ≤ toks.length → wp (parseCallArguments toks false fuel)
    (fun _ s' => Fw toks s s' ∧ (tokIs toks s.idx "(" = true → s.idx < s'.idx)) s
  comma : ∀ ol term acc s, s.idx ≤ toks.length → wp (commaSep toks false fuel ol term acc) (fun _ s' => Fw toks s s') s
  noTrail : ∀ s, s.idx ≤ toks.length → wp (parseNoTrailing toks false fuel) (fun r s' => Ex toks s r s') s
  simple : ∀ s, s.idx ≤ toks.length → wp (parseSimple toks false fuel) (fun r s' => Ex toks s r s') s
  tupleParen : ∀ s, s.idx ≤ toks.length → wp (parseTupleOrParen toks false fuel)
    (fun _ s' => Fw toks s s' ∧ (tokIs toks s.idx "(" = true → s.idx < s'.idx)) s
  tupleL : ∀ acc s, s.idx ≤ toks.length → wp (tupleLoop toks false fuel acc) (fun _ s' => Fw toks s s') s
  listLit : ∀ s, s.idx ≤ toks.length → wp (parseListLiteral toks false fuel)
    (fun _ s' => Fw toks s s' ∧ (tokIs toks s.idx "[" = true → s.idx < s'.idx)) s
  dictLit : ∀ s, s.idx ≤ toks.length → wp (parseDictLiteral toks false fuel)
    (fun _ s' => Fw toks s s' ∧ (tokIs toks s.idx "Dict" = true → s.idx < s'.idx)) s
  dictL : ∀ acc s, s.idx ≤ toks.length → wp (dictLoop toks false fuel acc) (fun _ s' => Fw toks s s') s
  lambda : ∀ s, s.idx ≤ toks.length → tokIs toks s.idx "fun" = true →
    wp (parseLambda toks false fuel) (fun _ s' => Sf toks s s') s
  assertE : ∀ s, s.idx ≤ toks.length → tokIs toks s.idx "assert" = true →
    wp (parseAssert toks false fuel) (fun _ s' => Sf toks s s') s
  ifE : ∀ s, s.idx ≤ toks.length → tokIs toks s.idx "if" = true →
    wp (parseIf toks false fuel) (fun _ s' => Sf toks s s') s
  whileE : ∀ s, s.idx ≤ toks.length → tokIs toks s.idx "while" = true →
    wp (parseWhile toks false fuel) (fun _ s' => Sf toks s s') s
  tryE : ∀ s, s.idx ≤ toks.length → tokIs toks s.idx "try" = true →
    wp (parseTry toks false fuel) (fun _ s' => Sf toks s s') s
  forE : ∀ s, s.idx ≤ toks.length → tokIs toks s.idx "for" = true →
    wp (parseForIn toks false fuel) (fun _ s' => Sf toks s s') s
  retE : ∀ s, s.idx ≤ toks.length → tokIs toks s.idx "return" = true →
    wp (parseReturn toks false fuel) (fun _ s' => Sf toks s s') s
  structLit : ∀ s, s.idx + 2 ≤ toks.length →
    wp (parseStructLiteral toks false fuel) (fun r s' => Ex toks s r s') s
  fieldsL : ∀ acc s, s.idx ≤ toks.length → wp (fieldsLoop toks false fuel acc)
    (fun _ s' => Mv toks s.idx s'.idx ∧ (s.idx + 2 ≤ toks.length → tokIs toks s.idx "}" = false → s.idx < s'.idx)) s
  matchE : ∀ s, s.idx ≤ toks.length → tokIs toks s.idx "match" = true →
    wp (parseMatch toks false fuel) (fun _ s' => Sf toks s s') s
  matchL : ∀ acc s, s.idx ≤ toks.length → wp (matchLoop toks false fuel acc) (fun _ s' => Mv toks s.idx s'.idx) s
  caseBlock : ∀ s, s.idx ≤ toks.length → wp (parseCaseBlock toks false fuel) (fun _ s' => Fw toks s s') s
  block : ∀ s, s.idx ≤ toks.length → wp (parseBlock toks false fuel) (fun _ s' => Fw toks s s') s
  blockL : ∀ acc s, s.idx ≤ toks.length → wp (blockLoop toks false fuel acc) (fun _ s' => Fw toks s s') s
  letE : ∀ s, s.idx ≤ toks.length → tokIs toks s.idx "let" = true →
    wp (parseLet toks false fuel) (fun _ s' => Sf toks s s') s
  assign : ∀ s, s.idx < toks.length → wp (parseAssign toks false fuel) (fun r s' => Ex toks s r s') s
  update : ∀ s, s.idx + 2 ≤ toks.length → wp (parseAssignUpdate toks false fuel) (fun _ s' => Sf toks s s') s

theorem specs_zero (toks : Toks) : Specs toks 0 where
  exprT _ _ _ := trivial
  trail _ _ _ _ := trivial
  callArgs _ _ := trivial
  comma _ _ _ _ _ := trivial
  noTrail _ _ := trivial
  simple _ _ := trivial
  tupleParen _ _ := trivial
  tupleL _ _ _ := trivial
  listLit _ _ := trivial
  dictLit _ _ := trivial
  dictL _ _ _ := trivial
  lambda _ _ _ := trivial
  assertE _ _ _ := trivial
  ifE _ _ _ := trivial
  whileE _ _ _ := trivial
  tryE _ _ _ := trivial
  forE _ _ _ := trivial
  retE _ _ _ := trivial
  structLit _ _ := trivial
  fieldsL _ _ _ := trivial
  matchE _ _ _ := trivial
  matchL _ _ _ := trivial
  caseBlock _ _ := trivial
  block _ _ := trivial
  blockL _ _ _ := trivial
  letE _ _ _ := trivial
  assign _ _ := trivial
  update _ _ := trivial

section movement
variable {toks : Toks} {s s' : St}

theorem Fw.refl (hs : s.idx ≤ toks.length) : Fw toks s s := ⟨Nat.le_refl _, hs⟩
theorem Ex.fw {r : PExpr} (h : Ex toks s r s') : Fw toks s s' := ⟨h.1, h.2.1⟩
theorem Sf.ex {r : PExpr} (h : Sf toks s s') : Ex toks s r s' := ⟨Nat.le_of_lt h.1, h.2, fun _ => h.1⟩
theorem Ex.invalid {p : Pos} (h : Fw toks s s') : Ex toks s ⟨.invalid, p⟩ s' := ⟨h.1, h.2, fun h => nomatch h⟩
theorem Sf.fw (h : Sf toks s s') : Fw toks s s' := ⟨Nat.le_of_lt h.1, h.2⟩

theorem wp_fw_of_le {α} {m : P α} {s2 : St} (h : s.idx ≤ s2.idx) (hm : wp m (fun _ s' => Fw toks s2 s') s2) :
    wp m (fun _ s' => Fw toks s s') s2 :=
  wp_mono hm fun _ _ m => ⟨Nat.le_trans h m.1, m.2⟩

end movement

theorem strict_after {toks : Toks} {α} {m : P α} (hm : Moves (byMv toks) m) {k : String} (hsym : isSymbolTok k = true)
    {s s1 : St} (hk : tokIs toks s.idx k = true) (h1 : s1.idx = s.idx + 1) : wp m (fun _ s' => Sf toks s s') s1 :=
  wp_mono (hm s1 (h1 ▸ tokIs_lt hk)) fun _ _ m' => ⟨kw_strict hk hsym (h1 ▸ m'), m'.1⟩

section literals
variable (toks : Toks) (hne : toks ≠ [])
include hne

theorem spec_parseInteger (s : St) (t0 : Tok) (h0 : toks[s.idx]? = some t0) :
    wp (parseInteger toks) (fun _ s' => s'.idx = s.idx + 1) s := by
  unfold parseInteger
  wpsimp
  refine wp_mono (spec_requireAToken toks hne s (Nat.le_of_lt (get_lt h0))) fun t s1 m1 => ?_
  have h1 : s1.idx = s.idx + 1 := by
    rcases m1 with ⟨_, _, _, h⟩ | ⟨hn, _⟩
    · exact h
    · rw [h0] at hn; cases hn
  refine ite_intro (fun _ => ?_) fun _ => h1
  split <;> exact h1

theorem spec_parseFloat (hl : LexLike toks) (s : St) (t0 : Tok) (h0 : toks[s.idx]? = some t0) :
    wp (parseFloat toks) (fun _ s' => s'.idx = s.idx + 1) s := by
  unfold parseFloat
  wpsimp
  refine wp_mono (spec_requireAToken toks hne s (Nat.le_of_lt (get_lt h0))) fun t s1 m1 => ?_
  rcases m1 with ⟨t0', ht0', rfl, h1⟩ | ⟨hn, _⟩
  · rw [h0] at ht0'; cases ht0'
    refine ite_intro (fun hf => ?_) fun _ => h1
    have := hl.floats t0 (List.mem_of_getElem? h0) hf
    simp only [TokI.text] at this ⊢
    simp only [this, ↓reduceIte]
    exact h1
  · rw [h0] at hn; cases hn

end literals

theorem Specs.moves_exprT {toks : Toks} {fuel : Nat} (ih : Specs toks fuel) {M : Movement toks} (b : Bool) :
    Moves M (parseExpressionT toks false b fuel) :=
  .of_fw fun s hs => wp_mono (ih.exprT b s hs) fun _ _ m => m.fw

theorem Specs.moves_block {toks : Toks} {fuel : Nat} (ih : Specs toks fuel) {M : Movement toks} :
    Moves M (parseBlock toks false fuel) :=
  .of_fw ih.block

section level2
-- every `step_*` takes the same arguments (`specs_all` applies them uniformly), used or not
set_option linter.unusedSectionVars false
variable (toks : Toks) (hne : toks ≠ []) (hl : LexLike toks) (fuel : Nat) (ih : Specs toks fuel)
include hne

theorem kw_then {α} {k : String} {rest : TokI → P α} (hsym : isSymbolTok k = true) (hrest : ∀ t, Moves (byMv toks) (rest t))
    {s : St} (hs : s.idx ≤ toks.length) (hk : tokIs toks s.idx k = true) :
    wp (requireToken toks k >>= rest) (fun _ s' => Sf toks s s') s :=
  wp_callee (spec_requireToken toks hne k s hs) fun t _ m1 => strict_after (hrest t) hsym hk (m1.eq hk)

theorem open_then {α} {x : String} {rest : TokI → P α} (hrest : ∀ t, Moves (byFw toks) (rest t))
    {s : St} (hs : s.idx ≤ toks.length) :
    wp (requireToken toks x >>= rest)
      (fun _ s' => Fw toks s s' ∧ (tokIs toks s.idx x = true → s.idx < s'.idx)) s :=
  wp_callee (spec_requireToken toks hne x s hs) fun t s1 m1 => wp_mono (hrest t s1 m1.1) fun _ _ m2 =>
    ⟨⟨Nat.le_trans m1.le.1 m2.1, m2.2⟩, fun hk => Nat.lt_of_lt_of_le (m1.eq hk ▸ Nat.lt_succ_self _) m2.1⟩

include hl ih

theorem step_blockL : ∀ acc s, s.idx ≤ toks.length →
    wp (blockLoop toks false (fuel + 1) acc) (fun _ s' => Fw toks s s') s := by
  intro acc s hs
  rw [blockLoop]
  wpsimp
  cases ht : toks[s.idx]? with
  | none => wpsimp; exact Fw.refl hs
  | some t =>
    wpsimp
    refine ite_intro (fun _ => Fw.refl hs) fun _ => ?_
    refine wp_mono (ih.exprT true s hs) fun e s1 m1 => ?_
    refine ite_intro (fun _ => m1.fw) fun hinv => ?_
    have hlt := m1.2.2 (by simpa using hinv)
    rw [if_pos hlt]
    exact wp_fw_of_le m1.1 (ih.blockL _ s1 m1.2.1)

theorem step_block : ∀ s, s.idx ≤ toks.length → wp (parseBlock toks false (fuel + 1))
    (fun _ s' => Fw toks s s' ∧ (tokIs toks s.idx "{" = true → s.idx < s'.idx)) s := by
  intro s hs
  exact open_then toks hne (fun _ => .ite .pure <| .bind (.of_fw (ih.blockL _)) fun _ =>
    .bind (.requireToken toks hne _) fun _ => .pure) hs

theorem step_comma : ∀ ol term acc s, s.idx ≤ toks.length →
    wp (commaSep toks false (fuel + 1) ol term acc) (fun _ s' => Fw toks s s') s := by
  intro ol term acc s hs
  rw [commaSep]
  wpsimp
  refine ite_intro (fun _ => Fw.refl hs) fun _ => ?_
  refine wp_mono (ih.exprT true s hs) fun e s1 m1 => ?_
  refine ite_intro (fun _ => m1.fw) fun hinv => ?_
  have hlt := m1.2.2 (by simpa using hinv)
  simp only [gt_iff_lt, hlt, decide_true, Bool.not_true, Bool.false_eq_true, ↓reduceIte]
  -- the loop continues from `s1` or from one token further
  have again : ∀ s2 : St, s1.idx ≤ s2.idx → s2.idx ≤ toks.length →
      wp (commaSep toks false fuel ol term (acc ++ [e.e])) (fun _ s' => Fw toks s s') s2 :=
    fun s2 h12 h2 => wp_fw_of_le (Nat.le_trans m1.1 h12) (ih.comma ol term _ s2 h2)
  cases ht1 : toks[s1.idx]? with
  | none => wpsimp; exact m1.fw
  | some t1 =>
    wpsimp
    refine ite_intro (fun _ => ?_) fun _ => ?_
    · simp only [ht1]
      exact again ⟨s1.idx + 1, s1.diags⟩ (Nat.le_succ _) (get_lt ht1)
    · refine ite_intro (fun _ => ?_) fun _ => m1.fw
      refine ite_intro (fun _ => again _ (Nat.le_refl _) m1.2.1) fun _ => ?_
      exact ite_intro (fun _ => again _ (Nat.le_refl _) m1.2.1) fun _ => m1.fw

theorem step_callArgs : ∀ s, s.idx ≤ toks.length → wp (parseCallArguments toks false (fuel + 1))
    (fun _ s' => Fw toks s s' ∧ (tokIs toks s.idx "(" = true → s.idx < s'.idx)) s := by
  intro s hs
  exact open_then toks hne (fun _ => .bind (.of_fw (ih.comma _ _ _)) fun _ => .bind .closePos fun _ => .pure) hs

theorem step_tupleL : ∀ acc s, s.idx ≤ toks.length →
    wp (tupleLoop toks false (fuel + 1) acc) (fun _ s' => Fw toks s s') s := by
  intro acc s hs
  rw [tupleLoop]
  wpsimp
  refine ite_intro (fun _ => Fw.refl hs) fun _ => ?_
  -- after the optional comma, from `s` or one token further
  have body : ∀ s0 : St, s.idx ≤ s0.idx → s0.idx ≤ toks.length →
      if tokIs toks s0.idx ")" = true then Fw toks s s0 else
        wp (parseExpressionT toks false true fuel) (fun a s' =>
          if a.e.isInvalidOrPlaceholder = true then Fw toks s s'
          else if s'.idx > s0.idx then wp (tupleLoop toks false fuel (acc ++ [a.e])) (fun _ s' => Fw toks s s') s'
            else False) s0 := by
    intro s0 h0 h0l
    refine ite_intro (fun _ => ⟨h0, h0l⟩) fun _ => ?_
    refine wp_mono (ih.exprT true s0 h0l) fun e s1 m1 => ?_
    refine ite_intro (fun _ => ⟨Nat.le_trans h0 m1.1, m1.2.1⟩) fun hinv => ?_
    have hlt := m1.2.2 (by simpa using hinv)
    rw [if_pos hlt]
    exact wp_fw_of_le (Nat.le_trans h0 m1.1) (ih.tupleL _ s1 m1.2.1)
  refine ite_intro (fun _ => ?_) fun _ => body s (Nat.le_refl _) hs
  cases ht : toks[s.idx]? with
  | none => exact body s (Nat.le_refl _) hs
  | some t => exact body ⟨s.idx + 1, s.diags⟩ (Nat.le_succ _) (get_lt ht)

theorem step_tupleParen : ∀ s, s.idx ≤ toks.length → wp (parseTupleOrParen toks false (fuel + 1))
    (fun _ s' => Fw toks s s' ∧ (tokIs toks s.idx "(" = true → s.idx < s'.idx)) s := by
  intro s hs
  exact open_then toks hne (fun _ => .bind .peekIs fun _ => .ite (.bind (.requireToken toks hne _) fun _ => .pure) <|
    .bind (ih.moves_exprT true) fun _ => .bind .peekIs fun _ => .ite
      (.bind (.of_fw (ih.tupleL _)) fun _ => .bind (.requireToken toks hne _) fun _ => .pure)
      (.bind (.requireToken toks hne _) fun _ => .pure)) hs

theorem step_listLit : ∀ s, s.idx ≤ toks.length → wp (parseListLiteral toks false (fuel + 1))
    (fun _ s' => Fw toks s s' ∧ (tokIs toks s.idx "[" = true → s.idx < s'.idx)) s := by
  intro s hs
  exact open_then toks hne (fun _ => .bind (.of_fw (ih.comma _ _ _)) fun _ => .bind .closePos fun _ => .pure) hs

theorem step_dictL : ∀ acc s, s.idx ≤ toks.length →
    wp (dictLoop toks false (fuel + 1) acc) (fun _ s' => Fw toks s s') s := by
  intro acc s hs
  rw [dictLoop]
  wpsimp
  refine ite_intro (fun _ => Fw.refl hs) fun _ => ?_
  refine wp_mono (ih.exprT true s hs) fun k s1 m1 => ?_
  refine ite_intro (fun _ => m1.fw) fun hinv => ?_
  have hlt := m1.2.2 (by simpa using hinv)
  refine wp_mono (spec_requireToken toks hne "=>" s1 m1.2.1) fun _ s2 m2 => ?_
  refine wp_mono (ih.exprT true s2 m2.1) fun v s3 m3 => ?_
  have h3 : s.idx < s3.idx := by have := m2.le; have := m3.1; omega
  simp only [gt_iff_lt, h3, decide_true, Bool.not_true, Bool.false_eq_true, ↓reduceIte]
  have again : ∀ s4 : St, s3.idx ≤ s4.idx → s4.idx ≤ toks.length →
      wp (dictLoop toks false fuel (acc ++ [KV.mk k.e v.e])) (fun _ s' => Fw toks s s') s4 :=
    fun s4 h34 h4 => wp_fw_of_le (by omega) (ih.dictL _ s4 h4)
  have here : Fw toks s s3 := ⟨Nat.le_of_lt h3, m3.2.1⟩
  cases ht3 : toks[s3.idx]? with
  | none => wpsimp; exact here
  | some t3 =>
    wpsimp
    refine ite_intro (fun _ => ?_) fun _ => ?_
    · simp only [ht3]
      exact again ⟨s3.idx + 1, s3.diags⟩ (Nat.le_succ _) (get_lt ht3)
    · exact ite_intro (fun _ => again _ (Nat.le_refl _) m3.2.1) fun _ => here

theorem step_dictLit : ∀ s, s.idx ≤ toks.length → wp (parseDictLiteral toks false (fuel + 1))
    (fun _ s' => Fw toks s s' ∧ (tokIs toks s.idx "Dict" = true → s.idx < s'.idx)) s := by
  intro s hs
  exact open_then toks hne (fun _ => .bind (.requireToken toks hne _) fun _ => .bind (.of_fw (ih.dictL _)) fun _ =>
    .bind (.requireToken toks hne _) fun _ => .pure) hs

theorem step_caseBlock : ∀ s, s.idx ≤ toks.length →
    wp (parseCaseBlock toks false (fuel + 1)) (fun _ s' => Fw toks s s') s := by
  show Moves (byFw toks) _
  exact .bind (.bind .peekIs fun _ => .ite ih.moves_block (.bind (ih.moves_exprT true) fun _ => .pure)) fun _ =>
    .bind .peekIs fun _ => .ite (.bind .pop fun _ => .pure) .pure

theorem step_assertE : ∀ s, s.idx ≤ toks.length → tokIs toks s.idx "assert" = true →
    wp (parseAssert toks false (fuel + 1)) (fun _ s' => Sf toks s s') s := by
  intro s hs hk
  refine kw_then toks hne (by decide) (fun _ => .bind (.requireToken toks hne _) fun _ => .peekIs_ite (fun s1 _ h1 => ?_)
    (.bind (ih.moves_exprT true) fun _ => .bind (.requireToken toks hne _) fun _ => .pure)) hs hk
  -- `)` is there, so `pop` returns it (the `unwrap` at parser.rs:512)
  obtain ⟨t, ht, _⟩ := tokIs_get h1
  rw [wp_bind, wp_pop]
  simp only [ht]
  exact Mv.step (Nat.le_succ _) (get_lt ht)

theorem step_whileE : ∀ s, s.idx ≤ toks.length → tokIs toks s.idx "while" = true →
    wp (parseWhile toks false (fuel + 1)) (fun _ s' => Sf toks s s') s := by
  intro s hs hk
  exact kw_then toks hne (by decide) (fun _ => .bind (ih.moves_exprT true) fun _ => .bind ih.moves_block fun _ => .pure)
    hs hk

theorem step_retE : ∀ s, s.idx ≤ toks.length → tokIs toks s.idx "return" = true →
    wp (parseReturn toks false (fuel + 1)) (fun _ s' => Sf toks s s') s := by
  intro s hs hk
  refine kw_then toks hne (by decide) (fun r => .bind .peek fun n => ?_) hs hk
  cases n with
  | none => exact .pure
  | some n => exact .ite (.bind (ih.moves_exprT true) fun _ => .pure) .pure

theorem step_ifE : ∀ s, s.idx ≤ toks.length → tokIs toks s.idx "if" = true →
    wp (parseIf toks false (fuel + 1)) (fun _ s' => Sf toks s s') s := by
  intro s hs hk
  exact kw_then toks hne (by decide) (fun _ => .bind (ih.moves_exprT true) fun _ => .bind ih.moves_block fun _ =>
    .bind .peekIs fun _ => .ite
      (.bind .pop fun _ => .peekIs_ite
        (fun s hs hk => by exact wp_callee (ih.ifE s hs hk) fun _ _ m => Mv.step (Nat.le_of_lt m.1) m.2)
        (.bind ih.moves_block fun _ => .pure))
      .pure) hs hk

theorem step_letE : ∀ s, s.idx ≤ toks.length → tokIs toks s.idx "let" = true →
    wp (parseLet toks false (fuel + 1)) (fun _ s' => Sf toks s s') s := by
  intro s hs hk
  exact kw_then toks hne (by decide) (fun _ => .bind (parseLetDestination_ok toks hne hl fuel) fun _ =>
    .bind (parseColonAndHintOpt_ok toks hne hl fuel) fun _ => .bind (.requireToken toks hne _) fun _ =>
    .bind (ih.moves_exprT true) fun _ => .pure) hs hk

theorem step_forE : ∀ s, s.idx ≤ toks.length → tokIs toks s.idx "for" = true →
    wp (parseForIn toks false (fuel + 1)) (fun _ s' => Sf toks s s') s := by
  intro s hs hk
  exact kw_then toks hne (by decide) (fun _ => .bind (parseLetDestination_ok toks hne hl fuel) fun _ =>
    .bind (.requireToken toks hne _) fun _ => .bind (ih.moves_exprT true) fun _ => .bind ih.moves_block fun _ => .pure)
    hs hk

theorem step_tryE : ∀ s, s.idx ≤ toks.length → tokIs toks s.idx "try" = true →
    wp (parseTry toks false (fuel + 1)) (fun _ s' => Sf toks s s') s := by
  intro s hs hk
  exact kw_then toks hne (by decide) (fun _ => .bind ih.moves_block fun _ => .bind (.requireToken toks hne _) fun _ =>
    .bind (.requireToken toks hne _) fun _ => .bind (.parseSymbol toks hne hl) fun _ =>
    .bind (.requireToken toks hne _) fun _ => .bind ih.moves_block fun _ => .pure) hs hk

theorem step_lambda : ∀ s, s.idx ≤ toks.length → tokIs toks s.idx "fun" = true →
    wp (parseLambda toks false (fuel + 1)) (fun _ s' => Sf toks s s') s := by
  intro s hs hk
  exact kw_then toks hne (by decide) (fun _ => .bind (parseTypeParams_ok toks hne hl fuel) fun _ =>
    .bind (parseParameters_ok toks hne hl fuel) fun _ => .bind (parseColonAndHintOpt_ok toks hne hl fuel) fun _ =>
    .bind ih.moves_block fun _ => .pure) hs hk

theorem step_matchL : ∀ acc s, s.idx ≤ toks.length →
    wp (matchLoop toks false (fuel + 1) acc) (fun _ s' => Mv toks s.idx s'.idx) s := by
  intro acc
  show Moves (byMv toks) _
  refine .bind .peek fun t => ?_
  cases t with
  | none => exact .bind .diag fun _ => .pure
  | some t =>
    exact .ite .pure <| .bind .getIdx fun _ => .bind (parsePattern_ok toks hne hl fuel) fun _ =>
      .bind (.requireToken toks hne _) fun _ => .bind (.of_fw ih.caseBlock) fun _ => .bind .getIdx fun _ =>
      .ite .pure (ih.matchL _)

theorem step_matchE : ∀ s, s.idx ≤ toks.length → tokIs toks s.idx "match" = true →
    wp (parseMatch toks false (fuel + 1)) (fun _ s' => Sf toks s s') s := by
  intro s hs hk
  exact kw_then toks hne (by decide) (fun _ => .bind (ih.moves_exprT true) fun _ =>
    .bind (.requireToken toks hne _) fun _ => .ite .pure <| .bind (ih.matchL _) fun _ =>
    .bind (.requireToken toks hne _) fun _ => .pure) hs hk

theorem step_assign : ∀ s, s.idx < toks.length →
    wp (parseAssign toks false (fuel + 1)) (fun r s' => Ex toks s r s') s := by
  intro s hs
  rw [parseAssign]
  wpsimp
  refine wp_mono (spec_parseSymbol toks hne hl false s (Nat.le_of_lt hs)) fun v s1 m1 => ?_
  have b1 := m1.2 hs
  refine ite_intro (fun _ => Ex.invalid ⟨b1.1, m1.1.1⟩) fun hp => ?_
  refine wp_mono (spec_requireToken toks hne "=" s1 m1.1.1) fun _ s2 m2 => ?_
  have e2 := m2.eq (by simpa using hp)
  refine wp_mono (ih.exprT true s2 m2.1) fun e s3 m3 => ?_
  have := m3.1
  exact ⟨by omega, m3.2.1, fun _ => by omega⟩

theorem step_update : ∀ s, s.idx + 2 ≤ toks.length →
    wp (parseAssignUpdate toks false (fuel + 1)) (fun _ s' => Sf toks s s') s := by
  intro s hs
  rw [parseAssignUpdate]
  wpsimp
  refine wp_mono (spec_parseSymbol toks hne hl false s (by omega)) fun v s1 m1 => ?_
  have b1 := m1.2 (by omega)
  refine wp_mono (spec_requireAToken toks hne s1 m1.1.1) fun t s2 m2 => ?_
  have h2 : s2.idx = s1.idx + 1 := by
    rcases m2 with ⟨t0, _, _, h⟩ | ⟨hn, _, _, _, _⟩
    · exact h
    · have := get_none hn; omega
  -- the operator only decides about a diagnostic
  have rhs : ∀ s3 : St, s3.idx = s2.idx →
      wp (parseExpressionT toks false true fuel) (fun _ s' => Sf toks s s') s3 := fun s3 h3 =>
    wp_mono (ih.exprT true s3 (by omega)) fun e s4 m4 => ⟨by have := m4.1; omega, m4.2.1⟩
  refine ite_intro (fun _ => rhs s2 rfl) fun _ => ?_
  exact ite_intro (fun _ => rhs s2 rfl) fun _ => rhs _ rfl

theorem step_noTrail : ∀ s, s.idx ≤ toks.length →
    wp (parseNoTrailing toks false (fuel + 1)) (fun r s' => Ex toks s r s') s := by
  intro s hs
  cases h0 : toks[s.idx]? with
  | none => exact wp_eq (parseNoTrailing_none toks false fuel s.idx s.diags h0) (ih.simple s hs)
  | some t0 =>
    have hlt := get_lt h0
    have kw : ∀ {k : String}, (t0.text == k) = true → tokIs toks s.idx k = true := tokIs_of_get h0
    have jump : ∀ (k : String) (e : Expr), (t0.text == k) = true →
        wp (requireToken toks k >>= fun t => pure ⟨e, t.pos⟩) (fun r s' => Ex toks s r s') s := fun k e hk =>
      wp_callee (spec_requireToken toks hne k s hs) fun a s1 m1 =>
        Sf.ex ⟨by have := m1.eq (kw hk); omega, m1.1⟩
    refine wp_eq (parseNoTrailing_peek toks false fuel s.idx s.diags t0 h0 _ rfl) ?_
    refine wp_if (fun _ => ih.assign s hlt) fun _ => wp_if (fun c => ?_) fun _ => ?_
    · -- the second token is `+=` / `-=`, so it exists
      have h2 : s.idx + 2 ≤ toks.length := by
        cases h1 : toks[s.idx + 1]? with
        | none => simp [h1] at c
        | some t1 => have := get_lt h1; omega
      exact wp_mono (ih.update s h2) fun _ _ m => m.ex
    unfold stmtDispatch
    refine wp_if (fun c => wp_mono (ih.letE s hs (kw c)) fun _ _ m => m.ex) fun _ => ?_
    refine wp_if (fun c => wp_mono (ih.retE s hs (kw c)) fun _ _ m => m.ex) fun _ => ?_
    refine wp_if (fun c => wp_mono (ih.whileE s hs (kw c)) fun _ _ m => m.ex) fun _ => ?_
    refine wp_if (fun c => wp_mono (ih.forE s hs (kw c)) fun _ _ m => m.ex) fun _ => ?_
    refine wp_if (fun c => jump _ _ c) fun _ => ?_
    refine wp_if (fun c => jump _ _ c) fun _ => ?_
    refine wp_if (fun c => wp_mono (ih.ifE s hs (kw c)) fun _ _ m => m.ex) fun _ => ?_
    refine wp_if (fun c => wp_mono (ih.matchE s hs (kw c)) fun _ _ m => m.ex) fun _ => ?_
    refine wp_if (fun c => wp_mono (ih.tryE s hs (kw c)) fun _ _ m => m.ex) fun _ => ?_
    exact ih.simple s hs

theorem sym_ne_rbrace {x : String} (h : isSymbolTok x = true) : (x == "}") = false := by
  cases hx : (x == "}") with
  | false => rfl
  | true =>
    have : x = "}" := by simpa using hx
    subst this
    revert h; decide

theorem step_simple : ∀ s, s.idx ≤ toks.length →
    wp (parseSimple toks false (fuel + 1)) (fun r s' => Ex toks s r s') s := by
  intro s hs
  have fs : ∀ {r : PExpr} {s' : St} {p : Prop}, p → (Fw toks s s' ∧ (p → s.idx < s'.idx)) → Ex toks s r s' :=
    fun hp h => ⟨h.1.1, h.1.2, fun _ => h.2 hp⟩
  cases h0 : toks[s.idx]? with
  | none =>
    exact wp_eq (parseSimple_none toks false fuel s.idx s.diags h0) (Ex.invalid (p := Pos.todo) (Fw.refl hs))
  | some t0 =>
    have hlt := get_lt h0
    have kw : ∀ {k : String}, (t0.text == k) = true → tokIs toks s.idx k = true := tokIs_of_get h0
    have one : ∀ {r : PExpr} {s' : St}, s'.idx = s.idx + 1 → Ex toks s r s' :=
      fun e => ⟨by omega, by omega, fun _ => by omega⟩
    refine wp_eq (parseSimple_peek toks false fuel s.idx s.diags t0 h0) ?_
    refine wp_if (fun c => wp_mono (ih.tupleParen s hs) fun _ _ m => fs (kw c) m) fun _ => ?_
    refine wp_if (fun c => wp_mono (ih.listLit s hs) fun _ _ m => fs (kw c) m) fun _ => ?_
    refine wp_if (fun c => wp_mono (ih.dictLit s hs) fun _ _ m => fs (kw c) m) fun _ => ?_
    refine wp_if (fun c => wp_mono (ih.lambda s hs (kw (Bool.and_eq_true _ _ ▸ c).1)) fun _ _ m => m.ex) fun _ => ?_
    refine wp_if (fun c => wp_mono (ih.assertE s hs (kw c)) fun _ _ m => m.ex) fun _ => ?_
    refine wp_if (fun hsym => wp_if (fun c => ?_) fun _ => ?_) fun _ => ?_
    · -- struct literal: the next token exists
      have h2 : s.idx + 2 ≤ toks.length := by
        cases h1 : toks[s.idx + 1]? with
        | none => simp [h1] at c
        | some t1 => have := get_lt h1; omega
      exact ih.structLit s h2
    · -- a variable
      refine wp_callee (spec_parseSymbol toks hne hl false s hs) fun v s1 m1 => ?_
      have b := m1.2 hlt
      refine ⟨b.1, m1.1.1, fun hph => ?_⟩
      have := b.2.2 (by simpa [Expr.isInvalidOrPlaceholder, isPlaceholderName] using hph)
      omega
    refine wp_if (fun _ => ?_) fun _ => wp_if (fun _ => ?_) fun _ => wp_if (fun _ => ?_) fun _ => ?_
    · -- string literal
      rw [wp_bind, wp_pop]
      simp only [h0]
      exact wp_callee (spec_diagN _ _ _) fun _ s1 e1 => one e1
    · exact wp_mono (spec_parseFloat toks hne hl s t0 h0) fun _ _ m1 => one m1
    · exact wp_mono (spec_parseInteger toks hne s t0 h0) fun _ _ m1 => one m1
    · exact Ex.invalid (Fw.refl hs)

theorem step_exprT : ∀ b s, s.idx ≤ toks.length →
    wp (parseExpressionT toks false b (fuel + 1)) (fun r s' => Ex toks s r s') s := by
  intro b s hs
  rw [parseExpressionT]
  wpsimp
  refine wp_mono (ih.noTrail s hs) fun e s1 m1 => ?_
  refine wp_mono (ih.trail b e s1 m1.2.1) fun r s2 m2 => ?_
  refine ⟨by have := m2.1.1; have := m1.1; omega, m2.1.2, fun hr => ?_⟩
  rcases m2.2 with h | h
  · have := m1.2.2 (h ▸ hr); have := m2.1.1; omega
  · have := m1.1; omega

theorem step_trail : ∀ b e s, s.idx ≤ toks.length →
    wp (trailing toks false b (fuel + 1) e) (fun r s' => Fw toks s s' ∧ (r = e ∨ s.idx < s'.idx)) s := by
  intro b e s hs
  cases h0 : toks[s.idx]? with
  | none => exact wp_eq (trailing_none toks b fuel s.idx s.diags e h0) ⟨Fw.refl hs, Or.inl rfl⟩
  | some t0 =>
    have hlt := get_lt h0
    -- continuing the loop from a state strictly beyond `s` (the assertion at parser.rs:1361)
    have cont : ∀ (e' : PExpr) (s2 : St), s.idx < s2.idx → s2.idx ≤ toks.length →
        wp (getIdx >>= fun i => if i > s.idx then trailing toks false b fuel e' else Parse.panic "parser.rs:1361")
          (fun r s' => Fw toks s s' ∧ (r = e ∨ s.idx < s'.idx)) s2 := by
      intro e' s2 h2 h2l
      rw [wp_bind, wp_getIdx, if_pos h2]
      refine wp_mono (ih.trail b e' s2 h2l) fun r s3 m3 => ?_
      have := m3.1.1
      exact ⟨⟨by omega, m3.1.2⟩, Or.inr (by omega)⟩
    -- after `.` / `::`: the next token touches, so it exists, and the member name moves forward from it
    have member : ∀ {f : TokI → Bool}, (match (toks[s.idx + 1]?).map (fun t => (⟨t, s.idx + 1⟩ : TokI)) with
        | some n => f n | none => false) = true →
        wp (parseSymbol toks false) (fun _ s2 => s.idx < s2.idx ∧ s2.idx ≤ toks.length) ⟨s.idx + 1, s.diags⟩ := by
      intro f c
      cases h1 : toks[s.idx + 1]? with
      | none => simp [h1] at c
      | some t1 =>
        exact wp_mono (spec_parseSymbol toks hne hl false ⟨s.idx + 1, s.diags⟩ hlt) fun _ s2 m2 =>
          ⟨Nat.lt_of_lt_of_le (Nat.lt_succ_self _) (m2.2 (get_lt h1)).1, m2.1.1⟩
    refine wp_eq (trailing_peek toks b fuel s.idx s.diags e t0 h0) ?_
    refine wp_if (fun c => ?_) fun _ => wp_if (fun _ => ?_) fun _ => wp_if (fun _ => ?_) fun _ => wp_if (fun _ => ?_) fun _ =>
      ⟨Fw.refl hs, Or.inl rfl⟩
    · -- call
      have hp : tokIs toks s.idx "(" = true := tokIs_of_get h0 (by simp only [Bool.and_eq_true] at c; exact c.1.1)
      exact wp_callee (ih.callArgs s hs) fun r s1 m1 => cont _ s1 (m1.2 hp) m1.1.2
    · -- `.`
      rw [wp_bind, wp_pop]; simp only [h0]; rw [wp_bind, wp_peek]
      refine wp_if (fun c => ?_) fun _ => ?_
      · refine wp_callee (member c) fun v s2 m2 => ?_
        rw [wp_bind, wp_peekIs]
        refine wp_if (fun _ => ?_) fun _ => cont _ s2 m2.1 m2.2
        exact wp_callee (ih.callArgs s2 m2.2) fun r s3 m3 => cont _ s3 (Nat.lt_of_lt_of_le m2.1 m3.1.1) m3.1.2
      · rw [wp_bind, wp_diag]; exact cont _ _ (Nat.lt_succ_self _) hlt
    · -- `::`
      rw [wp_bind, wp_pop]; simp only [h0]; rw [wp_bind, wp_peek]
      refine wp_if (fun c => ?_) fun _ => ?_
      · exact wp_callee (member c) fun v s2 m2 => cont _ s2 m2.1 m2.2
      · rw [wp_bind, wp_diag]; exact cont _ _ (Nat.lt_succ_self _) hlt
    · -- infix operator
      rw [wp_bind, wp_pop]; simp only [h0]
      exact wp_callee (ih.exprT false ⟨s.idx + 1, s.diags⟩ hlt) fun rhs s2 m2 =>
        cont _ s2 (Nat.lt_of_lt_of_le (Nat.lt_succ_self _) m2.1) m2.2.1

theorem step_fieldsL : ∀ acc s, s.idx ≤ toks.length → wp (fieldsLoop toks false (fuel + 1) acc)
    (fun _ s' => Mv toks s.idx s'.idx ∧ (s.idx + 2 ≤ toks.length → tokIs toks s.idx "}" = false → s.idx < s'.idx)) s := by
  intro acc s hs
  rw [fieldsLoop]
  wpsimp
  refine ite_intro (fun c => ⟨Mv.refl hs, fun _ h => by rw [c] at h; cases h⟩) fun hnb => ?_
  have hnb' : tokIs toks s.idx "}" = false := by simpa using hnb
  refine wp_mono (spec_parseSymbol toks hne hl false s hs) fun sym s1 m1 => ?_
  -- after the optional colon and the expression
  let Qf : List Field → St → Prop := fun _ s' =>
    Mv toks s.idx s'.idx ∧ (s.idx + 2 ≤ toks.length → tokIs toks s.idx "}" = false → s.idx < s'.idx)
  have afterColon : ∀ s2 : St, s1.idx ≤ s2.idx → s2.idx ≤ toks.length →
      wp (parseExpressionT toks false true fuel) (fun ex s' =>
        if (s'.idx == s.idx) = true then wp (skipToCloseBrace toks) (fun _ s' => Qf acc s') s'
        else
          wp (match Option.map (fun t => ({ tok := t, i := s'.idx } : TokI)) toks[s'.idx]? with
            | none => diag DiagKind.incomplete >>= fun _ => pure (acc ++ [Field.mk sym.name ex.e])
            | some t =>
              if (t.text == ",") = true then
                pop toks >>= fun _ => getIdx >>= fun i =>
                  if (i == s.idx) = true then pure (acc ++ [Field.mk sym.name ex.e])
                  else fieldsLoop toks false fuel (acc ++ [Field.mk sym.name ex.e])
              else
                getIdx >>= fun i =>
                  if (i == s.idx) = true then pure (acc ++ [Field.mk sym.name ex.e])
                  else fieldsLoop toks false fuel (acc ++ [Field.mk sym.name ex.e]))
            Qf s') s2 := by
    intro s2 h12 h2
    refine wp_mono (ih.exprT true s2 h2) fun e s3 m3 => ?_
    have m13 : Mv toks s.idx s3.idx := Mv.trans m1.1 (Mv.step (by have := m3.1; omega) m3.2.1)
    refine ite_intro (fun c => ?_) fun c => ?_
    · have e3 : s3.idx = s.idx := by simpa using c
      refine wp_mono (spec_skipToCloseBrace toks s3 m3.2.1) fun _ s4 m4 => ?_
      refine ⟨Mv.trans m13 (Mv.step m4.1 m4.2.1), fun h2l hb => ?_⟩
      have := m4.2.2 (by rw [e3]; exact hb) (by omega)
      omega
    · have n3 : s3.idx ≠ s.idx := by simpa using c
      have gt3 : s.idx + 2 ≤ toks.length → s.idx < s3.idx := by
        intro h2l
        have := (m1.2 (by omega)).1
        have := m3.1
        omega
      have fin : ∀ s4 : St, s3.idx ≤ s4.idx → s4.idx ≤ toks.length →
          (if (s4.idx == s.idx) = true then Qf (acc ++ [Field.mk sym.name e.e]) s4
           else wp (fieldsLoop toks false fuel (acc ++ [Field.mk sym.name e.e])) Qf s4) := by
        intro s4 h34 h4
        have m14 : Mv toks s.idx s4.idx := Mv.trans m13 (Mv.step h34 h4)
        refine ite_intro (fun _ => ⟨m14, fun h2l _ => by have := gt3 h2l; omega⟩) fun _ => ?_
        refine wp_mono (ih.fieldsL _ s4 h4) fun _ s5 m5 => ?_
        refine ⟨Mv.trans m14 m5.1, fun h2l _ => ?_⟩
        have := gt3 h2l
        have := m5.1
        simp only [Mv] at this
        omega
      cases ht3 : toks[s3.idx]? with
      | none =>
        simp only [Option.map_none, wp_bind, wp_diag, wp_pure]
        exact ⟨m13, fun h2l _ => gt3 h2l⟩
      | some t3 =>
        simp only [Option.map_some, wp_ite, wp_bind, wp_pop, ht3, wp_getIdx, wp_pure]
        exact ite_intro (fun _ => fin ⟨s3.idx + 1, s3.diags⟩ (Nat.le_succ _) (get_lt ht3))
          fun _ => fin s3 (Nat.le_refl _) m3.2.1
  refine ite_intro (fun _ => ?_) fun _ => ?_
  · -- placeholder name: optional colon
    refine ite_intro (fun c => ?_) fun _ => ?_
    · obtain ⟨t, ht, _⟩ := tokIs_get c
      simp only [ht]
      exact afterColon ⟨s1.idx + 1, s1.diags⟩ (Nat.le_succ _) (get_lt ht)
    · exact afterColon s1 (Nat.le_refl _) m1.1.1
  · exact wp_mono (spec_requireToken toks hne ":" s1 m1.1.1) fun _ s2 m2 => afterColon s2 m2.le.1 m2.1

theorem step_structLit : ∀ s, s.idx + 2 ≤ toks.length →
    wp (parseStructLiteral toks false (fuel + 1)) (fun r s' => Ex toks s r s') s := by
  intro s hs
  rw [parseStructLiteral]
  wpsimp
  refine wp_mono (spec_parseSymbol toks hne hl false s (by omega)) fun name s1 m1 => ?_
  have b1 := m1.2 (by omega)
  refine ite_intro (fun _ => Ex.invalid ⟨b1.1, m1.1.1⟩) fun c => ?_
  have n1 : s1.idx ≠ s.idx := by simpa using c
  refine wp_mono (spec_requireToken toks hne "{" s1 m1.1.1) fun _ s2 m2 => ?_
  have b2 := m2.le
  refine wp_mono (ih.fieldsL [] s2 m2.1) fun fs s3 m3 => ?_
  have h3 : s.idx < s3.idx := by
    have := m3.1
    simp only [Mv] at this
    omega
  refine wp_mono (spec_requireToken toks hne "}" s3 m3.1.1) fun _ s4 m4 => ?_
  have b4 := m4.le
  exact ⟨by omega, m4.1, fun _ => by omega⟩

end level2

section final
variable (toks : Toks) (hne : toks ≠ []) (hl : LexLike toks)
include hne hl

theorem specs_all : ∀ fuel, Specs toks fuel := by
  intro fuel
  induction fuel with
  | zero => exact specs_zero toks
  | succ fuel ih =>
    exact {
      exprT := step_exprT toks hne hl fuel ih
      trail := step_trail toks hne hl fuel ih
      callArgs := step_callArgs toks hne hl fuel ih
      comma := step_comma toks hne hl fuel ih
      noTrail := step_noTrail toks hne hl fuel ih
      simple := step_simple toks hne hl fuel ih
      tupleParen := step_tupleParen toks hne hl fuel ih
      tupleL := step_tupleL toks hne hl fuel ih
      listLit := step_listLit toks hne hl fuel ih
      dictLit := step_dictLit toks hne hl fuel ih
      dictL := step_dictL toks hne hl fuel ih
      lambda := step_lambda toks hne hl fuel ih
      assertE := step_assertE toks hne hl fuel ih
      ifE := step_ifE toks hne hl fuel ih
      whileE := step_whileE toks hne hl fuel ih
      tryE := step_tryE toks hne hl fuel ih
      forE := step_forE toks hne hl fuel ih
      retE := step_retE toks hne hl fuel ih
      structLit := step_structLit toks hne hl fuel ih
      fieldsL := step_fieldsL toks hne hl fuel ih
      matchE := step_matchE toks hne hl fuel ih
      matchL := step_matchL toks hne hl fuel ih
      caseBlock := step_caseBlock toks hne hl fuel ih
      block := fun s hs => wp_mono (step_block toks hne hl fuel ih s hs) fun _ _ m => m.1
      blockL := step_blockL toks hne hl fuel ih
      letE := step_letE toks hne hl fuel ih
      assign := step_assign toks hne hl fuel ih
      update := step_update toks hne hl fuel ih }

def isPanic {α} : Res α → Bool
  | .panic _ => true
  | _ => false

omit hne hl in
theorem not_panic_of_wp {α} {m : P α} {Q : α → St → Prop} {s : St} (h : wp m Q s) : isPanic (m s) = false := by
  unfold wp at h
  cases hm : m s with
  | ok a s' => rfl
  | panic p => rw [hm] at h; exact h.elim
  | outOfFuel => rfl

/-- C01, parser half, below the definitions level: from every state inside the token list and for both settings of the
infix flag, `parse_expression` does not panic: none of the progress assertions it can reach (parser.rs:328, 404,
1082, 1361, 2334; the one at 995 is unreachable, see `Parse.matchLoop`), `expect`s, `unwrap`s or `unpop` fire. -/
theorem parse_no_panic_partial (fuel : Nat) (b : Bool) (s : St) (hs : s.idx ≤ toks.length) :
    isPanic (parseExpressionT toks false b fuel s) = false :=
  not_panic_of_wp ((specs_all toks hne hl fuel).exprT b s hs)

theorem parseBlock_no_panic (fuel : Nat) (s : St) (hs : s.idx ≤ toks.length) :
    isPanic (parseBlock toks false fuel s) = false :=
  not_panic_of_wp ((specs_all toks hne hl fuel).block s hs)

/-- The progress fact the code's assertions gesture at, for `parse_expression`. -/
theorem parseExpression_progress (fuel : Nat) (s : St) (hs : s.idx ≤ toks.length) (r : PExpr) (s' : St)
    (h : parseExpression toks false fuel s = .ok r s') :
    s.idx ≤ s'.idx ∧ s'.idx ≤ toks.length ∧ (r.e.isInvalidOrPlaceholder = false → s.idx < s'.idx) := by
  have := (specs_all toks hne hl fuel).exprT true s hs
  unfold wp at this
  rw [show parseExpressionT toks false true fuel s = parseExpression toks false fuel s from rfl, h] at this
  exact this

end final

section level3
variable (toks : Toks) (hne : toks ≠ []) (hl : LexLike toks)
include hne hl

theorem Moves.parseBlock (fuel : Nat) : Moves (byMv toks) (parseBlock toks false fuel) :=
  (specs_all toks hne hl fuel).moves_block

theorem block_strict (fuel : Nat) (s : St) (hs : s.idx ≤ toks.length) (hk : tokIs toks s.idx "{" = true) :
    wp (parseBlock toks false fuel) (fun _ s' => Sf toks s s') s := by
  cases fuel with
  | zero => trivial
  | succ fuel =>
    refine wp_mono (step_block toks hne hl fuel (specs_all toks hne hl fuel) s hs) fun _ _ m => ?_
    exact ⟨m.2 hk, m.1.2⟩

omit hl in
/-- The common shape of `parse_function/method/enum/struct`. -/
theorem def_strict {α} (kw : String) (hsym : isSymbolTok kw = true) {rest : Bool → P α}
    (hrest : ∀ pub, Moves (byMv toks) (rest pub)) (s : St) (hs : s.idx ≤ toks.length)
    (hk : tokIs toks s.idx "public" = true ∨ tokIs toks s.idx kw = true) :
    wp (popIfPublic toks >>= fun pub => requireToken toks kw >>= fun _ => rest pub) (fun _ s' => Sf toks s s') s := by
  unfold popIfPublic
  wpsimp
  refine ite_intro (fun c => ?_) fun c => ?_
  · obtain ⟨t, ht, _⟩ := tokIs_get c
    simp only [ht]
    exact (wp_bind ..).mp <| strict_after (s1 := ⟨s.idx + 1, s.diags⟩)
      (.bind (.requireToken toks hne kw) fun _ => hrest true) (by decide) c rfl
  · have hk' := hk.resolve_left c
    refine wp_mono (spec_requireToken toks hne kw s hs) fun _ s1 m1 => ?_
    exact strict_after (hrest _) hsym hk' (m1.eq hk')

theorem parseFunction_ok (fuel : Nat) (s : St) (hs : s.idx ≤ toks.length)
    (hk : tokIs toks s.idx "public" = true ∨ tokIs toks s.idx "fun" = true) :
    wp (parseFunction toks false fuel) (fun _ s' => Sf toks s s') s :=
  def_strict toks hne "fun" (by decide) (fun _ => .bind (.parseSymbol toks hne hl) fun _ => .ite .pure <|
    .bind (parseTypeParams_ok toks hne hl fuel) fun _ => .bind (parseParameters_ok toks hne hl fuel) fun _ =>
    .bind (parseColonAndHintOpt_ok toks hne hl fuel) fun _ => .bind (.parseBlock toks hne hl fuel) fun _ => .pure) s hs hk

theorem parseMethod_ok (fuel : Nat) (s : St) (hs : s.idx ≤ toks.length)
    (hk : tokIs toks s.idx "public" = true ∨ tokIs toks s.idx "method" = true) :
    wp (parseMethod toks false fuel) (fun _ s' => Sf toks s s') s := by
  refine def_strict toks hne "method" (by decide) (fun _ => .bind (.parseSymbol toks hne hl) fun _ =>
    .bind (parseTypeParams_ok toks hne hl fuel) fun _ => .bind (parseParameters_ok toks hne hl fuel) fun ps =>
    .bind ?_ fun _ => .bind (parseColonAndHintOpt_ok toks hne hl fuel) fun _ =>
    .bind (.parseBlock toks hne hl fuel) fun _ => .pure) s hs hk
  cases ps with
  | nil => exact .bind .diag fun _ => .pure
  | cons p rest => exact .pure

theorem parseTest_ok (fuel : Nat) (s : St) (hs : s.idx ≤ toks.length) (hk : tokIs toks s.idx "test" = true) :
    wp (parseTest toks false fuel) (fun _ s' => Sf toks s s') s :=
  kw_then toks hne (by decide) (fun _ => .bind (.parseSymbol toks hne hl) fun _ => .bind .peekIs fun _ => .ite
    (.bind .getDiags fun _ => .bind (parseParameters_ok toks hne hl fuel) fun _ => .bind .setDiags fun _ =>
      .bind .diag fun _ => .bind (.parseBlock toks hne hl fuel) fun _ => .pure)
    (.bind (.parseBlock toks hne hl fuel) fun _ => .pure)) hs hk

theorem parseVariant_ok (fuel : Nat) : Moves (byMv toks) (parseVariant toks false fuel) :=
  .bind (.parseSymbol toks hne hl) fun _ => .bind .peekIs fun _ => .ite
    (.bind .pop fun _ => .bind (hint_ok toks hne hl fuel) fun _ => .bind (.requireToken toks hne _) fun _ => .pure)
    .pure

theorem enumBodyLoop_ok : ∀ fuel acc, Moves (byMv toks) (enumBodyLoop toks false fuel acc)
  | 0, _ => .outOfFuel
  | fuel + 1, acc => by
    refine .bind .peekIs fun _ => .ite .pure <| .bind .getIdx fun _ =>
      .bind (parseVariant_ok toks hne hl fuel) fun _ => .bind .peek fun t => ?_
    cases t with
    | none => exact .bind .diag fun _ => .pure
    | some t =>
      exact .ite (.bind .pop fun _ => .bind .getIdx fun _ => .ite .pure (enumBodyLoop_ok fuel _))
        (.ite .pure (.bind .diag fun _ => .pure))

theorem structFieldsLoop_ok : ∀ fuel acc, Moves (byMv toks) (structFieldsLoop toks false fuel acc)
  | 0, _ => .outOfFuel
  | fuel + 1, acc => by
    refine .bind .peekIs fun _ => .ite .pure <| .bind .peek fun t0 => ?_
    cases t0 with
    | none => exact .bind .diag fun _ => .pure
    | some t0 =>
      refine .bind (.parseSymbol toks hne hl) fun _ => .bind (parseColonAnd_ok toks hne hl fuel) fun _ =>
        .bind .peek fun t => ?_
      cases t with
      | none => exact .bind .diag fun _ => .pure
      | some t =>
        exact .ite (.bind .pop fun _ => structFieldsLoop_ok fuel _) (.ite .pure (.bind .diag fun _ => .pure))

theorem parseEnum_ok (fuel : Nat) (s : St) (hs : s.idx ≤ toks.length)
    (hk : tokIs toks s.idx "public" = true ∨ tokIs toks s.idx "enum" = true) :
    wp (parseEnum toks false fuel) (fun _ s' => Sf toks s s') s :=
  def_strict toks hne "enum" (by decide) (fun _ => .bind (.parseSymbol toks hne hl) fun _ =>
    .bind (parseTypeParams_ok toks hne hl fuel) fun _ => .bind (.requiredTokenOk toks hne _) fun _ => .ite .pure <|
    .bind (enumBodyLoop_ok toks hne hl fuel _) fun _ => .bind (.requireToken toks hne _) fun _ => .pure) s hs hk

theorem parseStruct_ok (fuel : Nat) (s : St) (hs : s.idx ≤ toks.length)
    (hk : tokIs toks s.idx "public" = true ∨ tokIs toks s.idx "struct" = true) :
    wp (parseStruct toks false fuel) (fun _ s' => Sf toks s s') s :=
  def_strict toks hne "struct" (by decide) (fun _ => .bind (.parseSymbol toks hne hl) fun _ =>
    .bind (parseTypeParams_ok toks hne hl fuel) fun _ => .bind (.requiredTokenOk toks hne _) fun _ => .ite .pure <|
    .bind (structFieldsLoop_ok toks hne hl fuel _) fun _ => .bind (.requireToken toks hne _) fun _ => .pure) s hs hk

theorem parseImport_ok (s : St) (hs : s.idx ≤ toks.length) (hk : tokIs toks s.idx "import" = true) :
    wp (parseImport toks false) (fun _ s' => Sf toks s s') s := by
  refine kw_then toks hne (by decide) (fun _ => .bind .pop fun t => ?_) hs hk
  cases t with
  | none => exact .bind .diag fun _ => .pure
  | some t =>
    refine .ite ?_ (.bind .diag fun _ => .pure)
    generalize unescapeTok t.text = p
    exact .bind (.diagN _ _) fun _ => .bind .peekIs fun _ => .ite
      (.bind .pop fun _ => .bind (.parseSymbol toks hne hl) fun _ => .pure) .pure

theorem parseDefinition_ok (fuel : Nat) (s : St) (hs : s.idx < toks.length) :
    wp (parseDefinition toks false fuel) (fun r s' => Fw toks s s' ∧ (r.isSome = true → s.idx < s'.idx)) s := by
  unfold parseDefinition
  wpsimp
  have sf : ∀ {s' : St} {r : Option Item}, Sf toks s s' → Fw toks s s' ∧ (r.isSome = true → s.idx < s'.idx) :=
    fun h => ⟨h.fw, fun _ => h.1⟩
  have hs' : s.idx ≤ toks.length := Nat.le_of_lt hs
  have none : Fw toks s s ∧ ((none : Option Item).isSome = true → s.idx < s.idx) := ⟨Fw.refl hs', fun h => nomatch h⟩
  cases h0 : toks[s.idx]? with
  | none => have := get_none h0; omega
  | some t0 =>
    have kw : ∀ {k : String}, (t0.text == k) = true → tokIs toks s.idx k = true := tokIs_of_get h0
    -- `public kw` or `kw` at the head
    have pubOr : ∀ {k : String} {b : Bool}, (t0.text == k || t0.text == "public" && b) = true →
        tokIs toks s.idx "public" = true ∨ tokIs toks s.idx k = true := by
      intro k b c
      simp only [Bool.or_eq_true, Bool.and_eq_true] at c
      exact c.elim (fun h => Or.inr (kw h)) fun h => Or.inl (kw h.1)
    cases h1 : toks[s.idx + 1]? with
    | none => wpsimp; exact none
    | some t1 =>
      wpsimp
      refine ite_intro (fun c => ?_) fun _ => ?_
      · have c1 : (t0.text == "fun") = true := (Bool.and_eq_true _ _ ▸ c).1
        exact wp_mono (parseFunction_ok toks hne hl fuel s hs' (Or.inr (kw c1))) fun _ _ m => sf m
      refine ite_intro (fun c => ?_) fun _ => ?_
      · have c1 : (t0.text == "public") = true := by simp only [Bool.and_eq_true] at c; exact c.1.1
        exact wp_mono (parseFunction_ok toks hne hl fuel s hs' (Or.inl (kw c1))) fun _ _ m => sf m
      refine ite_intro (fun c => ?_) fun _ => ?_
      · exact wp_mono (parseMethod_ok toks hne hl fuel s hs' (pubOr c)) fun _ _ m => sf m
      refine ite_intro (fun c => ?_) fun _ => ?_
      · exact wp_mono (parseTest_ok toks hne hl fuel s hs' (kw c)) fun _ _ m => sf m
      refine ite_intro (fun c => ?_) fun _ => ?_
      · exact wp_mono (parseEnum_ok toks hne hl fuel s hs' (pubOr c)) fun _ _ m => sf m
      refine ite_intro (fun c => ?_) fun _ => ?_
      · exact wp_mono (parseStruct_ok toks hne hl fuel s hs' (pubOr c)) fun _ _ m => sf m
      refine ite_intro (fun c => ?_) fun _ => none
      exact wp_mono (parseImport_ok toks hne hl s hs' (kw c)) fun _ _ m => sf m

/-- What the assertion at parser.rs:3067 checks. -/
theorem parseToplevelItem_ok (fuel : Nat) (s : St) (hs : s.idx < toks.length) :
    wp (parseToplevelItem toks false fuel) (fun r s' => Fw toks s s' ∧
      (∀ item, r = some item → item.isInvalidOrPlaceholder = false → s.idx < s'.idx)) s := by
  unfold parseToplevelItem
  wpsimp
  have hs' : s.idx ≤ toks.length := Nat.le_of_lt hs
  cases h0 : toks[s.idx]? with
  | none => have := get_none h0; omega
  | some t0 =>
    simp only [Option.map_some]
    refine ite_intro (fun _ => ?_) fun _ => ?_
    · refine wp_mono (parseDefinition_ok toks hne hl fuel s hs) fun r s1 m1 => ?_
      exact ⟨m1.1, fun item hr _ => m1.2 (by rw [hr]; rfl)⟩
    refine ite_intro (fun c => ?_) fun _ => ?_
    · refine wp_mono (block_strict toks hne hl fuel s hs' (tokIs_of_get h0 c)) fun b s1 m1 => ?_
      exact ⟨m1.fw, fun _ _ _ => m1.1⟩
    · refine wp_mono ((specs_all toks hne hl fuel).exprT true s hs') fun e s1 m1 => ?_
      refine ⟨m1.fw, fun item hr hi => ?_⟩
      cases hr
      exact m1.2.2 hi

theorem itemsLoop_ok : ∀ fuel acc s, s.idx ≤ toks.length →
    wp (itemsLoop toks false fuel acc) (fun _ s' => Fw toks s s') s := by
  intro fuel
  induction fuel with
  | zero => exact fun _ _ _ => trivial
  | succ fuel ih =>
    intro acc s hs
    rw [itemsLoop]
    wpsimp
    refine ite_intro (fun _ => Fw.refl hs) fun c => ?_
    have hlt : s.idx < toks.length := by omega
    refine wp_mono (parseToplevelItem_ok toks hne hl fuel s hlt) fun r s1 m1 => ?_
    cases r with
    | none => exact m1.1
    | some item =>
      simp only []
      cases hi : item.isInvalidOrPlaceholder with
      | true => simp only [↓reduceIte, wp_pure]; exact m1.1
      | false =>
        have hgt := m1.2 item rfl hi
        simp only [Bool.false_eq_true, ↓reduceIte, wp_bind, wp_getIdx, wp_ite, wp_panic, gt_iff_lt, hgt]
        exact wp_fw_of_le m1.1.1 (ih _ s1 m1.1.2)

end level3

/-- C01, parser half, the whole parser: `parse_toplevel_items` (the model of the repaired parser) does
not panic: none of the forward-progress assertions (seven in this tree, listed at the head of the file; the other
three of the pinned tree's ten are `break`s in it), the two `expect("TODO: handle empty …")`,
the `unwrap`s or `unpop` can fire. (With too little fuel the model answers `outOfFuel`, never `panic`;
termination is a separate matter and is not claimed here.) -/
theorem parse_no_panic (fuel : Nat) (toks : Toks) (hne : toks ≠ []) (hl : LexLike toks) :
    isPanic (parseItems fuel toks) = false := by
  unfold parseItems parseItemsCfg
  exact not_panic_of_wp (itemsLoop_ok toks hne hl fuel [] ⟨0, []⟩ (Nat.zero_le _))

/-- A concrete non-trivial token list satisfies the hypotheses: `let x = 1.5 + f(2)`. -/
example : LexLike [⟨"let", true, 0, 0⟩, ⟨"x", false, 0, 0⟩, ⟨"=", false, 0, 0⟩, ⟨"1.5", false, 0, 0⟩,
    ⟨"+", false, 0, 0⟩, ⟨"f", false, 0, 0⟩, ⟨"(", true, 0, 0⟩, ⟨"2", true, 0, 0⟩, ⟨")", true, 0, 0⟩] := by
  constructor <;> decide

def isPanicAt {α} (site : String) : Res α → Bool
  | .panic s => s == site
  | _ => false

def isOk {α} : Res α → Bool
  | .ok _ _ => true
  | _ => false

/-- `(1, })` -/
def tupleToks : List Tok :=
  [⟨"(", true, 0, 0⟩, ⟨"1", true, 0, 0⟩, ⟨",", true, 0, 0⟩, ⟨"}", false, 0, 0⟩, ⟨")", true, 0, 0⟩]

/-- `let (a` -/
def letToks : List Tok := [⟨"let", true, 0, 0⟩, ⟨"(", false, 0, 0⟩, ⟨"a", true, 0, 0⟩]

/-- `fun f(a,` -/
def paramToks : List Tok :=
  [⟨"fun", true, 0, 0⟩, ⟨"f", false, 0, 0⟩, ⟨"(", true, 0, 0⟩, ⟨"a", true, 0, 0⟩, ⟨",", true, 0, 0⟩]

/-- `let x: (A,` -/
def hintToks : List Tok :=
  [⟨"let", true, 0, 0⟩, ⟨"x", false, 0, 0⟩, ⟨":", true, 0, 0⟩, ⟨"(", false, 0, 0⟩, ⟨"A", true, 0, 0⟩, ⟨",", true, 0, 0⟩]

/-- `fun f<T,` -/
def tparamToks : List Tok :=
  [⟨"fun", true, 0, 0⟩, ⟨"f", false, 0, 0⟩, ⟨"<", true, 0, 0⟩, ⟨"T", true, 0, 0⟩, ⟨",", true, 0, 0⟩]

theorem pinned_params_panics : isPanicAt "parser.rs:2183" (parseItemsCfg true 60 paramToks) = true := by decide
theorem fixed_params_ok : isOk (parseItemsCfg false 60 paramToks) = true := by decide
theorem pinned_tuple_hint_panics : isPanicAt "parser.rs:1995" (parseItemsCfg true 60 hintToks) = true := by decide
theorem fixed_tuple_hint_ok : isOk (parseItemsCfg false 60 hintToks) = true := by decide
theorem fixed_type_params_ok : isOk (parseItemsCfg false 60 tparamToks) = true := by decide
theorem pinned_tuple_panics : isPanicAt "parser.rs:328" (parseItemsCfg true 60 tupleToks) = true := by decide
theorem fixed_tuple_ok : isOk (parseItemsCfg false 60 tupleToks) = true := by decide
theorem pinned_let_dest_panics : isPanicAt "parser.rs:2812" (parseItemsCfg true 60 letToks) = true := by decide
theorem fixed_let_dest_ok : isOk (parseItemsCfg false 60 letToks) = true := by decide

end C01Parse

open Parse

namespace LexLikeProof
open Lex

theorem lexDigit_eq (c : Char) : Lex.isDigit c = c.isDigit := by
  rw [Bool.eq_iff_iff]
  simp only [Lex.isDigit, Char.isDigit, Char.toNat, Bool.and_eq_true, decide_eq_true_eq, ge_iff_le,
    UInt32.le_iff_toNat_le]
  have h0 : ('0' : Char).val.toNat = 48 := by decide
  have h9 : ('9' : Char).val.toNat = 57 := by decide
  rw [h0, h9]

theorem symStart_eq (c : Char) : Lex.isSymStart c = Parse.isSymStart c := by
  rw [Bool.eq_iff_iff]
  simp only [Lex.isSymStart, Parse.isSymStart, Char.isAlpha, Char.isUpper, Char.isLower, Char.toNat,
    Bool.or_eq_true, Bool.and_eq_true, decide_eq_true_eq, ge_iff_le, UInt32.le_iff_toNat_le, beq_iff_eq]
  have hA : ('A' : Char).val.toNat = 65 := by decide
  have hZ : ('Z' : Char).val.toNat = 90 := by decide
  have ha : ('a' : Char).val.toNat = 97 := by decide
  have hz : ('z' : Char).val.toNat = 122 := by decide
  rw [hA, hZ, ha, hz]
  constructor
  · rintro ((h | h) | h)
    · exact Or.inl (Or.inr h)
    · exact Or.inl (Or.inl h)
    · exact Or.inr h
  · rintro ((h | h) | h)
    · exact Or.inl (Or.inr h)
    · exact Or.inl (Or.inl h)
    · exact Or.inr h

theorem digitU_eq (c : Char) : Lex.isDigitU c = (c.isDigit || c == '_') := by
  simp [Lex.isDigitU, lexDigit_eq]

theorem symStart_not_digit {c : Char} (h : Lex.isSymStart c = true) : c.isDigit = false := by
  cases hd : c.isDigit with
  | false => rfl
  | true => rw [symStart_eq, ParseLemmas.digit_not_symStart' hd] at h; cases h

theorem digit_ne_dot {c : Char} (h : c.isDigit = true) : c ≠ '.' := by
  intro e; subst e; revert h; decide

theorem dropDU_tw (r : List Char) : dropDigitsUnderscore (r.takeWhile Lex.isDigitU) = [] :=
  ParseLemmas.dropDU_all _ fun c hc => digitU_eq c ▸ (List.all_eq_true.mp List.all_takeWhile) c hc

theorem dropDU_dot (x : List Char) : dropDigitsUnderscore ('.' :: x) = '.' :: x := by
  simp [dropDigitsUnderscore]

theorem dropDU_nil : dropDigitsUnderscore [] = [] := rfl

theorem int_not_float {s m : List Char} (h : scanInt s = some m) : isFloatChars m = false := by
  obtain ⟨sign, d, r, hsign, hd, _, rfl⟩ := scanInt_some h
  have hd' : d.isDigit = true := lexDigit_eq d ▸ hd
  have htw := dropDU_tw r
  rcases hsign with rfl | rfl
  · simp [isFloatChars, hd', (ParseLemmas.digit_ne hd').1, htw]
  · simp [isFloatChars, hd', htw]

theorem span_loop_all {p : Char → Bool} (a : List Char) (x : Char) (b acc : List Char)
    (ha : ∀ c ∈ a, p c = true) (hx : p x = false) :
    List.span.loop p (a ++ x :: b) acc = (acc.reverse ++ a, x :: b) := by
  induction a generalizing acc with
  | nil => simp [List.span.loop, hx]
  | cons c a ih =>
    have hc := ha c (List.mem_cons_self ..)
    simp only [List.cons_append, List.span.loop, hc]
    rw [ih (c :: acc) (fun y hy => ha y (List.mem_cons_of_mem _ hy))]
    simp

theorem span_all {p : Char → Bool} (a : List Char) (x : Char) (b : List Char)
    (ha : ∀ c ∈ a, p c = true) (hx : p x = false) : (a ++ x :: b).span p = (a, x :: b) := by
  unfold List.span
  rw [span_loop_all a x b [] ha hx]
  simp

theorem tw_filter_digits (r : List Char) :
    ∀ c ∈ (r.takeWhile Lex.isDigitU).filter (· != '_'), c.isDigit = true := by
  intro c hc
  rw [List.mem_filter] at hc
  have hall := List.all_eq_true.mp (List.all_takeWhile (l := r) (p := Lex.isDigitU)) c hc.1
  rw [digitU_eq] at hall
  have h2 : c ≠ '_' := by simpa using hc.2
  simpa [h2] using hall

theorem floatWhole_unsigned {c : Char} (h : c ≠ '-') (X : List Char) :
    floatWhole (c :: X) = floatWhole ('-' :: c :: X) := by
  unfold floatWhole; simp [h]

theorem fw_core (d0 d : Char) (F0 F : List Char) (hd0 : d0.isDigit = true) (hd : d.isDigit = true)
    (hF0 : ∀ c ∈ F0, c.isDigit = true) (hF : ∀ c ∈ F, c.isDigit = true) :
    floatWhole (d0 :: (F0 ++ '.' :: d :: F)) = true ∧ floatWhole ('-' :: d0 :: (F0 ++ '.' :: d :: F)) = true := by
  have hsp := span_all (p := Char.isDigit) (d0 :: F0) '.' (d :: F)
    (by intro c hc; rcases List.mem_cons.mp hc with rfl | hc; exact hd0; exact hF0 c hc) (by decide)
  have hall : (d :: F).all Char.isDigit = true := by
    rw [List.all_eq_true]; intro c hc; rcases List.mem_cons.mp hc with rfl | hc; exact hd; exact hF c hc
  rw [floatWhole_unsigned (ParseLemmas.digit_ne hd0).1, and_self]
  unfold floatWhole
  simp only []
  rw [show d0 :: (F0 ++ '.' :: d :: F) = (d0 :: F0) ++ '.' :: (d :: F) from rfl, hsp]
  simp [hall]

theorem float_whole {s m : List Char} (h : scanFloat s = some m) :
    floatWhole (m.filter (· != '_')) = true := by
  obtain ⟨mi, d, r, hmi, hd, _, rfl⟩ := scanFloat_some h
  obtain ⟨sign, d0, r0, hsign, hd0, _, rfl⟩ := scanInt_some hmi
  have hd' : d.isDigit = true := lexDigit_eq d ▸ hd
  have hd0' : d0.isDigit = true := lexDigit_eq d0 ▸ hd0
  have e1 : (d0 != '_') = true := by simpa using (ParseLemmas.digit_ne hd0').2.2
  have e2 : (d != '_') = true := by simpa using (ParseLemmas.digit_ne hd').2.2
  have core := fw_core d0 d _ _ hd0' hd' (tw_filter_digits r0) (tw_filter_digits r)
  rcases hsign with rfl | rfl
  · simp only [List.nil_append, List.cons_append, List.filter_cons, List.filter_append,
      show (('.' : Char) != '_') = true by decide, e1, e2, ↓reduceIte]
    exact core.1
  · simp only [List.cons_append, List.nil_append, List.filter_cons, List.filter_append,
      show (('-' : Char) != '_') = true by decide, show (('.' : Char) != '_') = true by decide, e1, e2, ↓reduceIte]
    exact core.2

theorem sym_not_float {c : Char} {r : List Char} (hc : Lex.isSymStart c = true) : isFloatChars (c :: r) = false := by
  have hnd := symStart_not_digit hc
  have hm : c ≠ '-' := by intro e; subst e; revert hc; decide
  unfold isFloatChars
  split
  · rename_i heq
    injection heq with h3 _
    exact absurd h3 hm
  · simp [hnd]

/-- A token that looks like a float is a whole float. -/
theorem shape_float {any : Bool} {rest m : List Char} {err : Option ErrKind}
    (h : Emits LexTables.garden any rest m err) (hf : isFloatChars m = true) :
    floatWhole (m.filter (· != '_')) = true := by
  cases h with
  | two hmem _ =>
    have key : ∀ e ∈ LexTables.garden.twoCharOps ++ LexTables.garden.twoCharTokens, isFloatChars e = false := by
      decide
    rw [key m hmem] at hf; cases hf
  | float h => exact float_whole h
  | int h => rw [int_not_float h] at hf; cases hf
  | one _ hmem =>
    have key : ∀ c ∈ LexTables.garden.oneCharOps ++ LexTables.garden.oneCharTokens, isFloatChars [c] = false := by
      decide
    rw [key _ hmem] at hf; cases hf
  | str h => obtain ⟨r, _, rfl⟩ := scanString_some h; simp [isFloatChars] at hf
  | unclosed h => obtain ⟨r, _, rfl⟩ := scanString_some h; simp [isFloatChars] at hf
  | sym h =>
    obtain ⟨c, r, hc, _, rfl⟩ := scanSymbol_some h
    rw [sym_not_float hc] at hf; cases hf

/-- A symbol-like token contains no newline. -/
theorem shape_sym {any : Bool} {rest m : List Char} {err : Option ErrKind}
    (h : Emits LexTables.garden any rest m err) (c : Char) (r : List Char) (hm : m = c :: r)
    (hs : Parse.isSymStart c = true) : m.count '\n' = 0 := by
  cases h with
  | two hmem _ =>
    have key : ∀ e ∈ LexTables.garden.twoCharOps ++ LexTables.garden.twoCharTokens,
        (match e with | c :: _ => Parse.isSymStart c | [] => false) = false := by decide
    have := key m hmem
    rw [hm] at this
    simp only [] at this
    rw [hs] at this; cases this
  | one _ hmem =>
    have key : ∀ c ∈ LexTables.garden.oneCharOps ++ LexTables.garden.oneCharTokens, Parse.isSymStart c = false := by
      decide
    injection hm with h1 _; subst h1
    rw [key _ hmem] at hs; cases hs
  | float h =>
    obtain ⟨mi, d, r', hmi, _, _, rfl⟩ := scanFloat_some h
    obtain ⟨sign, d0, r0, hsign, hd0, _, rfl⟩ := scanInt_some hmi
    exfalso
    rcases hsign with rfl | rfl
    · injection hm with h1 _; subst h1
      rw [ParseLemmas.digit_not_symStart' (lexDigit_eq d0 ▸ hd0)] at hs; cases hs
    · injection hm with h1 _; subst h1; revert hs; decide
  | int h =>
    obtain ⟨sign, d0, r0, hsign, hd0, _, rfl⟩ := scanInt_some h
    exfalso
    rcases hsign with rfl | rfl
    · injection hm with h1 _; subst h1
      rw [ParseLemmas.digit_not_symStart' (lexDigit_eq d0 ▸ hd0)] at hs; cases hs
    · injection hm with h1 _; subst h1; revert hs; decide
  | str h =>
    obtain ⟨r', _, rfl⟩ := scanString_some h
    exfalso; injection hm with h1 _; subst h1; revert hs; decide
  | unclosed h =>
    obtain ⟨r', _, rfl⟩ := scanString_some h
    exfalso; rw [List.takeWhile_cons] at hm; injection hm with h1 _; subst h1; revert hs; decide
  | sym h =>
    obtain ⟨c0, r0, hc0, _, rfl⟩ := scanSymbol_some h
    rw [List.count_eq_zero]
    intro hmem
    rcases List.mem_cons.mp hmem with e | hmem
    · have : Lex.isSymChar '\n' = true := by rw [e]; simp [Lex.isSymChar, hc0]
      exact absurd this (by decide)
    · have := List.all_eq_true.mp (List.all_takeWhile (l := r0) (p := Lex.isSymChar)) _ hmem
      exact absurd this (by decide)

theorem strBody_head (any : Bool) (r : List Char) :
    (('"' :: strBody any false r).takeWhile (· != '\n')) = '"' :: (strBody any false r).takeWhile (· != '\n') := by
  simp

/-- The parser's view of the lexer's tokens: text, does-it-touch-the-previous-token (token 0: does it start at
offset 0), start line, end line. `toToks` of Driver/Parse.lean builds the same four fields from the s-expression dump of
the real lexer; the two are kept alike by hand, no statement relates them. -/
def convGo : List Token → Nat → List Parse.Tok
  | [], _ => []
  | t :: r, prevEnd =>
    ⟨String.ofList t.text, t.pos.start == prevEnd, t.pos.line, t.pos.endLine⟩ :: convGo r t.pos.stop

def toParseToks (ts : List Token) : List Parse.Tok := convGo ts 0

theorem mem_convGo {ts : List Token} {k : Nat} {t' : Parse.Tok} (h : t' ∈ convGo ts k) :
    ∃ t ∈ ts, t'.text = String.ofList t.text ∧ t'.line = t.pos.line ∧ t'.endLine = t.pos.endLine := by
  induction ts generalizing k with
  | nil => simp [convGo] at h
  | cons t r ih =>
    simp only [convGo, List.mem_cons] at h
    rcases h with rfl | h
    · exact ⟨t, List.mem_cons_self .., rfl, rfl, rfl⟩
    · obtain ⟨t0, h0, h1⟩ := ih h
      exact ⟨t0, List.mem_cons_of_mem _ h0, h1⟩

theorem lex_lexLike (src : List Char) (strAny : Bool) :
    C01Parse.LexLike (toParseToks (lex LexTables.garden src strAny).tokens) := by
  constructor
  · intro t' ht' hf
    obtain ⟨t, ht, e1, _, _⟩ := mem_convGo ht'
    rw [e1] at hf ⊢
    simp only [isFloatTok, String.toList_ofList] at hf ⊢
    exact lex_toks (fun t => isFloatChars t.text = true → floatWhole (t.text.filter (· != '_')) = true) strAny
      (fun _ _ _ h => shape_float h) src t ht hf
  · intro t' ht' hsym
    obtain ⟨t, ht, e1, e2, e3⟩ := mem_convGo ht'
    rw [e1] at hsym
    simp only [isSymbolTok, String.toList_ofList] at hsym
    rw [e2, e3]
    obtain ⟨pre, post, _, hpos⟩ := ((lex_ok garden_wf src strAny).tokens t ht).1
    cases htext : t.text with
    | nil => rw [htext] at hsym; simp at hsym
    | cons c r =>
      rw [htext] at hsym
      simp only [] at hsym
      have hcount := lex_toks
        (fun t => ∀ c r, t.text = c :: r → Parse.isSymStart c = true → t.text.count '\n' = 0) strAny
        (fun _ _ _ h => shape_sym h) src t ht c r htext hsym
      rw [hpos]
      simp only [specPos, lineOf, List.count_append, hcount, Nat.add_zero]
end LexLikeProof

theorem parse_no_panic_nil (fuel : Nat) : C01Parse.isPanic (Parse.parseItems fuel []) = false := by
  cases fuel with
  | zero => simp [Parse.parseItems, Parse.parseItemsCfg, Parse.itemsLoop, Parse.outOfFuel, C01Parse.isPanic]
  | succ n =>
    simp [Parse.parseItems, Parse.parseItemsCfg, Parse.itemsLoop, ParseLemmas.bind_apply, Parse.P.bind, Parse.getIdx,
      ParseLemmas.pure_apply, C01Parse.isPanic]

/-- Lexer model ∘ parser model never panics, for every source text, either `STRING_RE` and every fuel. No hypothesis
left: `LexLike` is discharged by `lex_lexLike`, the empty stream by `parse_no_panic_nil`. -/
theorem lex_parse_no_panic (src : List Char) (strAny : Bool) (fuel : Nat) :
    C01Parse.isPanic (Parse.parseItems fuel
      (LexLikeProof.toParseToks (Lex.lex Lex.LexTables.garden src strAny).tokens)) = false := by
  by_cases h : LexLikeProof.toParseToks (Lex.lex Lex.LexTables.garden src strAny).tokens = []
  · rw [h]; exact parse_no_panic_nil fuel
  · exact C01Parse.parse_no_panic fuel _ h (LexLikeProof.lex_lexLike src strAny)
