import GardenVerif.Lemmas.IncrementalGlue
/-!
C11 — Incremental session input equals running it as one program.

Session model: `Resume.request` / `Resume.incremental` / `Resume.batch` (Model/Resume.lean) on top of
the machine model M4 (`Machine.step`).

PROVED: `incremental_eq_batch_partial` — for every history `is` (any number of inputs, any sizes) with
* `histOK`: the FUNCTION names defined by the inputs are fresh (not yet resolvable when they are loaded:
  no function, enum variant or built-in of that name — decidable), and ENUM definitions occur in the first
  input only;
* `canon b fuel sessionInit is = some (C, some v)`: the REFERENCE RUN of the history answers `v`
  (decidable by running it). The reference run is the incremental run with frame 0's value stack
  emptied at the start of every request and these tests on the way (`Incr.evalC`): no request errs, crashes
  or runs out of fuel; every request comes to rest at the toplevel frame with nothing pending (this
  excludes the eval-up-to special case that leaves a trailing `for` loop pending — known finding
  C11/trailing-for-not-run — and a stop inside a call); in every request but the last no step drops
  the rest of frame 0's pending entries (toplevel `return`, loop-less `break`/`continue`: in the
  concatenated input those would drop the LATER inputs, by design) or touches the node `b` the
  concatenated run stops at (`b` = id of the last expression of the last input; ids are unique in the
  real session);
BOTH the real incremental session AND the concatenated request answer `v`:
  `(∃ s, incremental fuel sessionInit is = .value s (some v)) ∧ (∃ fuel' s', batch fuel' sessionInit is = .value s' (some v))`.
Moreover the two final states hold the same definitions and the same toplevel variables
(`incremental_eq_batch_state_partial`).

The proof is a simulation in both directions from the reference run: frame parametricity of the
evaluator for the sequencing (Lemmas/Incremental.lean, IncrementalRun.lean), definition monotonicity for
the definitions the concatenated request loads up front (Lemmas/IncrementalMono.lean), glued by induction
over the history (Lemmas/IncrementalGlue.lean).

WHAT IS MISSING for the full statement (hence `_partial`):
1. definition monotonicity for added ENUM definitions (`C11.Ext.enums` demands equal enums: `display`
   looks variant names up in the program, so one needs the invariant that every enum value on the stacks
   has a defined type). Here: enums only in the first input.
2. the hypothesis is on the reference run instead of on `incremental` itself. The two differ only in what
   lies BELOW the values a request pushes on frame 0's value stack; for programs with value-stack
   discipline (C02: `MachineDiscipline.okProg`, i.e. no `break`/`continue` in operand position) the
   reference run is error-free iff the incremental run is — this link to C02's invariant is not made.
Both are exercised by the harness (model vs real sessions, incremental and batch replies).
-/

namespace C11
open Machine Resume Incr

/-- Decidable well-formedness of a history w.r.t. definitions: when an input has been loaded, none of
the function names of the LATER inputs is resolvable yet (function, enum variant, built-in), and the
later inputs define no enums. -/
def histOK (p : Program) : List Input → Bool
  | [] => true
  | i :: rest =>
    freshFuns (loadP p i) (rest.flatMap (·.funs)) && rest.all (fun j => j.enums.isEmpty) &&
      histOK (loadP p i) rest

theorem flatMap_enums_nil : ∀ (rest : List Input), rest.all (fun j => j.enums.isEmpty) = true →
    rest.flatMap (·.enums) = []
  | [], _ => rfl
  | j :: js, h => by
    simp only [List.all_cons, Bool.and_eq_true] at h
    have h1 : j.enums = [] := by simpa using h.1
    simp [List.flatMap_cons, h1, flatMap_enums_nil js h.2]

theorem extAll_of_histOK : ∀ (is : List Input) (p : Program), histOK p is = true →
    ExtAll (loadP p (concatInputs is)) p is
  | [], p, _ => trivial
  | i :: rest, p, h => by
    simp only [histOK, Bool.and_eq_true] at h
    obtain ⟨⟨hf, he⟩, hr⟩ := h
    have hen := flatMap_enums_nil rest he
    refine ⟨?_, ?_⟩
    · have hx := ext_of_fresh (loadP p i) (rest.flatMap (·.funs)) hf
      have : loadP p (concatInputs (i :: rest)) =
          { loadP p i with funs := (loadP p i).funs ++ rest.flatMap (·.funs) } := by
        simp [loadP, concatInputs, List.flatMap_cons, List.append_assoc, hen]
      rw [this]; exact hx
    · rw [loadP_concat_cons]; exact extAll_of_histOK rest (loadP p i) hr

theorem concat_last (b fuel : Nat) : ∀ (is : List Input) (C C' : State) (v : Value),
    canon b fuel C is = some (C', some v) → LastIs b is →
    ∃ last, (is.flatMap (·.exprs)).getLast? = some last ∧ last.id = b
  | [], C, C', v, h, _ => by cases h
  | [i], C, C', v, h, hl => by
    rcases requestC_eq_some.mp h with ⟨_, _, hv⟩ | ⟨last, _, _, hlast, _⟩
    · cases hv
    · exact ⟨last, by simpa using hlast, hl last hlast⟩
  | i :: i2 :: rest, C, C', v, h, hl => by
    obtain ⟨C1, ov1, _, h⟩ := canon_cons₂.mp h
    obtain ⟨last, h1, h2⟩ := concat_last b fuel (i2 :: rest) C1 C' v h hl
    refine ⟨last, ?_, h2⟩
    rw [List.flatMap_cons, List.getLast?_append, h1]; rfl

theorem sessionInit_Rest : Rest sessionInit := ⟨_, rfl, rfl⟩

theorem LF_sessionInit : LF [] [] sessionInit.stopAt sessionInit = sessionInit := by
  simp [LF, sessionInit, init, mapLast, fx, initFrame]

/-- **Incremental = batch, with the final states** (`_partial`: see the header for the two missing
links): moreover the two sessions end with the same definitions (`prog`) and the same variables (binding
blocks of every frame — there is one frame, the toplevel). -/
theorem incremental_eq_batch_state_partial (is : List Input) (b fuel : Nat) (C : State) (v : Value)
    (hdefs : histOK sessionInit.prog is = true) (hb : LastIs b is)
    (hc : canon b fuel sessionInit is = some (C, some v)) :
    ∃ (si sb : State) (fuel' : Nat),
      incremental fuel sessionInit is = .value si (some v) ∧
      batch fuel' sessionInit is = .value sb (some v) ∧
      sb.prog = si.prog ∧ sb.frames.map (·.blocks) = si.frames.map (·.blocks) ∧
      sb.frames.length = 1 := by
  obtain ⟨RI', hi⟩ := incremental_of_canon b fuel is sessionInit C (some v) [] sessionInit_Rest hc
  rw [LF_sessionInit] at hi
  have hx := extAll_of_histOK is sessionInit.prog hdefs
  obtain ⟨last, hlast, hid⟩ := concat_last b fuel is sessionInit C v hc hb
  obtain ⟨m, RB', hm⟩ := batch_of_canon b fuel (loadP sessionInit.prog (concatInputs is)) is sessionInit C v
    [vUnit] sessionInit_Rest hc hx hb  -- `[vUnit]`: the placeholder value of `sessionInit`'s frame 0
  have hbatch : batch m sessionInit is =
      .value { LF [] RB' (some b) (withProg (loadP sessionInit.prog (concatInputs is)) C) with stopAt := none }
        (some v) := by
    unfold batch request
    have hl : (concatInputs is).exprs.getLast? = some last := hlast
    simp only [hl]
    have hst : ({ setExprs (load sessionInit (concatInputs is)) (concatInputs is).exprs with
          stopAt := some last.id } : State) =
        LFend (allExprs is) [vUnit] (some b) (withProg (loadP sessionInit.prog (concatInputs is)) sessionInit) := by
      simp [setExprs, load, LFend, withProg, sessionInit, init, initFrame, allExprs, concatInputs, loadP, hid]
    rw [hst, hm]
    simp [load, sessionInit, init]
  obtain ⟨⟨fc, hfc, _⟩, hprog⟩ := canon_end b fuel is _ _ _ sessionInit_Rest hc
  refine ⟨_, _, m, hi, hbatch, ?_, ?_, ?_⟩
  · simp [LF, withProg, hprog]
  · simp [LF, withProg, mapLast_blocks]
  · simp [LF, withProg, hfc, mapLast]

/-- **Incremental = batch** (`_partial`: see the header for the two missing links). For every
history whose reference run answers `v`: the incremental session answers `v` to its last request, and
the concatenation of all inputs submitted as ONE request answers `v`. -/
theorem incremental_eq_batch_partial (is : List Input) (b fuel : Nat) (C : State) (v : Value)
    (hdefs : histOK sessionInit.prog is = true) (hb : LastIs b is)
    (hc : canon b fuel sessionInit is = some (C, some v)) :
    (∃ s, incremental fuel sessionInit is = .value s (some v)) ∧
    (∃ fuel' s', batch fuel' sessionInit is = .value s' (some v)) := by
  obtain ⟨si, sb, fuel', h1, h2, _⟩ := incremental_eq_batch_state_partial is b fuel C v hdefs hb hc
  exact ⟨⟨si, h1⟩, ⟨fuel', sb, h2⟩⟩


/-- `fun f(x) { x + 1 }  let a = 1` -/
def in1 : Input :=
  { funs := [⟨"f", ["x"], [.binop 1 true .add (.var 2 true "x") (.int 3 true 1)]⟩], enums := [],
    exprs := [.letE 4 true (.sym "a") (.int 5 true 1)] }
/-- `f(a)` — ends with the return of a user function (the incremental request does not push the value,
the concatenated run does) -/
def in2 : Input := { funs := [], enums := [], exprs := [.call 6 true (.var 7 true "f") [.var 8 true "a"]] }
/-- `fun g() { 7 }  a + g()` — a definition that the concatenated request loads before input 1 runs -/
def in3 : Input :=
  { funs := [⟨"g", [], [.int 9 true 7]⟩], enums := [],
    exprs := [.binop 10 true .add (.var 11 true "a") (.call 12 true (.var 13 true "g") [])] }

def answersInt (k : Int64) : Option (State × Option Value) → Bool
  | some (_, some (.int n)) => n == k
  | _ => false

theorem answersInt_spec (k : Int64) (r : Option (State × Option Value)) (h : answersInt k r = true) :
    ∃ C, r = some (C, some (.int k)) := by
  match r, h with
  | some (C, some (.int n)), h =>
    have : n = k := by simpa [answersInt] using h
    exact ⟨C, by rw [this]⟩

/-- The hypotheses are satisfiable by a history that exercises a definition loaded early, a request
ending in a call, and a toplevel variable used across requests: both sessions answer 8. -/
example :
    (∃ s, incremental 60 sessionInit [in1, in2, in3] = .value s (some (.int 8))) ∧
    (∃ fuel' s', batch fuel' sessionInit [in1, in2, in3] = .value s' (some (.int 8))) := by
  obtain ⟨C, hc⟩ := answersInt_spec 8 (canon 10 60 sessionInit [in1, in2, in3]) (by decide)
  exact incremental_eq_batch_partial [in1, in2, in3] 10 60 C (.int 8) (by decide)
    (by intro last hl; simp [in3] at hl; subst hl; rfl) hc

end C11
