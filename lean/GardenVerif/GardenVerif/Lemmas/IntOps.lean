import GardenVerif.Model.IntOps
/-!
For Props/C04.lean: `Int.bmod · (2^64)` as the representable integer congruent to its argument;
`Int64.toInt` of the model's `core` functions in mathematical integers; the `/` and `**` arms of
`intArith` as one equation each.
-/

namespace IntOps

theorem toInt_neg_one : (-1 : Int64).toInt = -1 := by decide
theorem toInt_u32Max : u32Max.toInt = 4294967295 := by decide

-- `2 ^ 63` and `2 ^ 64` are numerals wherever `omega` has to see them (it does not evaluate powers);
-- they are definitionally the powers, which is how `C04.wrap_spec`, stated with powers, uses these lemmas.
theorem bmod64 (n : Int) : Int.bmod n (2^64) =
    if n % 18446744073709551616 < 9223372036854775808 then n % 18446744073709551616
    else n % 18446744073709551616 - 18446744073709551616 := by
  rw [Int.bmod_def]
  have : ((2 ^ 64 : Nat) : Int) = 18446744073709551616 := by decide
  rw [this]
  rfl

theorem fits_iff (n : Int) : fits n = true ↔ (-9223372036854775808 ≤ n ∧ n < 9223372036854775808) := by
  simp [fits]

theorem fits_toInt (a : Int64) : fits a.toInt = true := by
  have h1 := Int64.le_toInt a
  have h2 := Int64.toInt_lt a
  rw [fits_iff]; omega

theorem fits_bmod (n : Int) : fits (Int.bmod n (2 ^ 64)) = true := by
  rw [fits_iff, bmod64]; split <;> omega

theorem bmod_sub_emod (n : Int) : (Int.bmod n (2 ^ 64) - n) % 18446744073709551616 = 0 := by
  rw [bmod64]; split <;> omega

theorem bmod_eq_of_fits {n m : Int} (hm : fits m = true)
    (h : (m - n) % 18446744073709551616 = 0) : m = Int.bmod n (2 ^ 64) := by
  rw [fits_iff] at hm
  rw [bmod64]; split <;> omega

theorem bmod_of_fits (n : Int) (h : fits n = true) : Int.bmod n (2^64) = n :=
  (bmod_eq_of_fits h (by rw [Int.sub_self]; rfl)).symm

theorem toInt_ne_zero {b : Int64} (hb : b ≠ 0) : b.toInt ≠ 0 := by
  intro h; apply hb; apply Int64.toInt_inj.mp; simpa using h

/-- A divisor of absolute value at least 2 halves the absolute value; `1` and `-1` keep or negate it. -/
theorem tdiv_mem_range (B : Nat) (x y : Int) (hx : -(B : Int) ≤ x ∧ x < B) (hy : y ≠ 0)
    (h : ¬(x = -(B : Int) ∧ y = -1)) : -(B : Int) ≤ x.tdiv y ∧ x.tdiv y < B := by
  by_cases h1 : y = 1
  · subst h1; rw [Int.tdiv_one]; exact hx
  by_cases h2 : y = -1
  · subst h2; rw [Int.tdiv_neg, Int.tdiv_one]; omega
  have hy2 : 2 ≤ y.natAbs := by omega
  have hxa : x.natAbs ≤ B := by omega
  have hq : (x.tdiv y).natAbs ≤ B / 2 :=
    Int.natAbs_tdiv x y ▸ Nat.le_trans (Nat.div_le_div_left hy2 (by decide)) (Nat.div_le_div_right hxa)
  omega

theorem fits_tdiv (a b : Int64) (hb : b ≠ 0) (h : ¬(a = Int64.minValue ∧ b = -1)) :
    fits (a.toInt.tdiv b.toInt) = true := by
  rw [← Int64.toInt_inj, ← Int64.toInt_inj (x := b), toInt_neg_one] at h
  exact (fits_iff _).2 (tdiv_mem_range 9223372036854775808 _ _ ((fits_iff _).1 (fits_toInt a))
    (toInt_ne_zero hb) h)

theorem toInt_div_of_no_overflow (a b : Int64) (hb : b ≠ 0) (h : ¬(a = Int64.minValue ∧ b = -1)) :
    (a / b).toInt = a.toInt.tdiv b.toInt := by
  rw [Int64.toInt_div]
  exact bmod_of_fits _ (fits_tdiv a b hb h)

theorem toInt_wrappingAbs (b : Int64) :
    (wrappingAbs b).toInt = Int.bmod b.toInt.natAbs (2 ^ 64) := by
  unfold wrappingAbs
  split
  · rename_i h
    rw [Int64.lt_iff_toInt_lt, Int64.toInt_zero] at h
    rw [Int64.toInt_sub, Int64.toInt_zero]
    congr 1; omega
  · rename_i h
    rw [Int64.lt_iff_toInt_lt, Int64.toInt_zero] at h
    rw [show (b.toInt.natAbs : Int) = b.toInt by omega, bmod_of_fits _ (fits_toInt b)]

/-- Rust's `rem_euclid` on mathematical integers. -/
theorem tmod_add_natAbs (a b : Int) (hb : b ≠ 0) :
    (if a.tmod b < 0 then a.tmod b + b.natAbs else a.tmod b) = a % b := by
  have e1 := Int.emod_nonneg a hb
  have e2 := Int.emod_lt a hb
  have ht : a.tmod b = a % b - ((if 0 ≤ a ∨ b ∣ a then 0 else b.natAbs : Nat) : Int) :=
    Int.tmod_eq_emod
  split at ht <;> split <;> omega

/-- The sum `r + wrapping_abs(b)` may wrap (for `b = MIN`), but the Euclidean remainder it stands
for lies in `[0, |b|)` and so is the wrapped value. -/
theorem toInt_remEuclid (a b : Int64) (hb : b ≠ 0) :
    (remEuclid a b).toInt = a.toInt % b.toInt := by
  have hb' := toInt_ne_zero hb
  have hfit : fits (a.toInt % b.toInt) = true := by
    have := Int.emod_nonneg a.toInt hb'
    have := Int.emod_lt a.toInt hb'
    have := Int64.le_toInt b
    have := Int64.toInt_lt b
    rw [fits_iff]; omega
  have key := tmod_add_natAbs a.toInt b.toInt hb'
  unfold remEuclid
  simp only [Int64.lt_iff_toInt_lt, Int64.toInt_mod, Int64.toInt_zero]
  split
  · rename_i h
    rw [if_pos h] at key
    rw [Int64.toInt_add, Int64.toInt_mod, toInt_wrappingAbs, Int.add_bmod_bmod, key,
      bmod_of_fits _ hfit]
  · rename_i h
    rw [if_neg h] at key
    rw [Int64.toInt_mod]; exact key

theorem pow_not_fits (x : Int) (n : Nat) (hx : 2 ≤ x.natAbs) (hn : 64 ≤ n) : fits (x ^ n) = false := by
  have h1 : (x ^ n).natAbs = x.natAbs ^ n := Int.natAbs_pow x n
  have h2 : 2 ^ n ≤ x.natAbs ^ n := Nat.pow_le_pow_left hx n
  have h3 : 2 ^ 64 ≤ 2 ^ n := Nat.pow_le_pow_right (by decide) hn
  cases hf : fits (x ^ n) with
  | false => rfl
  | true =>
    rw [fits_iff] at hf
    omega

theorem toInt_ofInt_of_fits (n : Int) (h : fits n = true) : (Int64.ofInt n).toInt = n := by
  rw [fits_iff] at h
  exact Int64.toInt_ofInt_of_le (by omega) (by omega)

theorem checkedPow_spec (a : Int64) (n : Nat) :
    checkedPow a n = if fits (a.toInt ^ n) then some (Int64.ofInt (a.toInt ^ n)) else none := by
  unfold checkedPow
  by_cases h : 64 ≤ n ∧ 2 ≤ a.toInt.natAbs
  · simp [h, pow_not_fits a.toInt n h.2 h.1]
  · simp [h]

theorem intArith_div {F : Type} (a b : Int64) :
    intArith (F := F) .div a b =
      if b = 0 then .exception .divZero
      else if a = Int64.minValue ∧ b = -1 then .exception .divOverflow
      else .ok (.int (a / b)) := by
  simp only [intArith, checkedDiv]
  by_cases hb : b = 0
  · rw [if_pos hb, if_pos hb]
  · rw [if_neg hb, if_neg hb, if_neg hb]
    by_cases h : a = Int64.minValue ∧ b = -1
    · rw [if_pos h, if_pos h]
    · rw [if_neg h, if_neg h]

theorem intArith_pow {F : Type} (a n : Int64) :
    intArith (F := F) .pow a n =
      if n.toInt < 0 then .exception .negExponent
      else if 4294967295 < n.toInt then .exception .expTooLarge
      else if fits (a.toInt ^ n.toInt.toNat) then .ok (.int (Int64.ofInt (a.toInt ^ n.toInt.toNat)))
      else .exception .powOverflow := by
  simp only [intArith, Int64.lt_iff_toInt_lt, GT.gt, toInt_u32Max, Int64.toInt_zero, checkedPow_spec]
  by_cases h1 : n.toInt < 0
  · simp only [h1, ↓reduceIte]
  · by_cases h2 : 4294967295 < n.toInt
    · simp only [h1, h2, ↓reduceIte]
    · cases hf : fits (a.toInt ^ n.toInt.toNat) <;> simp only [h1, h2, ↓reduceIte, Bool.false_eq_true]

end IntOps
