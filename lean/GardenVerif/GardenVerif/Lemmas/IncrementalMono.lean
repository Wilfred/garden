import GardenVerif.Lemmas.Resume
import GardenVerif.Props.C08
import GardenVerif.Lemmas.MachineDispatch
/-!
Helper lemmas for C11 (incremental = batch): **definition monotonicity** of the evaluator.

An evaluation that ends with a value under program `p` ends with the same value, after the same number
of steps, in the same state, under any `p'` that adds FUNCTION definitions with fresh names (`Ext`): this
makes "the later inputs' definitions are loaded first" unobservable to the earlier inputs. The proof of
C11 uses `step_mono` (through `Incr.evalC_mono`); `eval_mono_partial` and `request_defs_upfront_partial`
state the same for a whole evaluation and are used by nothing else. `_partial`: added ENUM definitions are not covered
(`Ext.enums` demands equal enums: `display` looks the variant names up in the program, so it needs the
invariant that every enum value on the stacks has a defined type).
-/

namespace C11
open Machine Resume ResumeL

/-- `p'` = `p` plus function definitions. -/
structure Ext (p p' : Program) : Prop where
  enums : p'.enums = p.enums
  funs : ∀ n d, p.funs.find? (fun f => f.name == n) = some d → p'.funs.find? (fun f => f.name == n) = some d
  names : ∀ n v, nsLookup p n = some v → nsLookup p' n = some v

/-- None of the new names is already a function, an enum variant (user or prelude) or a built-in of `p`. -/
def freshFuns (p : Program) (extra : List FunDef) : Bool :=
  extra.all fun d => (nsLookup p d.name).isNone

theorem ext_of_fresh (p : Program) (extra : List FunDef) (h : freshFuns p extra = true) :
    Ext p { p with funs := p.funs ++ extra } := by
  refine ⟨rfl, fun n d hd => by simp [List.find?_append, hd], ?_⟩
  intro n v hv
  unfold nsLookup at hv ⊢
  cases hf : p.funs.find? (fun f => f.name == n) with
  | some d =>
    simp only [hf] at hv
    simp [List.find?_append, hf]
    simpa using hv
  | none =>
    simp only [hf] at hv
    have hn : extra.find? (fun f => f.name == n) = none := by
      rw [List.find?_eq_none]
      intro d hd hdn
      have := List.all_eq_true.mp h d hd
      have hname : d.name = n := by simpa using hdn
      unfold nsLookup at this
      rw [hname, hf] at this
      revert this hv
      cases findVariant (p.enums ++ preludeEnums) n <;> simp
      intro a _; exact a
    simp [List.find?_append, hf, hn]
    simpa using hv

theorem getVar_mono {p p' : Program} (hx : Ext p p') (f : Frame) (n : String) (v : Value)
    (h : getVar p f n = some v) : getVar p' f n = some v := by
  unfold getVar at h ⊢
  split <;> simp_all
  exact hx.names _ _ h


theorem variantName_ext (p p' : Program) (h : p'.enums = p.enums) (ty : String) (idx : Nat) :
    variantName p' ty idx = variantName p ty idx := by
  unfold variantName; rw [h]

mutual
theorem display_ext (p p' : Program) (h : p'.enums = p.enums) : (v : Value) → display p' v = display p v
  | .int v => by simp [display]
  | .str s => by simp [display]
  | .list items => by simp [display, displayList_ext p p' h items]
  | .tuple items => by simp [display, displayList_ext p p' h items]
  | .enumV ty idx none => by simp [display, variantName_ext p p' h]
  | .enumV ty idx (some v) => by simp [display, variantName_ext p p' h, display_ext p p' h v]
  | .enumC ty idx => by simp [display, variantName_ext p p' h]
  | .closure .. => by simp [display]
  | .fn n => by simp [display]
  | .builtin n => by simp [display]
theorem displayList_ext (p p' : Program) (h : p'.enums = p.enums) :
    (l : List Value) → displayList p' l = displayList p l
  | [] => by simp [displayList]
  | v :: vs => by simp [displayList, display_ext p p' h v, displayList_ext p p' h vs]
end

theorem matchCases_mono {p p' : Program} (hx : Ext p p') (f : Frame) (used : Bool) (ty : String) (idx : Nat)
    (pl : Option Value) : ∀ (cases : List Case) (f' : Frame),
    matchCases p f used ty idx pl cases = .ok f' → matchCases p' f used ty idx pl cases = .ok f' := by
  intro cases
  induction cases with
  | nil => intro f' h; simp [matchCases] at h
  | cons c rest ih =>
    intro f' h
    cases c with
    | mk variant dest body =>
      unfold matchCases at h ⊢
      by_cases hv : (variant == "_") = true
      · simp only [hv, if_true] at h ⊢; exact h
      · simp only [hv] at h ⊢
        cases hg : getVar p f variant with
        | none => simp [hg] at h
        | some pv =>
          rw [getVar_mono hx f variant pv hg]
          simp only [hg] at h ⊢
          cases hk : patKey pv with
          | none => simp [hk] at h
          | some pr =>
            obtain ⟨pty, pidx⟩ := pr
            simp only [hk] at h ⊢
            by_cases hc : (ty == pty && idx == pidx) = true
            · simp only [hc, if_true] at h ⊢
              cases hb : bindPayload pl dest with
              | none => simp only [hb] at h ⊢; exact ih _ h
              | some r =>
                cases r with
                | ok bs => simp only [hb] at h ⊢; exact h
                | error er => simp [hb] at h
            · simp only [hc] at h ⊢
              exact ih _ h

def fails : Disp → Bool
  | .err .. => true
  | .panic _ => true
  | _ => false

/-- A call looks at the program for the definition of a function value and, through `display`, for
the enums. -/
theorem callBody_mono {p p' : Program} (hx : Ext p p') (g : Frame) (id : Nat) (used : Bool) (recv : Value)
    (args : List Value) (h : fails (callBody p g id used recv args) = false) :
    callBody p' g id used recv args = callBody p g id used recv args := by
  cases recv with
  | fn name =>
    simp only [callBody] at h ⊢
    cases hf : p.funs.find? (fun d => d.name == name) with
    | none => rw [hf] at h; cases h
    | some d => rw [hx.funs name d hf]
  | builtin name => simp only [callBody, display_ext p p' hx.enums]
  | _ => rfl

theorem evalCall_mono {p p' : Program} (hx : Ext p p') (f : Frame) (id : Nat) (used : Bool) (n : Nat)
    (h : fails (evalCall p f id used n) = false) : evalCall p' f id used n = evalCall p f id used n := by
  rw [evalCall_eq] at h ⊢
  rw [evalCall_eq]
  cases hp : popN n f.values with
  | none => rfl
  | some pr =>
    obtain ⟨args, vals⟩ := pr
    cases vals with
    | nil => rfl
    | cons recv vals => rw [hp] at h; exact callBody_mono hx _ id used recv args h

/-- Only variable lookup (`var`, `update`, the patterns of `match`) and calls look at the program. -/
theorem dispatch_mono_partial {p p' : Program} (hx : Ext p p') (f : Frame) (st : St) (e : Expr)
    (h : fails (dispatch p f st e) = false) : dispatch p' f st e = dispatch p f st e := by
  cases e with
  | var id u n =>
    rw [dispatch_var] at h ⊢
    rw [dispatch_var]
    cases hg : getVar p f n with
    | none => rw [hg] at h; cases h
    | some v => rw [getVar_mono hx f n v hg]
  | update id u isAdd name inner =>
    by_cases hs : st = .E
    · subst hs
      rw [dispatch_update_E] at h ⊢
      rw [dispatch_update_E]
      cases hg : getVar p f name with
      | none => rw [hg] at h; cases h
      | some v => rw [getVar_mono hx f name v hg]
    · rw [dispatch_update_of_ne hs, dispatch_update_of_ne hs]
  | matchE id u scrut cs =>
    by_cases hN : st = .N
    · subst hN; rfl
    · by_cases hE : st = .E
      · subst hE; rfl
      · rw [dispatch_match_run hN hE] at h ⊢
        rw [dispatch_match_run hN hE]
        revert h
        rcases f.values with _ | ⟨sv, vals⟩
        · intro _; rfl
        · intro h
          cases sv <;> try rfl
          simp only [matchBody] at h ⊢
          split at h
          · rename_i f1 hm; rw [matchCases_mono hx _ _ _ _ _ _ _ hm]
          · cases h
  | call id u recv args =>
    cases st <;> try rfl
    exact evalCall_mono hx f _ _ _ h
  | _ => rfl


def withProg (p' : Program) (s : State) : State := { s with prog := p' }

def okStep : StepResult → Bool
  | .cont _ => true
  | .done _ _ => true
  | _ => false

theorem okStep_not_error {r : StepResult} (h : okStep r = true) (s' : State) (er : Err) : r ≠ .error s' er := by
  rintro rfl; cases h

theorem setTop_withProg (p' : Program) (a : State) (f : Frame) :
    setTop (withProg p' a) f = withProg p' (setTop a f) := by
  unfold setTop withProg; cases hf : a.frames <;> simp [hf]

theorem step_mono (s : State) (p' : Program) (hx : Ext s.prog p') (h : okStep (step s) = true) :
    step (withProg p' s) = C08.mapState (withProg p') (step s) := by
  match hf : s.frames with
  | [] => rw [step_nil hf] at h; cases h
  | f :: callers =>
    match he : f.exprs with
    | [] =>
      match callers with
      | [] =>
        rw [step_finish hf he, step_finish (s := withProg p' s) hf he]
        rcases f.values with _ | ⟨v, vals⟩ <;> rfl
      | caller :: rest =>
        rw [step_return hf he, step_return (s := withProg p' s) hf he]
        rcases f.values with _ | ⟨rv, vals⟩
        · rfl
        · show (if (f.callerId.isSome && s.stopAt == f.callerId) = true then _ else _) =
            C08.mapState (withProg p') (if (f.callerId.isSome && s.stopAt == f.callerId) = true then _ else _)
          split <;> rfl
    | (st, e) :: rest =>
      have hr : refusal s = none := refusal_none_of_not_error hf he (okStep_not_error h)
      rw [step_popped hf he, hr] at h ⊢
      rw [step_popped (s := withProg p' s) hf he, show refusal (withProg p' s) = none from hr,
        C08.mapState_eq, TestRunner.mapState_post (withProg p') (fun _ _ => rfl) (fun _ _ _ => rfl) (fun _ => rfl)]
      have hfl : fails (dispatch s.prog { f with exprs := rest } st e) = false := by
        cases hd : dispatch s.prog { f with exprs := rest } st e <;> first | rfl | (rw [hd] at h; cases h)
      exact congrArg (post _ callers st e) (dispatch_mono_partial hx _ st e hfl)

/-- `_partial`: function definitions only. -/
theorem eval_mono_partial (p' : Program) : ∀ (n : Nat) (s s' : State) (v : Value),
    Ext s.prog p' → Resume.eval n s = .done s' v →
    Resume.eval n (withProg p' s) = .done (withProg p' s') v := by
  intro n
  induction n with
  | zero => intro s s' v hx h; cases h
  | succ n ih =>
    intro s s' v hx h
    rw [eval_done_iff] at h ⊢
    rcases h with hs | ⟨s1, hs, h⟩
    · left; rw [step_mono s p' hx (by rw [hs]; rfl), hs]; rfl
    · right
      refine ⟨withProg p' s1, by rw [step_mono s p' hx (by rw [hs]; rfl), hs]; rfl, ?_⟩
      exact ih s1 s' v (by rw [step_prog (by rw [hs]; rfl)]; exact hx) h

/-- Corollary for one `run` request: loading further FUNCTION definitions with fresh names before
the request does not change its value. -/
theorem request_defs_upfront_partial (fuel : Nat) (s s' : State) (exprs : List Expr) (last : Expr)
    (v : Value) (extra : List FunDef) (hfresh : freshFuns s.prog extra = true)
    (h : Resume.eval fuel { setExprs s exprs with stopAt := some last.id } = .done s' v) :
    Resume.eval fuel (withProg { s.prog with funs := s.prog.funs ++ extra }
        { setExprs s exprs with stopAt := some last.id }) =
      .done (withProg { s.prog with funs := s.prog.funs ++ extra } s') v := by
  apply eval_mono_partial
  · have : ({ setExprs s exprs with stopAt := some last.id } : State).prog = s.prog := by
      unfold setExprs; cases s.frames <;> rfl
    rw [this]; exact ext_of_fresh s.prog extra hfresh
  · exact h

end C11
