import GardenVerif.Props.C21
import GardenVerif.Lemmas.Fixes
/-!
# C22 — `check --fix` edits are safe

(V) certified validator + exact model of the decisive phase.

* `apply_fixes_disjoint`: exact model `applyFixes` of `apply_fixes` (src/syntax_check.rs 40-54: stable sort by
  start offset descending, sequential splice, explicit panic when a slice bound is beyond the current text). For
  fixes that are the pairwise-disjoint, in-bounds ranges of a segmented text — given in ANY order — the result is
  the simultaneous substitution and there is no panic. Whether the real fix list satisfies the precondition is
  evaluated per input by the driver (`fixes_check`), which also compares the model's output with the real one.
  `apply_fixes_skip_disjoint` is the same statement for the variant `applyFixesSkip` of `apply_fixes` that skips a
  fix overlapping an already applied one (patches/refactor-fix-apply-fixes-skip-overlap.diff; no panic outcome);
  the harness takes the model variant that matches the source it builds. `fixesOf_disjoint`: the ranges of a
  segmented text pass `fixesDisjointSorted`, the test by which the driver (`fixes_check`) decides the precondition.
* per-lint schema soundness on `RefSem` (what each fix claims to do).
  Local lemmas, exact in fuel: `unused_literal_stmt_sound`, `unused_string_stmt_sound` (a literal statement that
  is not the last of its block can be dropped), `unnecessary_let_sound` (`let x = e; x` at the end of a block has
  the value and output of `e`), `repeated_bool_sound` (`(a op b) op a = a op b` on Bool values, `&&` / `||` being
  strict in garden).
  Whole-program theorems (closure-free restriction `cl = false`, hence `_partial`; all programs, all fuel):
  `unused_literal_fix_sound_partial`, `repeated_bool_fix_sound_partial` (see there). The relations
  (`Fixes.IsUnusedLiteralFix`, `Fixes.IsRepeatedBoolFix`) are decided per input by the driver ops `litfix_check` /
  `rbfix_check` on the two trees of the real parser (`unusedLiteralCheck_sound`, `repeatedBoolCheck_sound`).
  Not proved: (1) the whole-program lift of `unnecessary_let_sound`: the fixed program allocates one store cell
  less, so every later location differs; the runs are equal only up to an injection of store locations, which
  needs a simulation relation on stores / environments instead of the equality the congruence provides;
  (2) the same theorems with closures (`cl = true`): need the value-relation technique of Props/C19;
  (3) the unused-variable `_` prefix and `len() == 0` schemas (method calls are outside the fragment).
  Per input the direct oracle runs the real evaluator on the program before and after `--fix`.
-/

namespace C22
open Validators RefSem Extract Fixes
open Machine (Program Expr Dest BinOp)

theorem apply_fixes_disjoint {α} (segs : List (List α × List α × List α)) (last : List α) (fixes : List (Fix α))
    (h : fixes.mergeSort (fun a b => decide (b.start ≤ a.start)) = (fixesOf 0 segs).reverse) :
    applyFixes (buildText3 segs last) fixes = some (buildFixed segs last) := by
  unfold applyFixes applyFixesSorted
  rw [h, List.foldl_reverse]
  have := applyFixes_foldr segs [] last
  simpa using this

theorem apply_fixes_skip_disjoint {α} (segs : List (List α × List α × List α)) (last : List α)
    (fixes : List (Fix α))
    (h : fixes.mergeSort (fun a b => decide (b.start ≤ a.start)) = (fixesOf 0 segs).reverse) :
    applyFixesSkip (buildText3 segs last) fixes = buildFixed segs last := by
  unfold applyFixesSkip
  rw [h]
  obtain ⟨b', _, hh⟩ := applyFixesSkipGo_spec segs [] last [] (buildText3 segs last).length (by simp)
  simpa [applyFixesSkipGo] using hh

/-- With `applyFixesSkipGo` the stale one of two overlapping fixes is skipped. -/
example : applyFixesSkipGo [⟨2, 3, [7, 7, 7]⟩, ⟨1, 4, []⟩] [0, 1, 2, 3, 4, 5] 6 = [0, 1, 7, 7, 7, 3, 4, 5] := by
  decide

theorem fixesOf_disjoint {α} : ∀ (segs : List (List α × List α × List α)) (last : List α) (i : Nat),
    fixesDisjointSorted (i + (buildText3 segs last).length) i (fixesOf i segs) = true
  | [], last, i => by simp [fixesOf, fixesDisjointSorted]
  | (g, t, nw) :: rest, last, i => by
      have ih := fixesOf_disjoint rest last (i + g.length + t.length)
      simp only [fixesOf, fixesDisjointSorted, buildText3, List.length_append, Bool.and_eq_true, decide_eq_true_eq]
      refine ⟨⟨by omega, by omega⟩, ?_⟩
      have e : i + (g.length + t.length + (buildText3 rest last).length)
          = i + g.length + t.length + (buildText3 rest last).length := by omega
      rw [e]; exact ih

/-- Non-trivial instance: two fixes given in ascending order (the Rust sorts them descending). -/
example : applyFixesSorted [0, 1, 2, 3, 4, 5, 6] [⟨4, 6, [9, 9, 9]⟩, ⟨1, 2, []⟩] = some [0, 2, 3, 9, 9, 9, 6] := by
  decide

/-- Overlapping fixes are NOT the simultaneous substitution (why the precondition matters):
deleting 1..4 and replacing 2..3 leaves a stale offset. -/
example : applyFixesSorted [0, 1, 2, 3, 4, 5] [⟨2, 3, [7, 7, 7]⟩, ⟨1, 4, []⟩] = some [0, 7, 3, 4, 5] := by decide

theorem unused_literal_stmt_sound (cl : Bool) (p : Program) (n : Nat) (env : Env) (s : RefSem.St)
    (id : Nat) (u : Bool) (v : Int64) (e2 : Expr) (rest : List Expr) :
    evalSeq cl p (n + 2) env s (.int id u v :: e2 :: rest) = evalSeq cl p (n + 1) env s (e2 :: rest) :=
  (evalSeq_lit cl p (n + 1) env s rfl rfl).trans (if_neg (Nat.succ_ne_zero n))

theorem unused_string_stmt_sound (cl : Bool) (p : Program) (n : Nat) (env : Env) (s : RefSem.St)
    (id : Nat) (u : Bool) (v : String) (e2 : Expr) (rest : List Expr) :
    evalSeq cl p (n + 2) env s (.str id u v :: e2 :: rest) = evalSeq cl p (n + 1) env s (e2 :: rest) :=
  (evalSeq_lit cl p (n + 1) env s rfl rfl).trans (if_neg (Nat.succ_ne_zero n))

theorem unnecessary_let_sound (cl : Bool) (p : Program) (n : Nat) (env : Env) (s : RefSem.St)
    (id id2 : Nat) (u u2 : Bool) (x : String) (e : Expr) (hx : x ≠ "_") :
    (evalSeq cl p (n + 3) env s [.letE id u (.sym x) e, .var id2 u2 x]).1 = (eval cl p (n + 2) env s e).1 ∧
    (evalSeq cl p (n + 3) env s [.letE id u (.sym x) e, .var id2 u2 x]).2.out = (eval cl p (n + 2) env s e).2.out := by
  have hx' : (x == "_") = false := by simpa using hx
  simp only [evalSeq]
  cases h : eval cl p (n + 2) env s e with
  | mk r s1 =>
    cases r <;> simp only [RefSem.bind, and_self]
    simp only [RefSem.bindDest, RefSem.bindNames, hx', Bool.false_eq_true, if_false, eval,
      RefSem.lookupVar, RefSem.lookup, beq_self_eq_true, if_true]
    simp

theorem repeated_bool_sound (a b : Bool) :
    RefSem.binop .or (vBool (a || b)) (vBool a) = RefSem.binop .or (vBool a) (vBool b) ∧
    RefSem.binop .and (vBool (a && b)) (vBool a) = RefSem.binop .and (vBool a) (vBool b) := by
  cases a <;> cases b <;> simp [RefSem.binop, vBool, Val.asBool]

theorem repeatedBoolCheck_sound (orig fixed : Program) (op : BinOp) (k t : Nat)
    (h : repeatedBoolCheck orig fixed op k t = true) : IsRepeatedBoolFix orig fixed op k t := by
  simp only [repeatedBoolCheck, Bool.and_eq_true, beq_iff_eq] at h
  exact ⟨progEq_sound _ _ h.1, h.2⟩

/-- Whole-program soundness of the repeated-operand fix (closure-free restriction `cl = false`, hence
`_partial`): if `fixed` is `orig` with one node `x op d` replaced by `x` — `x` a call-free pure chain of
the strict Boolean operator `op`, `d` a copy of its `k`-th operand — anywhere in the program, then
(1) a run of `fixed` that ends with fuel `n` is reproduced exactly (result, store, output) by `orig` with
    fuel `2 * n`, unless `orig` ends with a type error (the removed operand was not a Bool);
(2) a run of `orig` that ends with fuel `n`, not with a type error, is exactly the run of `fixed`.
So when the original runs without error, the fixed program prints the same and ends the same.
Lifted from the local lemma (`Fixes.local_rb`, from the absorption law `Fixes.opB_absorb` and
`Fixes.chain_absorb`) through arbitrary contexts by the congruence `C21.eval_congr_partial`. -/
theorem repeated_bool_fix_sound_partial (orig fixed : Program) (op : BinOp) (k t : Nat)
    (h : IsRepeatedBoolFix orig fixed op k t) :
    (∀ n, isTO (run false fixed n).1 = false →
      run false orig (2 * n) = run false fixed n ∨ (run false orig (2 * n)).1 = .err .typeError) ∧
    (∀ n, isTO (run false orig n).1 = false →
      run false fixed n = run false orig n ∨ (run false orig n).1 = .err .typeError) := by
  have hto : ∀ r : Res, r = .err .typeError → isTO r = false := by intro r hr; subst hr; rfl
  have hc := C21.eval_congr_partial (rbCfg op k t) fixed (local_rb op k t fixed) (bokSeq_true _)
  have hk : (rbCfg op k t).k + 1 = 2 := rfl
  rw [hk, ← h.1] at hc
  constructor
  · intro n hn
    rcases hc.1 n hn with h1 | h1
    · left
      have := C21.strip_invariant_partial orig (2 * n) (Or.inr (by rw [h1]; exact hn))
      rw [← this, h1]
    · right
      have e := failedBy_some h1
      have := C21.strip_invariant_partial orig (2 * n) (Or.inr (hto _ e))
      rw [← this]; exact e
  · intro n hn
    have e := C21.strip_invariant_partial orig n (Or.inl hn)
    rcases hc.2 n (by rw [e]; exact hn) with h1 | h1
    · left; rw [h1, e]
    · right; rw [← e]; exact failedBy_some h1

theorem repeated_bool_fix_behaviour_partial (orig fixed : Program) (op : BinOp) (k t : Nat)
    (h : repeatedBoolCheck orig fixed op k t = true) (n : Nat)
    (hn : (behaviour false orig n).1 ≠ .timeout) (he : (behaviour false orig n).1 ≠ .error .typeError) :
    behaviour false fixed n = behaviour false orig n := by
  have hto : isTO (run false orig n).1 = false := isTO_of_outcome hn
  rcases (repeated_bool_fix_sound_partial orig fixed op k t (repeatedBoolCheck_sound _ _ _ _ _ h)).2 n hto with h1 | h1
  · simp only [behaviour, h1]
  · simp only [behaviour, h1, Res.outcome] at he; exact absurd rfl he

/-- Non-trivial instance: `fun f(x, y) { x && y && x }` and the fixed `fun f(x, y) { x && y }` (fresh ids). -/
example :
    let orig : Program := ⟨[⟨"f", ["x", "y"], [.binop 5 true .and (.binop 3 true .and (.var 1 true "x") (.var 2 true "y"))
      (.var 4 true "x")]⟩], [], []⟩
    let fixed : Program := ⟨[⟨"f", ["x", "y"], [.binop 13 true .and (.var 11 true "x") (.var 12 true "y")]⟩], [], []⟩
    repeatedBoolCheck orig fixed .and 0 13 = true := by
  intro orig fixed
  have h : WP stripCfg orig = WP (rbCfg .and 0 13) fixed := by rfl
  rw [repeatedBoolCheck, progEq_of_eq h]; rfl

theorem unusedLiteralCheck_sound (orig fixed : Program) (sel : Nat → Bool)
    (h : unusedLiteralCheck orig fixed sel = true) : IsUnusedLiteralFix orig fixed sel :=
  progEq_sound _ _ h

/-- Whole-program soundness of the unused-literal fix (closure-free restriction, hence `_partial`): if
`fixed` is `orig` with any set of int / string literal STATEMENTS that are not the last statement of
their sequence deleted — in function bodies, nested blocks, loop bodies, match arms, anywhere — and no
single sequence loses more than `K` statements (`dokProg`, decidable; any `K ≥` the number of fixes
will do), then
(1) a run of `orig` that ends with fuel `n` is exactly (result, store, output) the run of `fixed` with
    the same fuel;
(2) a run of `fixed` that ends with fuel `n` is exactly the run of `orig` with fuel `(K + 1) * n`.
Lifted from the local lemma (`Fixes.evalSeq_lit`: a literal statement costs one level of fuel
and nothing else) by a dedicated pair of simulations (`Fixes.simDF_all`, `Fixes.simDB_all`): a deleted
statement is not a node replacement, so `eval_congr_partial` does not apply to it. -/
theorem unused_literal_fix_sound_partial (orig fixed : Program) (sel : Nat → Bool) (K : Nat)
    (h : IsUnusedLiteralFix orig fixed sel) (hk : dokProg sel K orig = true) :
    (∀ n, isTO (run false orig n).1 = false → run false fixed n = run false orig n) ∧
    (∀ n, isTO (run false fixed n).1 = false → run false orig ((K + 1) * n) = run false fixed n) := by
  simp only [dokProg, Bool.and_eq_true, List.all_eq_true] at hk
  unfold IsUnusedLiteralFix at h
  constructor
  · intro n hn
    have h1 := ((simDF_all sel orig n n (Nat.le_refl _)).seq [] St.init orig.toplevel).eq_of_not_to hn
    have h1' : run false (delProg sel orig) n = run false orig n := h1.symm
    rw [strip_eq_run h n (Or.inl (by rw [h1']; exact hn)), h1']
  · intro n hn
    have e : run false (delProg sel orig) n = run false fixed n := (strip_eq_run h n (Or.inr hn)).symm
    have hd : dels sel orig.toplevel ≤ K := by
      have := hk.2; simp only [dokSeq, Bool.and_eq_true, decide_eq_true_eq] at this; exact this.1
    have h1 := ((simDB_all hk.1 n).seq ((K + 1) * n) orig.toplevel (by simp only [thr]; omega) hk.2
      [] St.init).eq_of_not_to (by
        show isTO (run false (delProg sel orig) n).1 = false
        rw [e]; exact hn)
    have h1' : run false (delProg sel orig) n = run false orig ((K + 1) * n) := h1
    rw [← h1', e]

theorem unused_literal_fix_behaviour_partial (orig fixed : Program) (sel : Nat → Bool) (K : Nat)
    (h : unusedLiteralCheck orig fixed sel = true) (hk : dokProg sel K orig = true) (n : Nat)
    (hn : (behaviour false orig n).1 ≠ .timeout) : behaviour false fixed n = behaviour false orig n := by
  have hto : isTO (run false orig n).1 = false := isTO_of_outcome hn
  simp only [behaviour,
    (unused_literal_fix_sound_partial orig fixed sel K (unusedLiteralCheck_sound _ _ _ h) hk).1 n hto]

/-- Non-trivial instance: `fun f() { 1  println("x")  "s"  2 }  f()` loses the statements `1` (node 1)
and `"s"` (node 5); the last statement `2` stays even if selected. -/
example :
    let orig : Program := ⟨[⟨"f", [], [.int 1 false 1, .call 4 false (.var 2 true "println") [.str 3 true "x"],
      .str 5 false "s", .int 6 true 2]⟩], [], [.call 8 true (.var 7 true "f") []]⟩
    let fixed : Program := ⟨[⟨"f", [], [.call 13 false (.var 11 true "println") [.str 12 true "x"],
      .int 14 true 2]⟩], [], [.call 16 true (.var 15 true "f") []]⟩
    unusedLiteralCheck orig fixed (fun i => i == 1 || i == 5 || i == 6) = true ∧
      dokProg (fun i => i == 1 || i == 5 || i == 6) 2 orig = true := by
  intro orig fixed
  have h : WP stripCfg fixed = WP stripCfg (delProg (fun i => i == 1 || i == 5 || i == 6) orig) := by rfl
  exact ⟨progEq_of_eq h, by decide⟩

end C22
