import GardenVerif.Lemmas.Format
/-!
C18 — Formatting is idempotent (DESIGN §7 C18). Of this only phase 9 is proved.

What is proved here, for all texts: phase 9 (`finalNewline`) is idempotent, and `applySpanEdits`
with no edits returns the text (`applySpanEdits t [] = .ok t`). Nothing is proved about phases 4 to 6
applied to their own output. Whether the edit *collectors* (the visitor,
`collect_comment_edits`, `fix_type_annotation_spacing`, `normalize_token_spacing`,
`wrap_long_signatures`) emit no edits on formatted text is NOT modelled; it is decided per input by
running the real formatter twice (harness/c18.py).
-/
namespace C18
open Fmt

theorem apply_no_span_edits_id (t : MText) : applySpanEdits t [] = .ok t := by
  simp [applySpanEdits]

/-- Phase 9 (strip surplus final newlines, add a missing one) is idempotent. -/
theorem finalNewline_idem (t : MText) : finalNewline (finalNewline t) = finalNewline t := by
  simp [finalNewline, finalNewlineRev_idem]

example : finalNewline (plain [120, 10, 10, 10]) = plain [120, 10] := by decide
example : finalNewline (plain [120]) = plain [120, 10] := by decide

end C18
