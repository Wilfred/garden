import GardenVerif.Model.Format
/-!
For C17 / C18: `finalNewlineRev` is idempotent; segmentations related by `legalGapRewrite` have the
same view; span edits within `spansInGaps` and indentation edits within `linesOK` leave `content` unchanged.
-/
namespace Fmt

theorem popNlRev_idem (r : MText) : popNlRev (popNlRev r) = popNlRev r := by
  fun_induction popNlRev r with
  | case1 a b rest h ih => exact ih
  | case2 a b rest h =>
    rw [popNlRev]; simp [h]
  | case3 l h =>
    unfold popNlRev
    split
    · rename_i a b rest
      exact absurd rfl (h a b rest)
    · rfl

theorem finalNewlineRev_idem (r : MText) : finalNewlineRev (finalNewlineRev r) = finalNewlineRev r := by
  unfold finalNewlineRev
  generalize hp : popNlRev r = p
  have hidem : popNlRev p = p := by rw [← hp, popNlRev_idem]
  cases p with
  | nil => simp [popNlRev]
  | cons a rest =>
    by_cases ha : isNl a = true
    · simp [ha, hidem]
    · have ha' : isNl a = false := by simpa using ha
      have : popNlRev (NL :: a :: rest) = NL :: a :: rest := by
        rw [popNlRev]; simp [ha']
      have hnl : isNl NL = true := by simp [isNl, NL]
      simp only [ha', Bool.false_eq_true, ↓reduceIte, this, hnl]

theorem commentsSame_refl (l : List VComment) : commentsSame l l = true := by
  induction l with
  | nil => simp [commentsSame]
  | cons a as ih => simp [commentsSame, ih]

theorem toksSame_refl (l : List VTok) : ∀ hist, toksSame hist l l = true := by
  induction l with
  | nil => intro hist; simp [toksSame]
  | cons a as ih =>
    intro hist
    simp only [toksSame, ih, commentsSame_refl, beq_self_eq_true, Bool.and_true, Bool.true_and]
    rw [Bool.and_eq_true]
    constructor
    · cases touchRule hist a.text <;> cases a.touchesPrev <;> rfl
    · cases hist <;> simp

theorem sameTokens_refl (v : View) : sameTokens v v = true := by
  simp [sameTokens, toksSame_refl, commentsSame_refl]

theorem viewGo_congr (ps : List Piece) : ∀ (qs : List Piece) (st : VState),
    piecesLegal ps qs = true → viewGo st ps = viewGo st qs := by
  induction ps with
  | nil =>
    intro qs st h
    cases qs with
    | nil => rfl
    | cons q qs => simp [piecesLegal] at h
  | cons p ps ih =>
    intro qs st h
    cases qs with
    | nil => simp [piecesLegal] at h
    | cons q qs =>
      simp only [piecesLegal, Bool.and_eq_true, beq_iff_eq] at h
      obtain ⟨⟨⟨⟨⟨hk, ht⟩, _⟩, hn⟩, he⟩, hrest⟩ := h
      unfold viewGo
      simp only [hk, ht, hn, he]
      cases q.kind with
      | comment => simp only; exact ih qs _ hrest
      | tok => simp only; rw [ih qs _ hrest]

theorem view_eq_of_legal (a b : Segd) (h : legalGapRewrite a b = true) : a.view = b.view := by
  simp only [legalGapRewrite, Bool.and_eq_true] at h
  simp only [Segd.view, viewGo_congr a.pieces b.pieces _ h.1]

theorem content_append (a b : MText) : content (a ++ b) = content a ++ content b := by
  simp [content]

theorem content_unmarked (l : MText) (h : l.all (fun x => !marked x) = true) : content l = [] := by
  simp only [content, List.filter_eq_nil_iff]
  intro x hx
  have := List.all_eq_true.mp h x hx
  simpa using this

theorem content_spaces (k : Nat) : content (spaces k) = [] := by
  apply content_unmarked
  simp [spaces, List.all_replicate, marked, SP]

theorem split3 (t : MText) (s e : Nat) (h1 : s ≤ e) :
    t = t.take s ++ ((t.drop s).take (e - s) ++ t.drop e) := by
  have h : (t.drop s).drop (e - s) = t.drop e := by
    rw [List.drop_drop]; congr 1; omega
  rw [← h, List.take_append_drop, List.take_append_drop]

theorem take_eq_of_le {α : Type} {a b : List α} {n k : Nat} (h : a.take n = b.take n) (hk : k ≤ n) :
    a.take k = b.take k := by
  have := congrArg (List.take k) h
  rwa [List.take_take, List.take_take, Nat.min_eq_left hk] at this

theorem replaceRange_content (t : MText) (e : SpanEdit) (h1 : e.start ≤ e.stop) (h2 : e.stop ≤ t.length)
    (hu : ((t.drop e.start).take (e.stop - e.start)).all (fun x => !marked x) = true)
    (hr : e.repl.all (fun x => !marked x) = true) :
    replaceRange t e = .ok (t.take e.start ++ e.repl ++ t.drop e.stop) ∧
    content (t.take e.start ++ e.repl ++ t.drop e.stop) = content t := by
  constructor
  · have a : ¬ e.start > e.stop := by omega
    have b : ¬ e.stop > t.length := by omega
    simp [replaceRange, a, b]
  · conv => rhs; rw [split3 t e.start e.stop h1]
    simp [content_append, content_unmarked _ hu, content_unmarked _ hr]

theorem applySorted_content (t : MText) : ∀ (es : List SpanEdit) (cur : MText) (bound : Nat),
    spansInGaps t bound es = true → bound ≤ cur.length → cur.take bound = t.take bound →
    ∃ r, applySorted cur es = .ok r ∧ content r = content cur := by
  intro es
  induction es with
  | nil => intro cur bound _ _ _; exact ⟨cur, rfl, rfl⟩
  | cons e es ih =>
    intro cur bound h hb hp
    simp only [spansInGaps, Bool.and_eq_true, decide_eq_true_eq] at h
    obtain ⟨⟨⟨⟨h1, h2⟩, hu⟩, hr⟩, hrest⟩ := h
    have hrange : (cur.drop e.start).take (e.stop - e.start) = (t.drop e.start).take (e.stop - e.start) := by
      rw [List.take_drop, List.take_drop, show e.start + (e.stop - e.start) = e.stop by omega,
        take_eq_of_le hp h2]
    obtain ⟨hok, hc⟩ := replaceRange_content cur e h1 (by omega) (by rw [hrange]; exact hu) hr
    have hlen : e.start ≤ (cur.take e.start ++ e.repl ++ cur.drop e.stop).length := by
      simp; omega
    have hpre : (cur.take e.start ++ e.repl ++ cur.drop e.stop).take e.start = t.take e.start := by
      have hl : (cur.take e.start).length = e.start := by simp; omega
      rw [List.append_assoc, List.take_left' hl, take_eq_of_le hp (Nat.le_trans h1 h2)]
    obtain ⟨r, hr1, hr2⟩ := ih _ e.start hrest hlen hpre
    refine ⟨r, ?_, by rw [hr2, hc]⟩
    simp only [applySorted, hok]
    exact hr1

theorem content_single_unmarked (c : MByte) (h : (!marked c) = true) : content [c] = [] := by
  apply content_unmarked; simp [h]

theorem content_NL : content [NL] = [] := by decide

theorem rawLines_flatten (t : MText) : (rawLines t).flatMap Line.flat = t := by
  induction t with
  | nil => simp [rawLines]
  | cons c cs ih =>
    unfold rawLines
    split
    · rename_i hc
      simp [Line.flat, ih]
    · rename_i hc
      split
      · rename_i h0
        rw [h0] at ih
        simp at ih
        simp [Line.flat, ← ih]
      · rename_i l rest h0
        rw [h0] at ih
        simp only [List.flatMap_cons] at ih ⊢
        simp only [Line.flat] at ih ⊢
        rw [← ih]
        simp

theorem takeWhile_unmarked_content (t : MText) (h : (t.takeWhile isWs).all (fun x => !marked x) = true) :
    content (t.dropWhile isWs) = content t := by
  conv => rhs; rw [← List.takeWhile_append_dropWhile (p := isWs) (l := t)]
  rw [content_append, content_unmarked _ h]; simp

-- The hypothesis here and in `sep_content` is the `let termOK` of `lineOK` after unfolding: a bare `match`.
theorem termOK_content (l : Line) (h : (match l.term with | some c => !marked c | none => true) = true) :
    content l.term.toList = [] := by
  cases ht : l.term with
  | none => simp [content]
  | some c => rw [ht] at h; simpa [content] using h

theorem sep_content (l : Line) (n i : Nat)
    (h : (decide (i + 1 < n) || (match l.term with | some c => !marked c | none => true)) = true) :
    content (if i + 1 < n then [l.term.getD NL] else []) = content l.term.toList := by
  by_cases hk : i + 1 < n
  · simp only [hk, if_true]
    cases ht : l.term with
    | none => simp [content, marked, NL]
    | some c => simp
  · simp only [hk, if_false]
    simp only [hk, decide_false, Bool.false_or] at h
    rw [termOK_content l h]; simp [content]

theorem outLine_content (edits : List (Nat × Nat)) (n i : Nat) (l : Line)
    (h : lineOK edits n i l = true) : content (outLine edits n i l) = content l.flat := by
  unfold lineOK at h
  unfold outLine
  simp only [Line.flat, content_append]
  cases he : lookupEdit edits i with
  | none =>
    simp only [he, Bool.and_eq_true, beq_iff_eq] at h
    simp only [content_append, h.1, sep_content l n i h.2]
  | some k =>
    simp only [he, Bool.and_eq_true, beq_iff_eq] at h
    obtain ⟨⟨hws, hcr⟩, hterm⟩ := h
    have hc := takeWhile_unmarked_content l.text hws
    by_cases hemp : (l.text.dropWhile isWs).isEmpty = true
    · simp only [hemp, if_true] at hterm ⊢
      have : l.text.dropWhile isWs = [] := by simpa using hemp
      rw [this] at hc
      rw [content_NL, ← hcr, ← hc, termOK_content l hterm]
      simp [content]
    · simp only [hemp, Bool.false_eq_true, if_false] at hterm ⊢
      rw [content_append, content_append, content_spaces, hc, hcr, sep_content l n i hterm]
      simp

theorem indentGo_content (edits : List (Nat × Nat)) (n : Nat) (ls : List Line) : ∀ i,
    linesOK edits n i ls = true → content (indentGo edits n i ls) = content (ls.flatMap Line.flat) := by
  induction ls with
  | nil => intro i _; simp [indentGo]
  | cons l ls ih =>
    intro i h
    simp only [linesOK, Bool.and_eq_true] at h
    simp only [indentGo, List.flatMap_cons, content_append, outLine_content edits n i l h.1, ih (i + 1) h.2]

end Fmt
