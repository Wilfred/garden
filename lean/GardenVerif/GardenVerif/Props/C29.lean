import GardenVerif.Lemmas.LspPos
/-!
# C29 — LSP positions and edits map exactly onto the document

Model: M9 (`Model/LspPos.lean`), a transcription of `offset_to_lsp_position`,
`garden_pos_to_lsp_range`, `line_char_to_offset`, `whole_document_range` of `src/lsp.rs`, and the
LSP specification's definition of applying a `TextEdit` (`applyEdit`, lines end at `\n`, `\r\n`
or `\r`, columns are UTF-16 code units).

All theorems quantify over every document (`List Char`, any Unicode scalar values) and every
offset. The only size hypothesis is `byteLen src < 2^32`, which is what makes the Rust's
`as u32` casts lossless (LSP positions are `u32`).

* `offset_roundtrip` — the property's first sentence ("converting a byte offset to an LSP position
  and back yields the same offset, for every document and every character-boundary offset").
* `whole_range_covers` — `whole_document_range` converts back to `0 .. src.len()` for every
  document, **with no hypothesis about `'\r'`**: in the implementation's own line model (only
  `'\n'` ends a line; `str::lines()` keeps a final bare `'\r'`) the range is always exact.
* `apply_edit_spec`, `apply_whole_replace` — the second sentence ("text edits the server returns,
  applied as the LSP specification defines, produce exactly the text …"): an edit whose range the
  server computed from byte offsets, applied as the *specification* defines, replaces exactly those
  bytes. This needs `NoBareCR` (every `'\r'` is followed by `'\n'`), because the specification
  also ends a line at a bare `'\r'` and the implementation does not, and that neither end of the
  edit lies between the `'\r'` and the `'\n'` of a CRLF (`ha`, `hab` of `apply_edit_spec`);
  `apply_whole_replace_needs_noBareCR` shows on concrete witnesses (`"a\rb"`, `"a\r"`) that the
  hypothesis cannot be dropped. (Not proved: that *every* document with a bare CR fails, i.e.
  that `NoBareCR` is also necessary document by document; /verif/harness/c29.py observes it on all
  documents of length ≤ 5 over `{a, é, €, 😀, \r, \n}`, failure id `C29/bare-CR-line-model`.)
-/

namespace C29
open LspPos

/-- Back both with the line as it was passed in (`lineOf src o`) and with the position's line (`p.line`,
its `as u32` cast). For the end of a prefix `pre` that line is `countNl pre` (`lineOf_prefix`), which is
how `apply_edit_spec` names it. -/
theorem offset_roundtrip (src : List Char) (o : Nat) (hb : IsCharBoundary src o)
    (hsz : byteLen src < 4294967296) :
    ∃ p, offsetToLspPosition src o (lineOf src o) = some p ∧
      lineCharToOffset src (lineOf src o) p.character = o ∧
      lineCharToOffset src p.line p.character = o := by
  obtain ⟨pre, post, rfl, rfl⟩ := (isCharBoundary_iff src o).mp hb
  rw [lineOf_prefix, offsetToLspPosition_prefix]
  refine ⟨_, rfl, ?_⟩
  have hs := asU32_pos_small (l := pre) (by rw [byteLen_append] at hsz; omega)
  simp only [hs.1, hs.2, lineCharToOffset_prefix, and_self]

example : IsCharBoundary "é€\n😀x".toList 10 ∧ lineOf "é€\n😀x".toList 10 = 1 ∧
    offsetToLspPosition "é€\n😀x".toList 10 1 = some ⟨1, 2⟩ ∧
    lineCharToOffset "é€\n😀x".toList 1 2 = 10 := by decide +kernel

/-- The conversion panics exactly on offsets strictly inside the document that are not
character boundaries (the slice `src[..offset]`); offsets past the end are clamped. -/
theorem offsetToLspPosition_isSome_iff (src : List Char) (o line : Nat) :
    (offsetToLspPosition src o line).isSome ↔ (IsCharBoundary src o ∨ byteLen src ≤ o) := by
  unfold offsetToLspPosition IsCharBoundary isCharBoundary
  by_cases h : byteLen src ≤ o
  · have hm : min o (byteLen src) = byteLen src := by omega
    have := prefixAt_byteLen src []
    simp only [List.append_nil] at this
    simp [hm, this, h]
  · have hm : min o (byteLen src) = o := by omega
    rw [hm]
    cases hp : prefixAt src o with
    | none => simp [h, hp]
    | some pre => simp [hp]


example : offsetToLspPosition "a😀".toList 2 0 = none ∧
    offsetToLspPosition "a😀".toList 99 0 = some ⟨0, 3⟩ := by decide +kernel

theorem position_injective (src : List Char) (o₁ o₂ : Nat)
    (h₁ : IsCharBoundary src o₁) (h₂ : IsCharBoundary src o₂) (hsz : byteLen src < 4294967296)
    (heq : offsetToLspPosition src o₁ (lineOf src o₁) = offsetToLspPosition src o₂ (lineOf src o₂)) :
    o₁ = o₂ := by
  obtain ⟨p₁, hp₁, _, hr₁⟩ := offset_roundtrip src o₁ h₁ hsz
  obtain ⟨p₂, hp₂, _, hr₂⟩ := offset_roundtrip src o₂ h₂ hsz
  rw [hp₁, hp₂] at heq
  injection heq with heq
  subst heq
  rw [← hr₁, ← hr₂]

theorem whole_range_covers (src : List Char) (hsz : byteLen src < 4294967296) :
    lineCharToOffset src (wholeDocumentRange src).start.line
      (wholeDocumentRange src).start.character = 0 ∧
    lineCharToOffset src (wholeDocumentRange src).stop.line
      (wholeDocumentRange src).stop.character = byteLen src := by
  rw [wholeDocumentRange_eq]
  refine ⟨lineCharToOffset_zero src, ?_⟩
  have hs := asU32_pos_small hsz
  simp only [hs.1, hs.2]
  have := lineCharToOffset_prefix src []
  simpa using this

example : wholeDocumentRange "é\r\n😀\rz\r".toList = ⟨⟨0, 0⟩, ⟨1, 5⟩⟩ ∧
    lineCharToOffset "é\r\n😀\rz\r".toList 1 5 = byteLen "é\r\n😀\rz\r".toList := by decide +kernel

/-- Let the document be `a ++ b ++ c` with no bare CR, and let the server build the range of `b` with
`garden_pos_to_lsp_range` from the byte offsets of `b` and the line numbers of its ends
(neither end between the `\r` and `\n` of a CRLF). Applying `TextEdit { range, newText: t }`
as the LSP specification defines yields `a ++ t ++ c`. -/
theorem apply_edit_spec (a b c t : List Char) (hcr : NoBareCR (a ++ b ++ c))
    (ha : a.getLast? ≠ some '\r') (hab : (a ++ b).getLast? ≠ some '\r')
    (hsz : byteLen (a ++ b ++ c) < 4294967296) :
    ∃ r, gardenPosToLspRange (a ++ b ++ c) (byteLen a) (byteLen (a ++ b))
        (countNl a) (countNl (a ++ b)) = some r ∧
      applyEdit (a ++ b ++ c) r t = a ++ t ++ c := by
  have hsz' := hsz
  rw [byteLen_append, byteLen_append] at hsz'
  have e1 : offsetToLspPosition (a ++ b ++ c) (byteLen a) (countNl a) =
      some ⟨countNl a, utf16Count (lastLine a)⟩ := by
    have hs := asU32_pos_small (l := a) (by omega)
    rw [List.append_assoc, offsetToLspPosition_prefix, hs.1, hs.2]
  have e2 : offsetToLspPosition (a ++ b ++ c) (byteLen (a ++ b)) (countNl (a ++ b)) =
      some ⟨countNl (a ++ b), utf16Count (lastLine (a ++ b))⟩ := by
    have hs := asU32_pos_small (l := a ++ b) (by rw [byteLen_append]; omega)
    rw [offsetToLspPosition_prefix, hs.1, hs.2]
  refine ⟨⟨⟨countNl a, utf16Count (lastLine a)⟩, ⟨countNl (a ++ b), utf16Count (lastLine (a ++ b))⟩⟩,
    by simp only [gardenPosToLspRange, e1, e2], ?_⟩
  unfold applyEdit specIndex
  simp only
  have s1 : specSeek (a ++ b ++ c) (countNl a) (utf16Count (lastLine a)) = b ++ c := by
    rw [List.append_assoc]
    exact specSeek_prefix a (b ++ c) (by rw [← List.append_assoc]; exact hcr) ha
  have s2 : specSeek (a ++ b ++ c) (countNl (a ++ b)) (utf16Count (lastLine (a ++ b))) = c :=
    specSeek_prefix (a ++ b) c hcr hab
  rw [s1, s2]
  have : (a ++ b ++ c).length - (b ++ c).length = a.length := by simp
  rw [this, List.append_assoc a b c, List.take_left']
  rfl

example : NoBareCR ("let é = \"😀\"\r\n".toList ++ "foo".toList ++ " + 1\n".toList) ∧
    gardenPosToLspRange "let é = \"😀\"\r\nfoo + 1\n".toList 17 20 1 1 = some ⟨⟨1, 0⟩, ⟨1, 3⟩⟩ ∧
    applyEdit "let é = \"😀\"\r\nfoo + 1\n".toList ⟨⟨1, 0⟩, ⟨1, 3⟩⟩ "bar".toList =
      "let é = \"😀\"\r\nbar + 1\n".toList := by decide +kernel

/-- The edit that formatting and the refactoring code actions return. -/
theorem apply_whole_replace (src t : List Char) (hcr : NoBareCR src)
    (hsz : byteLen src < 4294967296) :
    applyEdit src (wholeDocumentRange src) t = t := by
  rw [wholeDocumentRange_eq]
  have hs := asU32_pos_small hsz
  unfold applyEdit specIndex
  simp only [hs.1, hs.2]
  have s2 := specSeek_prefix src [] (by rw [List.append_nil]; exact hcr) (noBareCR_getLast? src hcr)
  simp only [List.append_nil] at s2
  have s1 : specSeek src 0 0 = src := by
    cases src <;> simp [specSeek, specSkipLines, specWalk]
  rw [s1, s2]
  simp

example : NoBareCR "é\r\n😀z".toList ∧
    applyEdit "é\r\n😀z".toList (wholeDocumentRange "é\r\n😀z".toList) "new\n".toList = "new\n".toList := by
  decide +kernel

/-- The `NoBareCR` hypothesis cannot be dropped: for the document `"a\rb"` the server's
whole-document range is `0:0-0:3`; the specification ends line 0 after `a`, clamps column 3 to
the line length 1, and the edit leaves `"\rb"` behind. The same happens for a trailing `\r`. -/
theorem apply_whole_replace_needs_noBareCR :
    ¬ NoBareCR "a\rb".toList ∧
    applyEdit "a\rb".toList (wholeDocumentRange "a\rb".toList) "X".toList = "X\rb".toList ∧
    ¬ NoBareCR "a\r".toList ∧
    applyEdit "a\r".toList (wholeDocumentRange "a\r".toList) "X".toList = "X\r".toList := by
  decide +kernel

end C29
