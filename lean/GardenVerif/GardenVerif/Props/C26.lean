import GardenVerif.Lemmas.TestRunner
/-!
# C26 — Test verdicts are independent and the exit status is honest

Model: `TestRunner` (Model/TestRunner.lean) — `eval_tests` / `run_tests_in_files` over the
evaluator model M4 extended with `assert`. All statements are for lists of tests of any
length, test bodies of any size over the modelled fragment, any fuel.

* `exit_honest`, `exit_status_values`: the exit status of `garden test` is 1 exactly when a
  selected test has a verdict other than `pass`, and is 0 otherwise (101 only if the Rust panics).
* `counts_match`: the counts of the summary line are the counts of the verdict list.
* `runner_is_map` / `verdict_independent` / `verdict_order_irrelevant` / `verdict_filter_irrelevant`:
  in an environment WITHOUT A TICK LIMIT (which is what `garden test` builds), a test's verdict
  in any list is the verdict it gets alone: `pop_to_toplevel ∘ eval` restores the
  runner-visible state (`TestRunner.after_test`), and the tick counter / accumulated output are
  not read (`TestRunner.stepWith_norm`). Hypothesis `Defined`: each test on its own ends with a
  verdict (no Rust panic, inside the fragment, enough fuel) — otherwise the real run dies /
  the model cannot tell.
* `shared_tick_budget_counterexample`: with a tick limit (`garden sandboxed-test`) the statement
  is FALSE in the model, as in the code: `env.ticks` is never reset, so the budget is shared by
  all tests of the file (finding C26/sandboxed-shared-tick-budget).
-/

namespace C26
open Machine TestRunner

/-- `garden test` exits with status 1 exactly when some selected test did not pass. -/
theorem exit_honest (vs : List (String × Verdict)) (s : State) :
    exitCode (.finished vs s) = some 1 ↔ ∃ x ∈ vs, x.2 ≠ Verdict.pass := by
  unfold exitCode numFailed
  constructor
  · intro h
    by_cases hp : (vs.filter fun x => x.2 != Verdict.pass).length > 0
    · obtain ⟨x, hx⟩ := List.exists_mem_of_length_pos hp
      simp at hx
      exact ⟨x, hx.1, hx.2⟩
    · simp [hp] at h
  · rintro ⟨x, hx, hne⟩
    have : x ∈ vs.filter fun x => x.2 != Verdict.pass := by simp [hx, hne]
    have : (vs.filter fun x => x.2 != Verdict.pass).length > 0 := List.length_pos_of_mem this
    simp [this]

/-- The only exit statuses are 0, 1 and (Rust panic) 101. -/
theorem exit_status_values (o : Outcome) (c : Nat) (h : exitCode o = some c) :
    c = 0 ∨ c = 1 ∨ c = 101 := by
  cases o <;> simp [exitCode] at h
  · split at h <;> omega
  · omega

theorem exit_zero_all_pass (vs : List (String × Verdict)) (s : State)
    (h : exitCode (.finished vs s) = some 0) : ∀ x ∈ vs, x.2 = Verdict.pass := by
  intro x hx
  by_cases hp : x.2 = Verdict.pass
  · exact hp
  · have := (exit_honest vs s).mpr ⟨x, hx, hp⟩
    rw [this] at h; cases h

/-- The numbers in `Ran N tests: P passed and F failed.` are the counts of the verdict list. -/
theorem counts_match (vs : List (String × Verdict)) :
    numPassed vs + numFailed vs = vs.length ∧
    numFailed vs = (vs.filter fun x => x.2 != Verdict.pass).length ∧
    numPassed vs = (vs.filter fun x => x.2 == Verdict.pass).length := by
  have hsum := List.length_eq_countP_add_countP (fun x : String × Verdict => x.2 == Verdict.pass) (l := vs)
  have hnot : (fun x : String × Verdict => decide ¬(x.2 == Verdict.pass) = true) = fun x => x.2 != Verdict.pass := by
    funext x; unfold bne; cases (x.2 == Verdict.pass) <;> rfl
  rw [hnot, List.countP_eq_length_filter, List.countP_eq_length_filter] at hsum
  unfold numPassed numFailed
  omega

/-- Every test of `ts`, run on its own in environment `b`, ends with a verdict. -/
def Defined (fuel : Nat) (b : State) (ts : List TestDef) : Prop :=
  ∀ t ∈ ts, ∃ v, verdictOf dispatchX fuel (norm b) t = some v ∧ v ≠ Verdict.interrupted

/-- The verdict of `t` run alone in `b` (`pass` stands in for "no verdict", which `Defined` excludes). -/
def alone (fuel : Nat) (b : State) (t : TestDef) : Verdict :=
  (verdictOf dispatchX fuel (norm b) t).getD .pass

/-- **The runner is a map**: the list of verdicts is the list of the verdicts the tests get
alone, in the order they were run. Unbounded in the number and size of tests. -/
theorem runner_is_map (fuel : Nat) (p : Program) (sl : Option Nat) (ts : List TestDef)
    (hd : Defined fuel (baseState p none sl) ts) :
    ∃ s', runTests fuel (baseState p none sl) ts =
      .finished (ts.map fun t => (t.name, alone fuel (baseState p none sl) t)) s' := by
  obtain ⟨s', h, _, _⟩ := runTestsWith_map dispatchX dispatchX_keeps fuel (initFrame []) ts
    (baseState p none sl) (base_baseState p sl) hd
  exact ⟨s', h⟩

theorem alone_spec (fuel : Nat) (p : Program) (sl : Option Nat) (t : TestDef)
    (hd : Defined fuel (baseState p none sl) [t]) :
    ∃ s', runTests fuel (baseState p none sl) [t] = .finished [(t.name, alone fuel (baseState p none sl) t)] s' :=
  runner_is_map fuel p sl [t] hd

/-- **Independence**: whatever runs before (`ts₁`) and after (`ts₂`), the verdict recorded for
`t` is the one it gets when it runs alone. -/
theorem verdict_independent (fuel : Nat) (p : Program) (sl : Option Nat) (ts₁ ts₂ : List TestDef) (t : TestDef)
    (hd : Defined fuel (baseState p none sl) (ts₁ ++ t :: ts₂)) :
    ∃ vs s' s'', runTests fuel (baseState p none sl) (ts₁ ++ t :: ts₂) = .finished vs s' ∧
      vs[ts₁.length]? = some (t.name, alone fuel (baseState p none sl) t) ∧
      runTests fuel (baseState p none sl) [t] = .finished [(t.name, alone fuel (baseState p none sl) t)] s'' := by
  obtain ⟨s', h⟩ := runner_is_map fuel p sl (ts₁ ++ t :: ts₂) hd
  obtain ⟨s'', h2⟩ := alone_spec fuel p sl t (fun u hu => hd u (by simp at hu; simp [hu]))
  refine ⟨_, s', s'', h, ?_, h2⟩
  simp

/-- The verdict lists of two orders of the same tests are permutations of each other. -/
theorem verdict_order_irrelevant (fuel : Nat) (p : Program) (sl : Option Nat) (ts ts' : List TestDef)
    (hperm : ts.Perm ts') (hd : Defined fuel (baseState p none sl) ts) :
    ∃ vs vs' s s', runTests fuel (baseState p none sl) ts = .finished vs s ∧
      runTests fuel (baseState p none sl) ts' = .finished vs' s' ∧ vs.Perm vs' := by
  have hd' : Defined fuel (baseState p none sl) ts' := fun t ht => hd t (hperm.mem_iff.mpr ht)
  obtain ⟨s, h⟩ := runner_is_map fuel p sl ts hd
  obtain ⟨s', h'⟩ := runner_is_map fuel p sl ts' hd'
  exact ⟨_, _, s, s', h, h', hperm.map _⟩

/-- `garden test -n filter`: the verdicts of the selected tests are the verdicts they get in
the unfiltered run (and alone). -/
theorem verdict_filter_irrelevant (fuel : Nat) (p : Program) (tests : List TestDef) (filter : String)
    (hd : Defined fuel (baseState p none none) tests) :
    ∃ s', gardenTest fuel p tests filter =
      .finished ((selected filter tests).map fun t => (t.name, alone fuel (baseState p none none) t)) s' := by
  unfold gardenTest
  exact runner_is_map fuel p none (selected filter tests)
    (fun t ht => hd t (by unfold selected at ht; exact (List.mem_filter.mp ht).1))

/-- The verdict list of a finished `garden test` run names exactly the selected tests, so the
exit status is 1 iff a SELECTED test failed (`exit_honest` on this list). -/
theorem exit_honest_selected (fuel : Nat) (p : Program) (tests : List TestDef) (filter : String)
    (hd : Defined fuel (baseState p none none) tests) :
    exitCode (gardenTest fuel p tests filter) = some 1 ↔
      ∃ t ∈ selected filter tests, alone fuel (baseState p none none) t ≠ Verdict.pass := by
  obtain ⟨s', h⟩ := verdict_filter_irrelevant fuel p tests filter hd
  rw [h, exit_honest]
  constructor
  · rintro ⟨x, hx, hne⟩
    obtain ⟨t, ht, rfl⟩ := List.mem_map.mp hx
    exact ⟨t, ht, hne⟩
  · rintro ⟨t, ht, hne⟩
    exact ⟨_, List.mem_map.mpr ⟨t, ht, rfl⟩, hne⟩


def tOne : TestDef := ⟨"a", [.int 1 true 5]⟩
def tBad : TestDef := ⟨"b", [.invalid 2 true]⟩
def pEmpty : Program := ⟨[], [], []⟩

/-- A passing and an erroring test: verdicts, exit status 1; with `-n a` exit status 0. -/
example : ∃ s, runTests 100 (baseState pEmpty none none) [tOne, tBad] =
    .finished [("a", .pass), ("b", .errored .invalidSyntax)] s := ⟨_, by rfl⟩

example : exitCode (gardenTest 100 pEmpty [tOne, tBad] "") = some 1 := by rfl
example : exitCode (gardenTest 100 pEmpty [tOne, tBad] "a") = some 0 := by rfl

/-- The hypothesis `Defined` holds for these tests. -/
example : Defined 100 (baseState pEmpty none none) [tOne, tBad] := by
  intro t ht
  simp at ht
  rcases ht with rfl | rfl
  · exact ⟨.pass, by rfl, by simp⟩
  · exact ⟨.errored .invalidSyntax, by rfl, by simp⟩

/-- **With a tick limit the verdict depends on what ran before** (the model agrees with the
code: `env.ticks` is not reset between tests). Test `a` passes alone within the budget, but
after another copy of itself the shared budget is exhausted. -/
theorem shared_tick_budget_counterexample :
    (∃ s, runTests 100 (baseState pEmpty (some 2) none) [tOne] = .finished [("a", .pass)] s) ∧
    (∃ s, runTests 100 (baseState pEmpty (some 2) none) [tOne, tOne] =
      .finished [("a", .pass), ("a", .tickLimit)] s) := ⟨⟨_, by rfl⟩, ⟨_, by rfl⟩⟩

end C26
