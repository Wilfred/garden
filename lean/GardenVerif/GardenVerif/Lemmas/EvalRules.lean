import GardenVerif.Model.RefSem
/-! What `RefSem`'s evaluator does on each form of input, and the congruence rules that follow: if the
outcomes of the sub-evaluations of two runs are related, so are the outcomes of the construct. The rules hold for
every relation on outcomes that is compatible with how the evaluator composes them (`EvalRel`), over any relation
on values that the primitive operations respect (`ValRel`). -/

namespace Validators
open Machine (Expr)

def isLet : Expr → Bool
  | .letE .. => true
  | _ => false

theorem isLet_iff {e : Expr} : isLet e = true ↔ ∃ id u d r, e = .letE id u d r := by
  constructor
  · cases e <;> first | exact fun _ => ⟨_, _, _, _, rfl⟩ | exact fun h => Bool.noConfusion h
  · rintro ⟨_, _, _, _, rfl⟩; rfl

/-- The values every value relation relates to themselves. -/
def simpleV : RefSem.Val → Bool
  | .int _ | .str _ | .enumV _ _ none | .enumC _ _ | .fn _ | .builtin _ => true
  | _ => false

theorem findVariant_simple {enums : List Machine.EnumDef} {n : String} {v : RefSem.Val}
    (h : RefSem.findVariant enums n = some v) : simpleV v = true := by
  unfold RefSem.findVariant at h
  obtain ⟨e, _, he⟩ := List.exists_of_findSome?_eq_some h
  split at he
  · cases he
  · split at he <;> first | (cases he; rfl) | cases he

theorem nsLookup_simple {fns : List String} {enums : List Machine.EnumDef} {n : String} {v : RefSem.Val}
    (h : RefSem.nsLookup fns enums n = some v) : simpleV v = true := by
  unfold RefSem.nsLookup at h
  split at h
  · injection h with h; subst h; rfl
  · split at h
    · rename_i hv; injection h with h; subst h; exact findVariant_simple hv
    · split at h
      · injection h with h; subst h; rfl
      · cases h

end Validators

namespace RefSem
open Machine (Expr Case Dest BinOp Program FunDef EnumDef)
open Validators (isLet isLet_iff)

def loopStep (a : Res × St) (k : St → Res × St) : Res × St :=
  match a with
  | (.val _, s2) => k s2
  | (.cont, s2) => k s2
  | (.brk, s2) => (.val vUnit, s2)
  | other => other

section
variable (cl : Bool) (p : Program) (n : Nat) (env : Env) (s : St) (i : Nat) (u : Bool)

theorem eval_var (x : String) :
    eval cl p (n + 1) env s (.var i u x) =
      match lookupVar p env s.store x with
      | some v => (.val v, s)
      | none => (.err .noSuchVar, s) := rfl

theorem eval_binop (op : BinOp) (l r : Expr) :
    eval cl p (n + 1) env s (.binop i u op l r) =
      bind (eval cl p n env s l) fun lv s1 =>
      bind (eval cl p n env s1 r) fun rv s2 => (binop op lv rv, s2) := rfl

theorem eval_assign (x : String) (rhs : Expr) :
    eval cl p (n + 1) env s (.assign i u x rhs) =
      bind (eval cl p n env s rhs) fun v s1 =>
      match lookup env x with
      | none => (.err .noSuchVar, s1)
      | some l => (.val vUnit, { s1 with store := s1.store.set l v }) := rfl

theorem eval_update (a : Bool) (x : String) (rhs : Expr) :
    eval cl p (n + 1) env s (.update i u a x rhs) =
      bind (eval cl p n env s rhs) fun rv s1 =>
      match lookup env x with
      | none => (.err .noSuchVar, s1)
      | some l =>
        match s1.store[l]?, rv with
        | some (.int cur), .int d =>
          (.val vUnit, { s1 with store := s1.store.set l (.int (if a then cur + d else cur - d)) })
        | _, _ => (.err .typeError, s1) := rfl

theorem eval_if (c : Expr) (thn : List Expr) (els : Option (List Expr)) :
    eval cl p (n + 1) env s (.ifE i u c thn els) =
      bind (eval cl p n env s c) fun cv s1 =>
      match cv.asBool with
      | none => (.err .typeError, s1)
      | some b =>
        match els with
        | none =>
          if b then bind (evalSeq cl p n env s1 thn) fun _ s2 => (.val vUnit, s2)
          else (.val vUnit, s1)
        | some eb => if b then evalSeq cl p n env s1 thn else evalSeq cl p n env s1 eb := rfl

theorem eval_for (d : Dest) (iter : Expr) (body : List Expr) :
    eval cl p (n + 1) env s (.forE i u d iter body) =
      bind (eval cl p n env s iter) fun iv s1 =>
      match iv with
      | .list items => evalFor cl p n env s1 d items body
      | _ => (.err .typeError, s1) := rfl

theorem eval_match (scrut : Expr) (cs : List Case) :
    eval cl p (n + 1) env s (.matchE i u scrut cs) =
      bind (eval cl p n env s scrut) fun sv s1 =>
      match sv with
      | .enumV ty idx payload => evalCases cl p n env s1 ty idx payload cs
      | _ => (.err .typeError, s1) := rfl

theorem eval_ret (x : Expr) :
    eval cl p (n + 1) env s (.ret i u (some x)) = bind (eval cl p n env s x) fun v s1 => (.ret v, s1) := rfl

theorem eval_tuple (items : List Expr) :
    eval cl p (n + 1) env s (.tuple i u items) =
      bind (evalList cl p n env s items) fun vs s1 =>
      match vs with
      | .list l => (.val (.tuple l), s1)
      | _ => (.unsup "internal", s1) := rfl

theorem eval_call (recv : Expr) (args : List Expr) :
    eval cl p (n + 1) env s (.call i u recv args) =
      bind (eval cl p n env s recv) fun fv s1 =>
      bind (evalList cl p n env s1 args) fun vs s2 =>
      match vs with
      | .list l => applyVal cl p n s2 fv l
      | _ => (.unsup "internal", s2) := rfl

theorem evalSeq_let (d : Dest) (rhs : Expr) (rest : List Expr) :
    evalSeq cl p (n + 1) env s (.letE i u d rhs :: rest) =
      bind (eval cl p n env s rhs) fun v s1 =>
        match bindDest d v env s1 with
        | .error k => (.err k, s1)
        | .ok (env', s2) => evalSeq cl p n env' s2 rest := rfl

theorem evalSeq_cons_nonlet {e : Expr} (rest : List Expr) (h : isLet e = false) :
    evalSeq cl p (n + 1) env s (e :: rest) =
      match rest with
      | [] => eval cl p n env s e
      | _ :: _ => bind (eval cl p n env s e) fun _ s1 => evalSeq cl p n env s1 rest := by
  cases e <;> first | exact Bool.noConfusion h | (cases rest <;> rfl)

theorem evalList_cons (e : Expr) (rest : List Expr) :
    evalList cl p (n + 1) env s (e :: rest) =
      bind (eval cl p n env s e) fun v s1 =>
      bind (evalList cl p n env s1 rest) fun vs s2 =>
      match vs with
      | .list l => (.val (.list (v :: l)), s2)
      | _ => (.unsup "internal", s2) := rfl

theorem evalWhile_loop (c : Expr) (body : List Expr) :
    evalWhile cl p (n + 1) env s c body =
      bind (eval cl p n env s c) fun cv s1 =>
        match cv.asBool with
        | none => (.err .typeError, s1)
        | some false => (.val vUnit, s1)
        | some true => loopStep (evalSeq cl p n env s1 body) fun s2 => evalWhile cl p n env s2 c body := by
  simp only [evalWhile, loopStep]
  rfl

theorem evalFor_loop (dest : Dest) (it : Val) (rest : List Val) (body : List Expr) :
    evalFor cl p (n + 1) env s dest (it :: rest) body =
      match bindDest dest it env s with
      | .error k => (.err k, s)
      | .ok (env', s') => loopStep (evalSeq cl p n env' s' body) fun s2 => evalFor cl p n env s2 dest rest body := by
  simp only [evalFor, loopStep]
  rfl

theorem evalCases_plain (ty : String) (idx : Nat) (payload : Option Val) (variant : String)
    (body : List Expr) (rest : List Case) :
    evalCases cl p (n + 1) env s ty idx payload (.mk variant none body :: rest) =
      if variant == "_" then evalSeq cl p n env s body else
      match patKey p variant with
      | none => (.err .badPattern, s)
      | some (pty, pidx) =>
        if ty == pty && idx == pidx then
          match payload with
          | none => evalSeq cl p n env s body
          | some _ => evalCases cl p n env s ty idx payload rest
        else evalCases cl p n env s ty idx payload rest := rfl

theorem evalCases_dest (ty : String) (idx : Nat) (payload : Option Val) (variant : String) (d : Dest)
    (body : List Expr) (rest : List Case) :
    evalCases cl p (n + 1) env s ty idx payload (.mk variant (some d) body :: rest) =
      match patKey p variant with
      | none => (.err .badPattern, s)
      | some (pty, pidx) =>
        if ty == pty && idx == pidx then
          match payload with
          | some pl =>
            match bindDest d pl env s with
            | .error k => (.err k, s)
            | .ok (env', s') => evalSeq cl p n env' s' body
          | none => evalCases cl p n env s ty idx payload rest
        else evalCases cl p n env s ty idx payload rest := rfl

theorem applyVal_fn (name : String) (args : List Val) :
    applyVal cl p (n + 1) s (.fn name) args =
      match p.funs.find? (fun d => d.name == name) with
      | none => (.unsup "function value without definition", s)
      | some d =>
        if d.params.length != args.length then (.err .arity, s)
        else funResult (evalSeq cl p n (bindNames d.params args [] s).1 (bindNames d.params args [] s).2 d.body) := rfl

theorem applyVal_closure (cenv : List (String × Val)) (ps : List String) (body : List Expr) (args : List Val) :
    applyVal cl p (n + 1) s (.closure cenv ps body) args =
      if !cl then (.unsup "closure", s)
      else if ps.length != args.length then (.err .arity, s)
      else funResult (evalSeq cl p n
        (bindNames ps args (bindNames (cenv.reverse.map (·.1)) (cenv.reverse.map (·.2)) [] s).1
          (bindNames (cenv.reverse.map (·.1)) (cenv.reverse.map (·.2)) [] s).2).1
        (bindNames ps args (bindNames (cenv.reverse.map (·.1)) (cenv.reverse.map (·.2)) [] s).1
          (bindNames (cenv.reverse.map (·.1)) (cenv.reverse.map (·.2)) [] s).2).2 body) := rfl

end

structure Mapped (f : FunDef → FunDef) (p p' : Program) : Prop where
  funs : p'.funs = p.funs.map f
  enums : p'.enums = p.enums
  name : ∀ d, (f d).name = d.name

theorem Mapped.funNames {f p p'} (h : Mapped f p p') : funNames p' = funNames p := by
  simp [RefSem.funNames, h.funs, List.map_map, Function.comp_def, h.name]

theorem Mapped.lookupVar {f p p'} (h : Mapped f p p') (env : Env) (st : List Val) (x : String) :
    lookupVar p' env st x = lookupVar p env st x := by
  simp only [RefSem.lookupVar, h.funNames, h.enums]

theorem Mapped.patKey {f p p'} (h : Mapped f p p') (v : String) : patKey p' v = patKey p v := by
  simp only [RefSem.patKey, h.funNames, h.enums]

theorem Mapped.find {f p p'} (h : Mapped f p p') (name : String) :
    p'.funs.find? (fun d => d.name == name) = (p.funs.find? (fun d => d.name == name)).map f := by
  rw [h.funs, List.find?_map]
  simp only [Function.comp_def, h.name]

def ORel (V : Val → Val → Prop) : Option Val → Option Val → Prop
  | some v, some v' => V v v'
  | none, none => True
  | _, _ => False

def Res.Rel (V : Val → Val → Prop) : Res → Res → Prop
  | .val v, .val v' => V v v'
  | .ret v, .ret v' => V v v'
  | r, r' => r = r'

inductive LRel (V : Val → Val → Prop) : List Val → List Val → Prop
  | nil : LRel V [] []
  | cons {v v' l l'} : V v v' → LRel V l l' → LRel V (v :: l) (v' :: l')

inductive Val.Same (V : Val → Val → Prop) : Val → Val → Prop
  | int (a) : Same V (.int a) (.int a)
  | str (a) : Same V (.str a) (.str a)
  | list {l l'} : LRel V l l' → Same V (.list l) (.list l')
  | tuple {l l'} : LRel V l l' → Same V (.tuple l) (.tuple l')
  | enumV (t i) {pl pl'} : ORel V pl pl' → Same V (.enumV t i pl) (.enumV t i pl')
  | enumC (t i) : Same V (.enumC t i) (.enumC t i)
  | closure (ce ps b ce' ps' b') : Same V (.closure ce ps b) (.closure ce' ps' b')
  | fn (n) : Same V (.fn n) (.fn n)
  | builtin (n) : Same V (.builtin n) (.builtin n)

def Val.isClosure : Val → Bool
  | .closure .. => true
  | _ => false

/-- Structural outside closures, on which alone it is free. `binopV` and `displayV` are fields because `valueEq`
and `display` go through the whole value: each instance proves them by its own recursion. -/
structure ValRel where
  V : Val → Val → Prop
  shape : ∀ {v v'}, V v v' → Val.Same V v v'
  intro : ∀ {v v'}, Val.Same V v v' → v.isClosure = false → V v v'
  binopV : ∀ {op a a' b b'}, V a a' → V b b' → Res.Rel V (binop op a b) (binop op a' b')
  displayV : ∀ {en v v'}, V v v' → display en v' = display en v

theorem ORel.nn {V : Val → Val → Prop} : ORel V none none := trivial

theorem ORel.of_eq {a b : Option Val} (h : a = b) : ORel Eq a b := by
  subst h; cases a <;> first | trivial | exact rfl

theorem ORel.eq_of : ∀ {a b : Option Val}, ORel Eq a b → a = b
  | none, none, _ => rfl
  | some _, some _, h => congrArg some h
  | none, some _, h | some _, none, h => h.elim

theorem LRel.eq_refl : ∀ l : List Val, LRel Eq l l
  | [] => .nil
  | _ :: l => .cons rfl (LRel.eq_refl l)

theorem LRel.eq_of : ∀ {l l' : List Val}, LRel Eq l l' → l = l'
  | _, _, .nil => rfl
  | _, _, .cons h t => by rw [h, LRel.eq_of t]

theorem LRel.length {V : Val → Val → Prop} : ∀ {l l' : List Val}, LRel V l l' → l'.length = l.length
  | _, _, .nil => rfl
  | _, _, .cons _ t => by simp [LRel.length t]

theorem ValRel.asBool (R : ValRel) {v v'} (h : R.V v v') : v'.asBool = v.asBool := by
  cases R.shape h <;> first | rfl | skip
  rename_i t i pl pl' hp
  cases pl <;> cases pl' <;> first | rfl | exact hp.elim | simp [Val.asBool]

theorem ValRel.unit (R : ValRel) : R.V vUnit vUnit := R.intro (.enumV _ _ ORel.nn) rfl

def ValRel.eq : ValRel where
  V := Eq
  shape {v v'} h := by
    subst h
    cases v with
    | list l => exact .list (LRel.eq_refl l)
    | tuple l => exact .tuple (LRel.eq_refl l)
    | enumV t i pl => exact .enumV t i (.of_eq rfl)
    | _ => constructor
  intro {v v'} h hc := by
    cases h with
    | list h => rw [LRel.eq_of h]
    | tuple h => rw [LRel.eq_of h]
    | enumV t i hp => rw [hp.eq_of]
    | closure => cases hc
    | _ => rfl
  binopV {op a a' b b'} h1 h2 := by
    subst h1; subst h2
    cases RefSem.binop op a b <;> exact rfl
  displayV h := by rw [h]

/-- `Q s s' a b`: the outcomes `a`, `b` of evaluations started in `s`, `s'`. `C s s'`: two evaluations may start
in `s` and `s'`; `E s s' s1 s1'`: they may go on in `s1` and `s1'` after parts started in `s` and `s'`. -/
structure EvalRel extends ValRel where
  C : St → St → Prop
  E : St → St → St → St → Prop
  Q : St → St → Res × St → Res × St → Prop
  start : ∀ {s s' s1 s1'}, E s s' s1 s1' → C s1 s1'
  trans : ∀ {s s' s1 s1' s2 s2'}, E s s' s1 s1' → E s1 s1' s2 s2' → E s s' s2 s2'
  done : ∀ {s s' r r'}, C s s' → Res.Rel V r r' → Q s s' (r, s) (r', s')
  emit : ∀ {s s'} (t : String), C s s' →
    Q s s' (.val vUnit, { s with out := s.out ++ [t] }) (.val vUnit, { s' with out := s'.out ++ [t] })
  mono : ∀ {s s' s1 s1' a b}, E s s' s1 s1' → Q s1 s1' a b → Q s s' a b
  bind : ∀ {s s' a b} {k k' : Val → St → Res × St}, Q s s' a b →
    (∀ v v' s1 s1', V v v' → E s s' s1 s1' → Q s1 s1' (k v s1) (k' v' s1')) →
    Q s s' (RefSem.bind a k) (RefSem.bind b k')
  loop : ∀ {s s' a b} {k k' : St → Res × St}, Q s s' a b →
    (∀ s1 s1', E s s' s1 s1' → Q s1 s1' (k s1) (k' s1')) → Q s s' (loopStep a k) (loopStep b k')
  funResult : ∀ {s s' a b}, Q s s' a b → Q s s' (funResult a) (funResult b)

def EvalRel.Bound (R : EvalRel) (s s' : St) (x x' : Except EK (Env × St))
    (P : Env → St → Env → St → Prop) : Prop :=
  match x, x' with
  | .error k, .error k' => k = k'
  | .ok (e1, s1), .ok (e1', s1') => R.E s s' s1 s1' ∧ P e1 s1 e1' s1'
  | _, _ => False

theorem EvalRel.Bound.imp {R : EvalRel} {s s' : St} {x x' : Except EK (Env × St)}
    {P P' : Env → St → Env → St → Prop} (h : R.Bound s s' x x' P)
    (hP : ∀ e1 s1 e1' s1', R.E s s' s1 s1' → P e1 s1 e1' s1' → P' e1 s1 e1' s1') : R.Bound s s' x x' P' := by
  unfold EvalRel.Bound at h ⊢
  split at h
  · exact h
  · exact ⟨h.1, hP _ _ _ _ h.1 h.2⟩
  · exact h

namespace EvalRel
variable (R : EvalRel) {cl : Bool} {p p' : Program} {n m : Nat} {env env' : Env} {s s' : St}
  {i i' : Nat} {u u' : Bool}

theorem val {v v' : Val} (h0 : R.C s s') (h : R.V v v') : R.Q s s' (.val v, s) (.val v', s') := R.done h0 h

theorem var {x x' : String} (h0 : R.C s s')
    (hv : ORel R.V (lookupVar p env s.store x) (lookupVar p' env' s'.store x')) :
    R.Q s s' (eval cl p (n + 1) env s (.var i u x)) (eval cl p' (m + 1) env' s' (.var i' u' x')) := by
  rw [eval_var, eval_var]
  cases h : lookupVar p env s.store x <;> cases h' : lookupVar p' env' s'.store x' <;> rw [h, h'] at hv
  · exact R.done h0 rfl
  · exact hv.elim
  · exact hv.elim
  · exact R.done h0 hv

theorem binop {op : BinOp} {l r l' r' : Expr}
    (hl : R.Q s s' (eval cl p n env s l) (eval cl p' m env' s' l'))
    (hr : ∀ s1 s1', R.E s s' s1 s1' → R.Q s1 s1' (eval cl p n env s1 r) (eval cl p' m env' s1' r')) :
    R.Q s s' (eval cl p (n + 1) env s (.binop i u op l r)) (eval cl p' (m + 1) env' s' (.binop i' u' op l' r')) := by
  rw [eval_binop, eval_binop]
  exact R.bind hl fun lv lv' s1 s1' hlv e1 => R.bind (hr s1 s1' e1) fun rv rv' s2 s2' hrv e2 =>
    R.done (R.start e2) (R.binopV hlv hrv)

theorem ifE {c c' : Expr} {thn thn' : List Expr} {els els' : Option (List Expr)}
    (hc : R.Q s s' (eval cl p n env s c) (eval cl p' m env' s' c'))
    (ht : ∀ s1 s1', R.E s s' s1 s1' → R.Q s1 s1' (evalSeq cl p n env s1 thn) (evalSeq cl p' m env' s1' thn'))
    (he : ∀ s1 s1', R.E s s' s1 s1' →
      match els, els' with
      | none, none => True
      | some eb, some eb' => R.Q s1 s1' (evalSeq cl p n env s1 eb) (evalSeq cl p' m env' s1' eb')
      | _, _ => False) :
    R.Q s s' (eval cl p (n + 1) env s (.ifE i u c thn els))
      (eval cl p' (m + 1) env' s' (.ifE i' u' c' thn' els')) := by
  rw [eval_if, eval_if]
  refine R.bind hc fun cv cv' s1 s1' hcv e1 => ?_
  have h1 := R.start e1
  rw [R.asBool hcv]
  cases cv.asBool with
  | none => exact R.done h1 rfl
  | some b =>
    have he1 := he s1 s1' e1
    cases els <;> cases els' <;> simp only at he1 ⊢
    · cases b
      · exact R.val h1 R.unit
      · exact R.bind (ht s1 s1' e1) fun _ _ s2 s2' _ e2 => R.val (R.start e2) R.unit
    · cases b
      · exact he1
      · exact ht s1 s1' e1

theorem call {recv recv' : Expr} {args args' : List Expr}
    (hr : R.Q s s' (eval cl p n env s recv) (eval cl p' m env' s' recv'))
    (ha : ∀ s1 s1', R.E s s' s1 s1' → R.Q s1 s1' (evalList cl p n env s1 args) (evalList cl p' m env' s1' args'))
    (hf : ∀ f f' l l' s2 s2', R.C s2 s2' → R.V f f' → LRel R.V l l' →
      R.Q s2 s2' (applyVal cl p n s2 f l) (applyVal cl p' m s2' f' l')) :
    R.Q s s' (eval cl p (n + 1) env s (.call i u recv args))
      (eval cl p' (m + 1) env' s' (.call i' u' recv' args')) := by
  rw [eval_call, eval_call]
  refine R.bind hr fun fv fv' s1 s1' hfv e1 => R.bind (ha s1 s1' e1) fun vs vs' s2 s2' hvs e2 => ?_
  cases R.shape hvs <;> first | exact R.done (R.start e2) rfl | exact hf _ _ _ _ s2 s2' (R.start e2) hfv ‹_›

theorem bound {x x' : Except EK (Env × St)} {P : Env → St → Env → St → Prop}
    {k k' : Env → St → Res × St} (h0 : R.C s s') (hb : R.Bound s s' x x' P)
    (hk : ∀ e1 s1 e1' s1', R.E s s' s1 s1' → P e1 s1 e1' s1' → R.Q s1 s1' (k e1 s1) (k' e1' s1')) :
    R.Q s s' (match (generalizing := false) x with | .error e => (.err e, s) | .ok (e1, s1) => k e1 s1)
      (match (generalizing := false) x' with | .error e => (.err e, s') | .ok (e1, s1) => k' e1 s1) := by
  unfold Bound at hb
  split at hb
  · subst hb; exact R.done h0 rfl
  · exact R.mono hb.1 (hk _ _ _ _ hb.1 hb.2)
  · exact hb.elim

theorem seq_let {d d' : Dest} {rhs rhs' : Expr} {rest rest' : List Expr}
    (hr : R.Q s s' (eval cl p n env s rhs) (eval cl p' m env' s' rhs'))
    (hb : ∀ v v' s1 s1', R.V v v' → R.E s s' s1 s1' → R.Bound s1 s1' (bindDest d v env s1) (bindDest d' v' env' s1')
      fun e1 t1 e1' t1' => R.Q t1 t1' (evalSeq cl p n e1 t1 rest) (evalSeq cl p' m e1' t1' rest')) :
    R.Q s s' (evalSeq cl p (n + 1) env s (.letE i u d rhs :: rest))
      (evalSeq cl p' (m + 1) env' s' (.letE i' u' d' rhs' :: rest')) := by
  rw [evalSeq_let, evalSeq_let]
  exact R.bind hr fun v v' s1 s1' hv e1 => R.bound (R.start e1) (hb v v' s1 s1' hv e1) fun _ _ _ _ _ h => h

/-- `hne`: the transformation empties no rest (every transformation proves this once, `*_eq_nil`). -/
theorem seq_cons {e e' : Expr} {rest rest' : List Expr} (hl : isLet e = false) (hl' : isLet e' = false)
    (hne : rest = [] ↔ rest' = [])
    (he : R.Q s s' (eval cl p n env s e) (eval cl p' m env' s' e'))
    (hr : ∀ s1 s1', R.E s s' s1 s1' → R.Q s1 s1' (evalSeq cl p n env s1 rest) (evalSeq cl p' m env' s1' rest')) :
    R.Q s s' (evalSeq cl p (n + 1) env s (e :: rest)) (evalSeq cl p' (m + 1) env' s' (e' :: rest')) := by
  rw [evalSeq_cons_nonlet _ _ _ _ _ _ hl, evalSeq_cons_nonlet _ _ _ _ _ _ hl']
  cases rest with
  | nil => rw [hne.mp rfl]; exact he
  | cons e2 rest2 =>
    cases rest' with
    | nil => cases hne.mpr rfl
    | cons e2' rest2' => exact R.bind he fun _ _ s1 s1' _ e1 => hr s1 s1' e1

theorem list_cons {e e' : Expr} {rest rest' : List Expr}
    (he : R.Q s s' (eval cl p n env s e) (eval cl p' m env' s' e'))
    (hr : ∀ s1 s1', R.E s s' s1 s1' → R.Q s1 s1' (evalList cl p n env s1 rest) (evalList cl p' m env' s1' rest')) :
    R.Q s s' (evalList cl p (n + 1) env s (e :: rest)) (evalList cl p' (m + 1) env' s' (e' :: rest')) := by
  rw [evalList_cons, evalList_cons]
  refine R.bind he fun v v' s1 s1' hv e1 => R.bind (hr s1 s1' e1) fun vs vs' s2 s2' hvs e2 => ?_
  cases R.shape hvs <;>
    first | exact R.done (R.start e2) rfl | exact R.done (R.start e2) (R.intro (.list (.cons hv ‹_›)) rfl)

theorem while_ {c c' : Expr} {body body' : List Expr}
    (hc : R.Q s s' (eval cl p n env s c) (eval cl p' m env' s' c'))
    (hb : ∀ s1 s1', R.E s s' s1 s1' → R.Q s1 s1' (evalSeq cl p n env s1 body) (evalSeq cl p' m env' s1' body'))
    (hw : ∀ s2 s2', R.E s s' s2 s2' →
      R.Q s2 s2' (evalWhile cl p n env s2 c body) (evalWhile cl p' m env' s2' c' body')) :
    R.Q s s' (evalWhile cl p (n + 1) env s c body) (evalWhile cl p' (m + 1) env' s' c' body') := by
  rw [evalWhile_loop, evalWhile_loop]
  refine R.bind hc fun cv cv' s1 s1' hcv e1 => ?_
  rw [R.asBool hcv]
  cases cv.asBool with
  | none => exact R.done (R.start e1) rfl
  | some b =>
    cases b
    · exact R.val (R.start e1) R.unit
    · exact R.loop (hb s1 s1' e1) fun s2 s2' e2 => hw s2 s2' (R.trans e1 e2)

theorem apply_fn {name : String} {args args' : List Val} {d d' : FunDef} (h0 : R.C s s') (ha : LRel R.V args args')
    (hd : p.funs.find? (fun d => d.name == name) = some d)
    (hd' : p'.funs.find? (fun d => d.name == name) = some d') (hl : d'.params.length = d.params.length)
    (hb : d.params.length = args.length →
      R.E s s' (bindNames d.params args [] s).2 (bindNames d'.params args' [] s').2 ∧
      R.Q (bindNames d.params args [] s).2 (bindNames d'.params args' [] s').2
        (evalSeq cl p n (bindNames d.params args [] s).1 (bindNames d.params args [] s).2 d.body)
        (evalSeq cl p' m (bindNames d'.params args' [] s').1 (bindNames d'.params args' [] s').2 d'.body)) :
    R.Q s s' (applyVal cl p (n + 1) s (.fn name) args) (applyVal cl p' (m + 1) s' (.fn name) args') := by
  rw [applyVal_fn, applyVal_fn, hd, hd']
  dsimp only
  rw [hl, ha.length]
  by_cases hlen : d.params.length = args.length
  · have hne : (d.params.length != args.length) = false := by simpa using hlen
    rw [if_neg (by simp [hne]), if_neg (by simp [hne])]
    exact R.mono (hb hlen).1 (R.funResult (hb hlen).2)
  · have hne : (d.params.length != args.length) = true := by simpa using hlen
    rw [if_pos hne, if_pos hne]
    exact R.done h0 rfl

theorem apply_other {f f' : Val} {args args' : List Val} (h0 : R.C s s') (hf : R.V f f') (ha : LRel R.V args args')
    (he : p'.enums = p.enums) (hfn : ∀ name, f ≠ .fn name) (hcl : cl = false ∨ f.isClosure = false) :
    R.Q s s' (applyVal cl p (n + 1) s f args) (applyVal cl p' (m + 1) s' f' args') := by
  cases R.shape hf with
  | fn name => exact absurd rfl (hfn name)
  | closure ce ps b ce' ps' b' =>
    rcases hcl with rfl | h
    · rw [applyVal_closure, applyVal_closure]; exact R.done h0 rfl
    · cases h
  | builtin name =>
    show R.Q s s' (applyBuiltin p name args s) (applyBuiltin p' name args' s')
    unfold applyBuiltin
    rw [he]
    cases ha with
    | nil => exact R.done h0 rfl
    | cons hv ht =>
      cases ht with
      | cons _ _ => exact R.done h0 rfl
      | nil =>
        dsimp only
        rw [R.displayV hv]
        -- which built-in it is does not matter: each prints a string argument, or returns a value related to its argument
        generalize (name == "println") = c1
        generalize (name == "print") = c2
        generalize (name == "string_repr") = c3
        generalize (name == "dbg") = c4
        cases c1
        · cases c2
          · cases c3
            · cases c4
              · exact R.done h0 rfl
              · exact R.done h0 hv
            · exact R.done h0 (R.intro (.str _) rfl)
          · cases R.shape hv <;> first | exact R.emit _ h0 | exact R.done h0 rfl
        · cases R.shape hv <;> first | exact R.emit _ h0 | exact R.done h0 rfl
  | enumC ty idx =>
    cases ha with
    | nil => exact R.done h0 rfl
    | cons hv ht =>
      cases ht with
      | nil => exact R.done h0 (R.intro (.enumV _ _ hv) rfl)
      | cons _ _ => exact R.done h0 rfl
  | int v => exact R.done h0 rfl
  | str v => exact R.done h0 rfl
  | list v => exact R.done h0 rfl
  | tuple v => exact R.done h0 rfl
  | enumV a b c => exact R.done h0 rfl

structure Cells (R : EvalRel) : Prop where
  get : ∀ {s s' s1 s1'} (l : Nat), R.E s s' s1 s1' → ORel R.V s1.store[l]? s1'.store[l]?
  set : ∀ {s s' s1 s1' v v'} (l : Nat), R.E s s' s1 s1' → R.V v v' →
    R.Q s1 s1' (.val vUnit, { s1 with store := s1.store.set l v }) (.val vUnit, { s1' with store := s1'.store.set l v' })

theorem assign {x x' : String} {rhs rhs' : Expr} (hc : R.Cells)
    (hr : R.Q s s' (eval cl p n env s rhs) (eval cl p' m env' s' rhs')) (hl : lookup env' x' = lookup env x) :
    R.Q s s' (eval cl p (n + 1) env s (.assign i u x rhs)) (eval cl p' (m + 1) env' s' (.assign i' u' x' rhs')) := by
  rw [eval_assign, eval_assign, hl]
  refine R.bind hr fun v v' s1 s1' hv e1 => ?_
  cases lookup env x with
  | none => exact R.done (R.start e1) rfl
  | some l => exact hc.set l e1 hv

theorem update {a : Bool} {x x' : String} {rhs rhs' : Expr} (hc : R.Cells)
    (hr : R.Q s s' (eval cl p n env s rhs) (eval cl p' m env' s' rhs')) (hl : lookup env' x' = lookup env x) :
    R.Q s s' (eval cl p (n + 1) env s (.update i u a x rhs))
      (eval cl p' (m + 1) env' s' (.update i' u' a x' rhs')) := by
  rw [eval_update, eval_update, hl]
  refine R.bind hr fun v v' s1 s1' hv e1 => ?_
  cases lookup env x with
  | none => exact R.done (R.start e1) rfl
  | some l =>
    dsimp only
    have hg := hc.get l e1
    cases h1 : s1.store[l]? <;> cases h2 : s1'.store[l]? <;> rw [h1, h2] at hg <;>
      first | exact R.done (R.start e1) rfl | exact hg.elim | skip
    -- only an `Int` cell is looked at further
    cases R.shape hg <;> first | exact R.done (R.start e1) rfl | skip
    cases R.shape hv <;> first | exact R.done (R.start e1) rfl | exact hc.set l e1 (R.intro (.int _) rfl)

theorem forE {d d' : Dest} {iter iter' : Expr} {body body' : List Expr}
    (hi : R.Q s s' (eval cl p n env s iter) (eval cl p' m env' s' iter'))
    (hf : ∀ items items' s1 s1', LRel R.V items items' → R.E s s' s1 s1' →
      R.Q s1 s1' (evalFor cl p n env s1 d items body) (evalFor cl p' m env' s1' d' items' body')) :
    R.Q s s' (eval cl p (n + 1) env s (.forE i u d iter body))
      (eval cl p' (m + 1) env' s' (.forE i' u' d' iter' body')) := by
  rw [eval_for, eval_for]
  refine R.bind hi fun iv iv' s1 s1' hiv e1 => ?_
  cases R.shape hiv <;> first | exact R.done (R.start e1) rfl | exact hf _ _ s1 s1' ‹_› e1

theorem matchE {scrut scrut' : Expr} {cs cs' : List Case}
    (hs : R.Q s s' (eval cl p n env s scrut) (eval cl p' m env' s' scrut'))
    (hc : ∀ ty idx pl pl' s1 s1', ORel R.V pl pl' → R.E s s' s1 s1' →
      R.Q s1 s1' (evalCases cl p n env s1 ty idx pl cs) (evalCases cl p' m env' s1' ty idx pl' cs')) :
    R.Q s s' (eval cl p (n + 1) env s (.matchE i u scrut cs))
      (eval cl p' (m + 1) env' s' (.matchE i' u' scrut' cs')) := by
  rw [eval_match, eval_match]
  refine R.bind hs fun sv sv' s1 s1' hsv e1 => ?_
  cases R.shape hsv <;> first | exact R.done (R.start e1) rfl | exact hc _ _ _ _ s1 s1' ‹_› e1

theorem ret {x x' : Expr} (h : R.Q s s' (eval cl p n env s x) (eval cl p' m env' s' x')) :
    R.Q s s' (eval cl p (n + 1) env s (.ret i u (some x))) (eval cl p' (m + 1) env' s' (.ret i' u' (some x'))) := by
  rw [eval_ret, eval_ret]
  exact R.bind h fun v v' s1 s1' hv e1 => R.done (r := .ret v) (r' := .ret v') (R.start e1) hv

theorem tuple {items items' : List Expr}
    (h : R.Q s s' (evalList cl p n env s items) (evalList cl p' m env' s' items')) :
    R.Q s s' (eval cl p (n + 1) env s (.tuple i u items)) (eval cl p' (m + 1) env' s' (.tuple i' u' items')) := by
  rw [eval_tuple, eval_tuple]
  refine R.bind h fun vs vs' s1 s1' hvs e1 => ?_
  cases R.shape hvs <;> first | exact R.done (R.start e1) rfl | exact R.val (R.start e1) (R.intro (.tuple ‹_›) rfl)

theorem for_cons {d d' : Dest} {it it' : Val} {rest rest' : List Val} {body body' : List Expr} (h0 : R.C s s')
    (hb : R.Bound s s' (bindDest d it env s) (bindDest d' it' env' s')
      fun e1 s1 e1' s1' => R.Q s1 s1' (evalSeq cl p n e1 s1 body) (evalSeq cl p' m e1' s1' body'))
    (hf : ∀ s2 s2', R.E s s' s2 s2' →
      R.Q s2 s2' (evalFor cl p n env s2 d rest body) (evalFor cl p' m env' s2' d' rest' body')) :
    R.Q s s' (evalFor cl p (n + 1) env s d (it :: rest) body)
      (evalFor cl p' (m + 1) env' s' d' (it' :: rest') body') := by
  rw [evalFor_loop, evalFor_loop]
  exact R.bound h0 hb fun _ _ _ _ e1 h => R.loop h fun s2 s2' e2 => hf s2 s2' (R.trans e1 e2)

theorem cases_plain {ty : String} {idx : Nat} {payload payload' : Option Val} {variant : String}
    {body body' : List Expr} {rest rest' : List Case} (h0 : R.C s s') (hpl : ORel R.V payload payload')
    (hp : patKey p' variant = patKey p variant)
    (hb : R.Q s s' (evalSeq cl p n env s body) (evalSeq cl p' m env' s' body'))
    (hr : R.Q s s' (evalCases cl p n env s ty idx payload rest) (evalCases cl p' m env' s' ty idx payload' rest')) :
    R.Q s s' (evalCases cl p (n + 1) env s ty idx payload (.mk variant none body :: rest))
      (evalCases cl p' (m + 1) env' s' ty idx payload' (.mk variant none body' :: rest')) := by
  rw [evalCases_plain, evalCases_plain, hp]
  split
  · exact hb
  · cases patKey p variant with
    | none => exact R.done h0 rfl
    | some key =>
      obtain ⟨pty, pidx⟩ := key
      dsimp only
      split
      · cases payload <;> cases payload' <;> first | exact hb | exact hr | exact hpl.elim
      · exact hr

theorem cases_dest {ty : String} {idx : Nat} {payload payload' : Option Val} {variant : String} {d d' : Dest}
    {body body' : List Expr} {rest rest' : List Case} (h0 : R.C s s') (hpl : ORel R.V payload payload')
    (hp : patKey p' variant = patKey p variant)
    (hb : ∀ pl pl', R.V pl pl' → R.Bound s s' (bindDest d pl env s) (bindDest d' pl' env' s')
      fun e1 s1 e1' s1' => R.Q s1 s1' (evalSeq cl p n e1 s1 body) (evalSeq cl p' m e1' s1' body'))
    (hr : R.Q s s' (evalCases cl p n env s ty idx payload rest) (evalCases cl p' m env' s' ty idx payload' rest')) :
    R.Q s s' (evalCases cl p (n + 1) env s ty idx payload (.mk variant (some d) body :: rest))
      (evalCases cl p' (m + 1) env' s' ty idx payload' (.mk variant (some d') body' :: rest')) := by
  rw [evalCases_dest, evalCases_dest, hp]
  cases patKey p variant with
  | none => exact R.done h0 rfl
  | some key =>
    obtain ⟨pty, pidx⟩ := key
    dsimp only
    split
    · cases payload <;> cases payload' <;> first | exact hr | exact hpl.elim | skip
      exact R.bound h0 (hb _ _ hpl) fun _ _ _ _ _ h => h
    · exact hr

structure Pointwise (R : EvalRel) : Prop where
  step : ∀ {s s' s1 s1'}, R.C s1 s1' → R.E s s' s1 s1'
  get : ∀ {s s'} (l : Nat), R.C s s' → ORel R.V s.store[l]? s'.store[l]?
  len : ∀ {s s'}, R.C s s' → s'.store.length = s.store.length
  set : ∀ {s s' v v'} (l : Nat), R.C s s' → R.V v v' →
    R.C { s with store := s.store.set l v } { s' with store := s'.store.set l v' }
  push : ∀ {s s' v v'}, R.C s s' → R.V v v' →
    R.C { s with store := s.store ++ [v] } { s' with store := s'.store ++ [v'] }

theorem Pointwise.cells {R : EvalRel} (h : R.Pointwise) : R.Cells :=
  ⟨fun l e => h.get l (R.start e),
    fun l e hv => R.mono (h.step (h.set l (R.start e) hv)) (R.val (h.set l (R.start e) hv) R.unit)⟩

end EvalRel

theorem ValRel.refl_simple (R : ValRel) {v : Val} (h : Validators.simpleV v = true) : R.V v v := by
  cases v with
  | enumV t i o =>
    cases o with
    | none => exact R.intro (.enumV _ _ ORel.nn) rfl
    | some _ => cases h
  | list | tuple | closure => cases h
  | _ => exact R.intro (by constructor) rfl

theorem Res.Rel.eq : ∀ {r r' : Res}, Res.Rel Eq r r' → r = r'
  | .val _, .val _, h | .ret _, .ret _, h => by rw [show _ = _ from h]
  | .val _, .ret _, h | .val _, .brk, h | .val _, .cont, h | .val _, .err _, h | .val _, .unsup _, h
  | .val _, .timeout, h | .ret _, .val _, h | .ret _, .brk, h | .ret _, .cont, h | .ret _, .err _, h
  | .ret _, .unsup _, h | .ret _, .timeout, h => nomatch h
  | .brk, _, h | .cont, _, h | .err _, _, h | .unsup _, _, h | .timeout, _, h => h

def EvalRel.eq : EvalRel where
  toValRel := ValRel.eq
  C s s' := s = s'
  E _ _ s1 s1' := s1 = s1'
  Q _ _ a b := a = b
  start h := h
  trans _ h := h
  done h hr := by rw [h, hr.eq]
  emit _ h := by subst h; rfl
  mono _ h := h
  bind {s s' a b k k'} h hk := by
    subst h
    obtain ⟨r, s1⟩ := a
    cases r <;> first | exact hk _ _ _ _ rfl rfl | rfl
  loop {s s' a b k k'} h hk := by
    subst h
    obtain ⟨r, s1⟩ := a
    cases r <;> first | exact hk _ _ rfl | rfl
  funResult h := by subst h; rfl

theorem EvalRel.eq_pointwise : EvalRel.eq.Pointwise where
  step h := h
  get l h := by subst h; exact .of_eq rfl
  len h := by subst h; rfl
  set l h hv := by subst h; subst hv; rfl
  push h hv := by subst h; subst hv; rfl


end RefSem
