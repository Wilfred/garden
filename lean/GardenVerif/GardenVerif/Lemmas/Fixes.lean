import GardenVerif.Lemmas.Extract
import GardenVerif.Model.Fixes
/-! Lemmas for the program-level `check --fix` schema theorems (Props/C22). First the repeated `&&` / `||`
operand: its wrapper is locally sound (`local_rb`), so the congruence `C21.eval_congr_partial` lifts it to whole
programs. Then the deletion of unused literal statements (`delProg`): forward (`simDF_all`) and backward
(`simDB_all`) simulations between a program and the program without the selected statements. -/
namespace Fixes
open Machine (Expr Case Dest BinOp Program FunDef EnumDef)
open RefSem Validators Extract

def opB (op : BinOp) (a b : Bool) : Bool := if op = .and then a && b else a || b

theorem asBool_eq {v : Val} {a : Bool} (h : v.asBool = some a) : v = vBool a := by
  unfold Val.asBool at h
  split at h <;> first | (cases h; rfl) | cases h

theorem asBool_vBool (a : Bool) : (vBool a).asBool = some a := by cases a <;> rfl

theorem vBool_inj {a b : Bool} (h : vBool a = vBool b) : a = b := by
  cases a <;> cases b <;> first | rfl | (simp [vBool] at h)

theorem binop_bool {op : BinOp} (hop : isBoolOp op = true) (lv rv : Val) :
    RefSem.binop op lv rv = (match lv.asBool, rv.asBool with
      | some a, some b => .val (vBool (opB op a b))
      | _, _ => .err .typeError) := by
  cases op <;> simp [isBoolOp] at hop <;> simp [RefSem.binop, opB] <;>
    cases lv.asBool <;> cases rv.asBool <;> rfl

theorem self_absorb {op : BinOp} (hop : isBoolOp op = true) (v : Val) :
    RefSem.binop op v v = .val v ∨ RefSem.binop op v v = .err .typeError := by
  rw [binop_bool hop]
  cases h : v.asBool with
  | none => right; rfl
  | some a =>
    left
    have := asBool_eq h
    subst this
    simp only [opB]
    cases a <;> split <;> rfl

theorem opB_absorb (op : BinOp) (left : Bool) {a b d : Bool}
    (h : opB op (if left then a else b) d = if left then a else b) : opB op (opB op a b) d = opB op a b := by
  unfold opB at *; split at h <;> rename_i ho <;> simp only [ho, if_true, if_false] <;>
    cases left <;> cases a <;> cases b <;> cases d <;> simp_all

theorem binop_val_inv {op : BinOp} (hop : isBoolOp op = true) {lv rv vx : Val}
    (h : RefSem.binop op lv rv = .val vx) : ∃ a b, lv = vBool a ∧ rv = vBool b ∧ vx = vBool (opB op a b) := by
  rw [binop_bool hop] at h
  cases hl : lv.asBool with
  | none => simp [hl] at h
  | some a =>
    cases hr : rv.asBool with
    | none => simp [hl, hr] at h
    | some b =>
      simp only [hl, hr] at h
      injection h with h
      exact ⟨a, b, asBool_eq hl, asBool_eq hr, h.symm⟩

theorem absorb_step {op : BinOp} (hop : isBoolOp op = true) {a b : Bool} {w vd : Val} (left : Bool)
    (hw : w = vBool (if left then a else b))
    (h : RefSem.binop op w vd = .val w ∨ RefSem.binop op w vd = .err .typeError) :
    RefSem.binop op (vBool (opB op a b)) vd = .val (vBool (opB op a b)) ∨
      RefSem.binop op (vBool (opB op a b)) vd = .err .typeError := by
  subst hw
  rw [binop_bool hop] at h ⊢
  simp only [asBool_vBool] at h ⊢
  cases hd : vd.asBool with
  | none => right; rfl
  | some d =>
    simp only [hd] at h ⊢
    rcases h with h | h
    · left
      injection h with h
      rw [opB_absorb op left (vBool_inj h)]
    · cases h

theorem eval_lift (q : Program) {n m : Nat} (h : n ≤ m) {env : Env} {s : RefSem.St} {e : Expr} {v : Val}
    {s1 : RefSem.St} (he : eval false q n env s e = (.val v, s1)) : eval false q m env s e = (.val v, s1) := by
  have := (eval_mono q h env s e).eq_of_not_to (by rw [he]; rfl)
  rw [← this, he]

/-- In a call-free pure chain `x` of a strict Boolean operator, every operand `d` evaluates (in the
unchanged state) to a value that the value of `x` absorbs — or `x op d` is a type error. -/
theorem chain_absorb (q : Program) {op : BinOp} (hop : isBoolOp op = true) :
    ∀ (x : Expr), arithE x = true → ∀ (n : Nat) (env : Env) (s : RefSem.St) (vx : Val),
      eval false q n env s x = (.val vx, s) → ∀ d ∈ operands op x,
      ∃ vd, eval false q n env s d = (.val vd, s) ∧
        (RefSem.binop op vx vd = .val vx ∨ RefSem.binop op vx vd = .err .typeError)
  | .binop id u op' l r, hx, n, env, s, vx, h, d, hd => by
      simp only [arithE, Bool.and_eq_true] at hx
      by_cases ho : op' = op
      · subst ho
        simp only [operands, if_true, List.mem_append] at hd
        cases n with
        | zero => simp [eval] at h
        | succ n' =>
          simp only [eval] at h
          have ksl := ((arithPure false q n').ev env s l hx.1).1
          cases hl : eval false q n' env s l with
          | mk rl sl =>
            rw [hl] at ksl h; simp only at ksl; subst ksl
            cases rl <;> simp only [RefSem.bind] at h <;> try (injection h with h1 _; cases h1; done)
            rename_i lv
            have ksr := ((arithPure false q n').ev env sl r hx.2).1
            cases hr : eval false q n' env sl r with
            | mk rr sr =>
              rw [hr] at ksr h; simp only at ksr; subst ksr
              cases rr <;> try (injection h with h1 _; cases h1; done)
              rename_i rv
              injection h with h1 _
              obtain ⟨a, b, rfl, rfl, rfl⟩ := binop_val_inv hop h1
              rcases hd with hd | hd
              · obtain ⟨vd, hvd, hab⟩ := chain_absorb q hop l hx.1 n' env sr (vBool a) hl d hd
                exact ⟨vd, eval_lift q (Nat.le_succ _) hvd, absorb_step hop true rfl hab⟩
              · obtain ⟨vd, hvd, hab⟩ := chain_absorb q hop r hx.2 n' env sr (vBool b) hr d hd
                exact ⟨vd, eval_lift q (Nat.le_succ _) hvd, absorb_step hop false rfl hab⟩
      · simp only [operands, ho, if_false, List.mem_singleton] at hd
        subst hd
        exact ⟨vx, h, self_absorb hop vx⟩
  | .paren id u e, hx, n, env, s, vx, h, d, hd => by
      simp only [arithE] at hx
      simp only [operands] at hd
      cases n with
      | zero => simp [eval] at h
      | succ n' =>
        simp only [eval] at h
        obtain ⟨vd, hvd, hab⟩ := chain_absorb q hop e hx n' env s vx h d hd
        exact ⟨vd, eval_lift q (Nat.le_succ _) hvd, hab⟩
  | .int .., hx, n, env, s, vx, h, d, hd | .str .., hx, n, env, s, vx, h, d, hd | .var .., hx, n, env, s, vx, h, d, hd
  | .list .., hx, n, env, s, vx, h, d, hd | .tuple .., hx, n, env, s, vx, h, d, hd => by
      simp only [operands, List.mem_singleton] at hd; subst hd; exact ⟨vx, h, self_absorb hop vx⟩
  | .letE .., hx, _, _, _, _, _, _, _ | .assign .., hx, _, _, _, _, _, _, _ | .update .., hx, _, _, _, _, _, _, _
  | .ifE .., hx, _, _, _, _, _, _, _ | .whileE .., hx, _, _, _, _, _, _, _ | .forE .., hx, _, _, _, _, _, _, _
  | .matchE .., hx, _, _, _, _, _, _, _ | .ret .., hx, _, _, _, _, _, _, _ | .brk .., hx, _, _, _, _, _, _, _
  | .cont .., hx, _, _, _, _, _, _, _ | .call .., hx, _, _, _, _, _, _, _ | .lambda .., hx, _, _, _, _, _, _, _
  | .invalid .., hx, _, _, _, _, _, _, _ | .unsup .., hx, _, _, _, _, _, _, _ => nomatch hx

theorem rb_fwd (q : Program) {op : BinOp} (hop : isBoolOp op = true) {x d : Expr} (hx : arithE x = true)
    (hd : d ∈ operands op x) (m : Nat) (env : Env) (s : RefSem.St) :
    LeX none (some .typeError) (eval false q m env s x) (eval false q (m + 1) env s (.binop 0 false op x d)) := by
  simp only [eval]
  have ks := ((arithPure false q m).ev env s x hx).1
  cases h : eval false q m env s x with
  | mk r s1 =>
    rw [h] at ks; simp only at ks; subst ks
    cases r with
    | val vx =>
      obtain ⟨vd, hvd, hab⟩ := chain_absorb q hop x hx m env s1 vx h d hd
      simp only [RefSem.bind, hvd]
      rcases hab with hab | hab
      · rw [hab]; exact LeX.rfl
      · rw [hab]; exact Or.inr (Or.inr (Or.inr (by simp [failedBy])))
    | timeout => exact LeX.to
    | brk => exact LeX.rfl
    | cont => exact LeX.rfl
    | ret v => exact LeX.rfl
    | err k => exact LeX.rfl
    | unsup w => exact LeX.rfl

theorem rb_bwd (q : Program) {op : BinOp} (hop : isBoolOp op = true) {x d : Expr} (hx : arithE x = true)
    (hd : d ∈ operands op x) (m : Nat) (env : Env) (s : RefSem.St) :
    LeX (some .typeError) none (eval false q m env s (.binop 0 false op x d)) (eval false q m env s x) := by
  cases m with
  | zero => simp only [eval]; exact LeX.to
  | succ m' =>
    -- one level down `x` ends as `x op d` does here (`rb_fwd`), and as `x` does here (`eval_mono`)
    rcases rb_fwd q hop hx hd m' env s with h | h | h | h
    · simp only [eval]
      generalize eval false q m' env s x = a at h
      obtain ⟨r, s1⟩ := a
      cases isTO_eq h
      exact LeX.to
    · rw [← h]; exact (eval_mono q (Nat.le_succ m') env s x).weaken
    · simp [failedBy] at h
    · exact Or.inr (Or.inr (Or.inl h))

theorem paren_fwd (q : Program) (oa ob : Option EK) (x : Expr) (m : Nat) (env : Env) (s : RefSem.St) :
    LeX oa ob (eval false q m env s x) (eval false q (m + 1) env s (.paren 0 false x)) := by
  simp only [eval]; exact LeX.rfl

theorem paren_bwd (q : Program) (oa : Option EK) (x : Expr) (m : Nat) (env : Env) (s : RefSem.St) :
    LeX oa none (eval false q m env s (.paren 0 false x)) (eval false q m env s x) := by
  cases m with
  | zero => simp only [eval]; exact LeX.to
  | succ m' =>
    have hm := eval_mono q (Nat.le_succ m') env s x
    generalize eval false q (m' + 1) env s x = R at hm ⊢
    simp only [eval]; exact hm.weaken

theorem local_rb (op : BinOp) (k t : Nat) (p : Program) : Local (rbCfg op k t) p where
  notLet := fun id x _ => by
    show isLet (rbWrap op k x) = false
    unfold rbWrap; split
    · split <;> rfl
    · rfl
  fwd := fun m env s x _ => by
    show LeX none (some .typeError) _ (eval false _ (m + 1) env s (rbWrap op k x))
    unfold rbWrap; split
    · rename_i d hd
      split
      · rename_i hc
        simp only [Bool.and_eq_true] at hc
        exact rb_fwd _ hc.1 hc.2 (List.mem_of_getElem? hd) m env s
      · exact paren_fwd _ _ _ x m env s
    · exact paren_fwd _ _ _ x m env s
  bwd := fun m env s x _ => by
    show LeX (some .typeError) none (eval false _ m env s (rbWrap op k x)) _
    unfold rbWrap; split
    · rename_i d hd
      split
      · rename_i hc
        simp only [Bool.and_eq_true] at hc
        exact rb_bwd _ hc.1 hc.2 (List.mem_of_getElem? hd) m env s
      · exact paren_bwd _ _ x m env s
    · exact paren_bwd _ _ x m env s
  funs := fun d _ => bokFun_true d

theorem mapped_DP (sel : Nat → Bool) (p : Program) : Mapped (delFun sel) p (delProg sel p) :=
  ⟨rfl, rfl, fun _ => rfl⟩

theorem applyBuiltin_DP (sel : Nat → Bool) (p : Program) (name : String) (args : List Val) (s : RefSem.St) :
    applyBuiltin (delProg sel p) name args s = applyBuiltin p name args s := rfl

theorem isLet_del (sel : Nat → Bool) (e : Expr) : isLet (del sel e) = isLet e := by
  cases e <;> first | rfl | (rename_i o; cases o <;> rfl)

theorem delSeq_cons_ne (sel : Nat → Bool) : ∀ (e : Expr) (rest : List Expr),
    ∃ a l, delSeq sel (e :: rest) = a :: l
  | e, [] => by simp [delSeq, delHere]
  | e, r0 :: rest => by
      simp only [delSeq]
      split
      · exact delSeq_cons_ne sel r0 rest
      · exact ⟨_, _, rfl⟩

theorem evalSeq_lit (cl : Bool) (p : Program) (n : Nat) (env : Env) (s : RefSem.St) {e : Expr}
    {rest : List Expr} (hl : isLit e = true) (hr : rest.isEmpty = false) :
    evalSeq cl p (n + 1) env s (e :: rest) = if n = 0 then (.timeout, s) else evalSeq cl p n env s rest := by
  rw [evalSeq_cons_nonlet cl p n env s rest (by cases e <;> simp [isLit, isLet] at hl ⊢)]
  cases rest with
  | nil => simp at hr
  | cons r0 rest' =>
    cases n with
    | zero => simp [eval, RefSem.bind]
    | succ n' => cases e <;> simp [isLit] at hl <;> simp [eval, RefSem.bind]

theorem dokSeq_cons {sel : Nat → Bool} {K : Nat} {e : Expr} {rest : List Expr}
    (h : dokSeq sel K (e :: rest) = true) : dok sel K e = true ∧ dokSeq sel K rest = true := by
  simp only [dokSeq, dokL, Bool.and_eq_true, decide_eq_true_eq] at h ⊢
  exact ⟨h.2.1, Nat.le_trans (by simp [dels]) h.1, h.2.2⟩

structure SimDF (sel : Nat → Bool) (p : Program) (n m : Nat) : Prop where
  ev : ∀ env s e, LeX none none (eval false p n env s e) (eval false (delProg sel p) m env s (del sel e))
  seq : ∀ env s es,
    LeX none none (evalSeq false p n env s es) (evalSeq false (delProg sel p) m env s (delSeq sel es))
  lst : ∀ env s es,
    LeX none none (evalList false p n env s es) (evalList false (delProg sel p) m env s (delList sel es))
  whl : ∀ env s cnd body, LeX none none (evalWhile false p n env s cnd body)
    (evalWhile false (delProg sel p) m env s (del sel cnd) (delSeq sel body))
  for_ : ∀ env s dest items body, LeX none none (evalFor false p n env s dest items body)
    (evalFor false (delProg sel p) m env s dest items (delSeq sel body))
  cases : ∀ env s ty idx pl cs, LeX none none (evalCases false p n env s ty idx pl cs)
    (evalCases false (delProg sel p) m env s ty idx pl (delCases sel cs))
  app : ∀ s f args, LeX none none (applyVal false p n s f args) (applyVal false (delProg sel p) m s f args)

theorem delSeq_eq_nil (sel : Nat → Bool) (es : List Expr) : es = [] ↔ delSeq sel es = [] := by
  cases es with
  | nil => exact ⟨fun _ => rfl, fun _ => rfl⟩
  | cons e rest =>
    obtain ⟨a, l, h⟩ := delSeq_cons_ne sel e rest
    rw [h]
    exact ⟨fun h => (nomatch h), fun h => (nomatch h)⟩

theorem simDF_succ {sel : Nat → Bool} {p : Program} (n : Nat)
    (ihf : ∀ m0, n ≤ m0 → SimDF sel p n m0) (m : Nat) (hm : n + 1 ≤ m) : SimDF sel p (n + 1) m := by
  obtain ⟨m1, rfl⟩ : ∃ m1, m = m1 + 1 := ⟨m - 1, by omega⟩
  have ih := ihf m1 (by omega)
  let R := leRel none none
  refine ⟨?ev, ?seq, ?lst, ?whl, ?for_, ?cases, ?app⟩
  case ev =>
    intro env s e
    cases e with
    | int id u v => exact LeX.rfl
    | str id u v => exact LeX.rfl
    | var id u nm => exact R.var rfl (.of_eq ((mapped_DP sel p).lookupVar env s.store nm).symm)
    | binop id u op l r => exact R.binop (ih.ev _ _ _) fun _ _ h => h ▸ ih.ev _ _ _
    | letE id u d r => exact LeX.rfl
    | assign id u nm rhs => exact R.assign (leRel_cells _ _) (ih.ev _ _ _) rfl
    | update id u a nm rhs => exact R.update (leRel_cells _ _) (ih.ev _ _ _) rfl
    | ifE id u cnd thn els =>
      refine R.ifE (ih.ev _ _ _) (fun _ _ h => h ▸ ih.seq _ _ _) fun _ _ h => ?_
      cases els
      · trivial
      · exact h ▸ ih.seq _ _ _
    | whileE id u cnd body => exact ih.whl _ _ _ _
    | forE id u dest iter body => exact R.forE (ih.ev _ _ _) fun _ _ _ _ hl h => h ▸ hl.eq_of ▸ ih.for_ _ _ _ _ _
    | matchE id u scrut cs => exact R.matchE (ih.ev _ _ _) fun _ _ _ _ _ _ hpl h => h ▸ hpl.eq_of ▸ ih.cases _ _ _ _ _ _
    | ret id u o =>
      cases o with
      | none => exact LeX.rfl
      | some x => exact R.ret (ih.ev _ _ _)
    | brk id u => exact LeX.rfl
    | cont id u => exact LeX.rfl
    | list id u items => exact ih.lst _ _ _
    | tuple id u items => exact R.tuple (ih.lst _ _ _)
    | call id u recv args =>
      exact R.call (ih.ev _ _ _) (fun _ _ h => h ▸ ih.lst _ _ _) fun _ _ _ _ _ _ h hf hl =>
        h ▸ hf ▸ hl.eq_of ▸ ih.app _ _ _
    | lambda id u ps body => exact LeX.rfl
    | paren id u x => exact ih.ev _ _ _
    | invalid id u => exact LeX.rfl
    | unsup id u w => exact LeX.rfl
  case seq =>
    intro env s es
    cases es with
    | nil => exact LeX.rfl
    | cons e rest =>
      simp only [delSeq]
      by_cases hd : delHere sel e rest = true
      · -- the statement is deleted: the original spends one level of fuel on it
        simp only [hd, if_true]
        simp only [delHere, Bool.and_eq_true, Bool.not_eq_true'] at hd
        rw [evalSeq_lit _ _ _ _ _ hd.1.1 hd.2]
        by_cases hn : n = 0
        · simp only [hn, if_true]; exact LeX.to
        · simp only [hn, if_false]
          exact (ihf (m1 + 1) (by omega)).seq env s rest
      · simp only [hd, Bool.false_eq_true, if_false]
        by_cases hl : isLet e = true
        · obtain ⟨id, u, d, r, rfl⟩ := isLet_iff.mp hl
          exact R.seq_let (ih.ev _ _ _) fun v _ s1 _ hv h => h ▸ hv ▸ leRel_bound _ fun _ _ _ => ih.seq _ _ _
        · have hl' : isLet e = false := by simpa using hl
          exact R.seq_cons hl' (by rw [isLet_del]; exact hl') (delSeq_eq_nil sel rest) (ih.ev _ _ _)
            fun _ _ h => h ▸ ih.seq _ _ _
  case lst =>
    intro env s es
    cases es with
    | nil => exact LeX.rfl
    | cons e rest => exact R.list_cons (ih.ev _ _ _) fun _ _ h => h ▸ ih.lst _ _ _
  case whl =>
    intro env s cnd body
    exact R.while_ (ih.ev _ _ _) (fun _ _ h => h ▸ ih.seq _ _ _) fun _ _ h => h ▸ ih.whl _ _ _ _
  case for_ =>
    intro env s dest items body
    cases items with
    | nil => exact LeX.rfl
    | cons it rest =>
      exact R.for_cons rfl (leRel_bound _ fun _ _ _ => ih.seq _ _ _) fun _ _ h => h ▸ ih.for_ _ _ _ _ _
  case cases =>
    intro env s ty idx pl cs
    cases cs with
    | nil => exact LeX.rfl
    | cons cs0 rest =>
      obtain ⟨variant, dest, body⟩ := cs0
      cases dest with
      | none => exact R.cases_plain rfl (.of_eq rfl) ((mapped_DP sel p).patKey variant) (ih.seq _ _ _) (ih.cases _ _ _ _ _ _)
      | some d =>
        exact R.cases_dest rfl (.of_eq rfl) ((mapped_DP sel p).patKey variant)
          (fun _ _ hv => hv ▸ leRel_bound _ fun _ _ _ => ih.seq _ _ _)
          (ih.cases _ _ _ _ _ _)
  case app =>
    intro s f args
    by_cases hf : ∃ name, f = .fn name
    · obtain ⟨name, rfl⟩ := hf
      cases hfind : p.funs.find? (fun d => d.name == name) with
      | none => simp only [applyVal, (mapped_DP sel p).find, hfind, Option.map_none]; exact LeX.rfl
      | some d =>
        exact R.apply_fn (d' := delFun sel d) rfl (LRel.eq_refl _) hfind (by rw [(mapped_DP sel p).find, hfind]; rfl) rfl
          fun _ => ⟨rfl, ih.seq _ _ _⟩
    · exact R.apply_other rfl rfl (LRel.eq_refl _) rfl (fun name h => hf ⟨name, h⟩) (.inl rfl)

theorem simDF_all (sel : Nat → Bool) (p : Program) : ∀ n m, n ≤ m → SimDF sel p n m
  | 0, m, _ => by
    refine ⟨?_, ?_, ?_, ?_, ?_, ?_, ?_⟩ <;> intros <;>
      simp only [eval, evalSeq, evalList, evalWhile, evalFor, evalCases, applyVal] <;> exact LeX.to
  | n + 1, m, hm => simDF_succ n (fun m0 h0 => simDF_all sel p n m0 h0) m hm

/-- In `seq` the bound is `thr K n + dels sel es ≤ m + K`: going down `es`, the original (on the right) spends one
of the `K` spare levels on each deleted statement. -/
structure SimDB (sel : Nat → Bool) (K : Nat) (p : Program) (n : Nat) : Prop where
  ev : ∀ m, thr K n ≤ m → ∀ env s e, dok sel K e = true →
    LeX none none (eval false (delProg sel p) n env s (del sel e)) (eval false p m env s e)
  seq : ∀ m es, thr K n + dels sel es ≤ m + K → dokSeq sel K es = true → ∀ env s,
    LeX none none (evalSeq false (delProg sel p) n env s (delSeq sel es)) (evalSeq false p m env s es)
  lst : ∀ m, thr K n ≤ m → ∀ env s es, dokL sel K es = true →
    LeX none none (evalList false (delProg sel p) n env s (delList sel es)) (evalList false p m env s es)
  whl : ∀ m, thr K n ≤ m → ∀ env s cnd body, dok sel K cnd = true → dokSeq sel K body = true →
    LeX none none (evalWhile false (delProg sel p) n env s (del sel cnd) (delSeq sel body))
      (evalWhile false p m env s cnd body)
  for_ : ∀ m, thr K n ≤ m → ∀ env s dest items body, dokSeq sel K body = true →
    LeX none none (evalFor false (delProg sel p) n env s dest items (delSeq sel body))
      (evalFor false p m env s dest items body)
  cases : ∀ m, thr K n ≤ m → ∀ env s ty idx pl cs, dokCases sel K cs = true →
    LeX none none (evalCases false (delProg sel p) n env s ty idx pl (delCases sel cs))
      (evalCases false p m env s ty idx pl cs)
  app : ∀ m, thr K n ≤ m → ∀ s f args,
    LeX none none (applyVal false (delProg sel p) n s f args) (applyVal false p m s f args)

theorem dokSeq_of {sel : Nat → Bool} {K : Nat} {es : List Expr} (h1 : dels sel es ≤ K)
    (h2 : dokL sel K es = true) : dokSeq sel K es = true := by
  simp only [dokSeq, Bool.and_eq_true, decide_eq_true_eq]; exact ⟨h1, h2⟩

theorem simDB_succ {sel : Nat → Bool} {K : Nat} {p : Program}
    (hP : ∀ d ∈ p.funs, dokSeq sel K d.body = true) (n : Nat) (ih : SimDB sel K p n) :
    SimDB sel K p (n + 1) := by
  let R := leRel none none
  -- a block inside a node evaluated with fuel `m1 + 1 ≥ thr K (n + 1)` on the right
  have blk : ∀ m1, thr K n + K ≤ m1 → ∀ es, dokSeq sel K es = true → ∀ env s,
      LeX none none (evalSeq false (delProg sel p) n env s (delSeq sel es)) (evalSeq false p m1 env s es) := by
    intro m1 h1 es hes env s
    have hd : dels sel es ≤ K := by
      simp only [dokSeq, Bool.and_eq_true, decide_eq_true_eq] at hes; exact hes.1
    exact ih.seq m1 es (by omega) hes env s
  -- the right side has fuel for one more level and `K` deleted statements
  have fuel : ∀ {m}, thr K (n + 1) ≤ m → ∃ m1, m = m1 + 1 ∧ thr K n + K ≤ m1 := by
    intro m hm
    rw [thr_succ] at hm
    exact ⟨m - 1, by omega, by omega⟩
  refine ⟨?ev, ?seq, ?lst, ?whl, ?for_, ?cases, ?app⟩
  case ev =>
    intro m hm env s e hk
    obtain ⟨m1, rfl, h2⟩ := fuel hm
    have h1 : thr K n ≤ m1 := by omega
    cases e <;> (try simp only [dok, Bool.and_eq_true, decide_eq_true_eq] at hk)
    case int id u v => exact LeX.rfl
    case str id u v => exact LeX.rfl
    case var id u nm => exact R.var rfl (.of_eq ((mapped_DP sel p).lookupVar env s.store nm))
    case binop id u op l r =>
      exact R.binop (ih.ev m1 h1 _ _ _ hk.1) fun _ _ h => h ▸ ih.ev m1 h1 _ _ _ hk.2
    case letE id u d r => exact LeX.rfl
    case assign id u nm rhs => exact R.assign (leRel_cells _ _) (ih.ev m1 h1 _ _ _ hk) rfl
    case update id u a nm rhs => exact R.update (leRel_cells _ _) (ih.ev m1 h1 _ _ _ hk) rfl
    case ifE id u cnd thn els =>
      refine R.ifE (ih.ev m1 h1 _ _ _ hk.1.1.1) (fun _ _ h => h ▸ blk m1 h2 thn (dokSeq_of hk.1.1.2 hk.1.2) _ _)
        fun _ _ h => ?_
      cases els with
      | none => trivial
      | some eb =>
        have hk3 := hk.2
        simp only [dokOpt, Bool.and_eq_true, decide_eq_true_eq] at hk3
        exact h ▸ blk m1 h2 eb (dokSeq_of hk3.1 hk3.2) _ _
    case whileE id u cnd body =>
      exact ih.whl m1 h1 _ _ _ _ hk.1.1 (dokSeq_of hk.1.2 hk.2)
    case forE id u dest iter body =>
      exact R.forE (ih.ev m1 h1 _ _ _ hk.1.1) fun _ _ _ _ hl h =>
        h ▸ hl.eq_of ▸ ih.for_ m1 h1 _ _ _ _ _ (dokSeq_of hk.1.2 hk.2)
    case matchE id u scrut cs =>
      exact R.matchE (ih.ev m1 h1 _ _ _ hk.1) fun _ _ _ _ _ _ hpl h => h ▸ hpl.eq_of ▸ ih.cases m1 h1 _ _ _ _ _ _ hk.2
    case ret id u o =>
      cases o with
      | none => exact LeX.rfl
      | some x => exact R.ret (ih.ev m1 h1 _ _ _ hk)
    case brk id u => exact LeX.rfl
    case cont id u => exact LeX.rfl
    case list id u items => exact ih.lst m1 h1 _ _ _ hk
    case tuple id u items => exact R.tuple (ih.lst m1 h1 _ _ _ hk)
    case call id u recv args =>
      exact R.call (ih.ev m1 h1 _ _ _ hk.1) (fun _ _ h => h ▸ ih.lst m1 h1 _ _ _ hk.2)
        fun _ _ _ _ _ _ h hf hl => h ▸ hf ▸ hl.eq_of ▸ ih.app m1 h1 _ _ _
    case lambda id u ps body => exact LeX.rfl
    case paren id u x => exact ih.ev m1 h1 _ _ _ hk
    case invalid id u => exact LeX.rfl
    case unsup id u w => exact LeX.rfl
  case seq =>
    intro m es
    induction es generalizing m with
    | nil =>
      intro hm _ env s
      rw [thr_succ] at hm
      obtain ⟨m1, rfl⟩ : ∃ m1, m = m1 + 1 := ⟨m - 1, by simp [dels] at hm; omega⟩
      exact LeX.rfl
    | cons e rest ihes =>
      intro hm hk env s
      have hk' := dokSeq_cons hk
      rw [thr_succ] at hm
      simp only [delSeq]
      by_cases hd : delHere sel e rest = true
      · -- the statement is deleted: the original spends one more level of fuel on it
        simp only [hd, if_true]
        simp only [dels, hd, if_true] at hm
        obtain ⟨m1, rfl⟩ : ∃ m1, m = m1 + 1 := ⟨m - 1, by omega⟩
        have hd' := hd
        simp only [delHere, Bool.and_eq_true, Bool.not_eq_true'] at hd'
        rw [evalSeq_lit _ _ _ _ _ hd'.1.1 hd'.2]
        have hne : ¬ m1 = 0 := by omega
        simp only [hne, if_false]
        exact ihes m1 (by rw [thr_succ]; omega) hk'.2 env s
      · simp only [hd, Bool.false_eq_true, if_false]
        simp only [dels, hd, Bool.false_eq_true, if_false, Nat.zero_add] at hm
        obtain ⟨m1, rfl⟩ : ∃ m1, m = m1 + 1 := ⟨m - 1, by omega⟩
        have h1 : thr K n ≤ m1 := by omega
        have hrest : ∀ env s, LeX none none (evalSeq false (delProg sel p) n env s (delSeq sel rest))
            (evalSeq false p m1 env s rest) := fun env s => ih.seq m1 rest (by omega) hk'.2 env s
        by_cases hl : isLet e = true
        · obtain ⟨id, u, d, r, rfl⟩ := isLet_iff.mp hl
          have hkr : dok sel K r = true := by simpa [dok] using hk'.1
          exact R.seq_let (ih.ev m1 h1 _ _ _ hkr) fun v _ s1 _ hv h => h ▸ hv ▸ leRel_bound _ fun _ _ _ => hrest _ _
        · have hl' : isLet e = false := by simpa using hl
          exact R.seq_cons (by rw [isLet_del]; exact hl') hl' (delSeq_eq_nil sel rest).symm
            (ih.ev m1 h1 _ _ _ hk'.1) fun _ _ h => h ▸ hrest _ _
  case lst =>
    intro m hm env s es hk
    obtain ⟨m1, rfl, h2⟩ := fuel hm
    have h1 : thr K n ≤ m1 := by omega
    cases es with
    | nil => exact LeX.rfl
    | cons e rest =>
      simp only [dokL, Bool.and_eq_true] at hk
      exact R.list_cons (ih.ev m1 h1 _ _ _ hk.1) fun _ _ h => h ▸ ih.lst m1 h1 _ _ _ hk.2
  case whl =>
    intro m hm env s cnd body hk1 hk2
    obtain ⟨m1, rfl, h2⟩ := fuel hm
    have h1 : thr K n ≤ m1 := by omega
    exact R.while_ (ih.ev m1 h1 _ _ _ hk1) (fun _ _ h => h ▸ blk m1 h2 body hk2 _ _)
      fun _ _ h => h ▸ ih.whl m1 h1 _ _ _ _ hk1 hk2
  case for_ =>
    intro m hm env s dest items body hk
    obtain ⟨m1, rfl, h2⟩ := fuel hm
    have h1 : thr K n ≤ m1 := by omega
    cases items with
    | nil => exact LeX.rfl
    | cons it rest =>
      exact R.for_cons rfl (leRel_bound _ fun _ _ _ => blk m1 h2 body hk _ _)
        fun _ _ h => h ▸ ih.for_ m1 h1 _ _ _ _ _ hk
  case cases =>
    intro m hm env s ty idx pl cs hk
    obtain ⟨m1, rfl, h2⟩ := fuel hm
    have h1 : thr K n ≤ m1 := by omega
    cases cs with
    | nil => exact LeX.rfl
    | cons cs0 rest =>
      obtain ⟨variant, dest, body⟩ := cs0
      simp only [dokCases, Bool.and_eq_true, decide_eq_true_eq] at hk
      have h3 := ih.cases m1 h1 env s ty idx pl rest hk.2
      have hbody := blk m1 h2 body (dokSeq_of hk.1.1 hk.1.2)
      cases dest with
      | none => exact R.cases_plain rfl (.of_eq rfl) ((mapped_DP sel p).patKey variant).symm (hbody _ _) h3
      | some d =>
        exact R.cases_dest rfl (.of_eq rfl) ((mapped_DP sel p).patKey variant).symm
          (fun _ _ hv => hv ▸ leRel_bound _ fun _ _ _ => hbody _ _) h3
  case app =>
    intro m hm s f args
    obtain ⟨m1, rfl, h2⟩ := fuel hm
    by_cases hf : ∃ name, f = .fn name
    · obtain ⟨name, rfl⟩ := hf
      cases hfind : p.funs.find? (fun d => d.name == name) with
      | none => simp only [applyVal, (mapped_DP sel p).find, hfind, Option.map_none]; exact LeX.rfl
      | some d =>
        exact R.apply_fn (d := delFun sel d) rfl (LRel.eq_refl _) (by rw [(mapped_DP sel p).find, hfind]; rfl) hfind rfl
          fun _ => ⟨rfl, blk m1 h2 d.body (hP d (List.mem_of_find?_eq_some hfind)) _ _⟩
    · exact R.apply_other rfl rfl (LRel.eq_refl _) rfl (fun name h => hf ⟨name, h⟩) (.inl rfl)

theorem simDB_all {sel : Nat → Bool} {K : Nat} {p : Program}
    (hP : ∀ d ∈ p.funs, dokSeq sel K d.body = true) : ∀ n, SimDB sel K p n
  | 0 => by
    refine ⟨?_, ?_, ?_, ?_, ?_, ?_, ?_⟩ <;> intros <;>
      simp only [eval, evalSeq, evalList, evalWhile, evalFor, evalCases, applyVal] <;> exact LeX.to
  | n + 1 => simDB_succ hP n (simDB_all hP n)

end Fixes
