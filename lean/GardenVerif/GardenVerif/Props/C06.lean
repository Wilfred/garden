import GardenVerif.Lemmas.MachineFrame
/-!
# C06 — Block-local variables never outlive their block

Statements over the machine model M4 (`Machine.step`), compared tick-by-tick (including the
key sets of every binding block) with the real evaluator on every run (harness/c06.py).

The core is the **balance invariant**: in every frame, `#binding blocks = base + #block-owning
pending entries` (`Bal`), where the block-owning continuations are `if`/`match` in state E,
`while`/`for` in state PD (body running) and `for` in state E (terminal block; `owns` also counts a
`for` in state PN, which never arises). It holds initially and is preserved by every step — in particular
by `break` and `continue` through any nesting. `return` drops the frame's pending entries; such a frame is
exempt (`BalW`): a callee's frame is popped by the next step; the toplevel frame is not (the run is `.done`,
a session keeps the frame), and there a `return` inside a block leaves that block's bindings behind, in
the model as in the code: nothing here speaks of that state.
Corollary `toplevel_scope_restored`: between two statements of the toplevel frame exactly one binding
block exists, however the blocks entered before were left (normally, by break, by continue).
What is stated is this COUNT of blocks. That a variable introduced inside a block that control has left
is then unbound (a block-local `let` writes the innermost block, which is the one popped, so a later
reference gives the same `No such variable` error as after normal completion) is not stated: no theorem
here mentions `lookupBlocks` or `getVar`. For a frame of a call the base is existentially quantified
(`reach_bal`, `frame_scope_restored`); only the toplevel frame's base is tied to a number.
Runs that end in a runtime error stop; they are outside `Reach`.
-/
namespace C06
open Machine

/-- Does this pending entry own a binding block (its continuation pops one)? On entries that are not
loops this is `Machine.ownsBlock` (`ownsBlock_eq`), the test `eval_break` uses when it discards an
entry; loops are the targets of `break`/`continue`, which handle their blocks themselves. -/
def owns : St × Expr → Bool
  | (.E, .ifE ..) => true
  | (.E, .matchE ..) => true
  | (.PD, .whileE ..) => true
  | (.PD, .forE ..) => true
  | (.E, .forE ..) => true
  -- never arises (`unreachable!` in eval_expr); counted like E because `eval_break` puts a `for` in
  -- any state but N / PW back in state E without popping a block
  | (.PN, .forE ..) => true
  | _ => false

def owners : List (St × Expr) → Nat
  | [] => 0
  | x :: xs => (if owns x then 1 else 0) + owners xs

def Bal (base : Nat) (f : Frame) : Prop := f.blocks.length = base + owners f.exprs

theorem owns_eq (st : St) (e : Expr) :
    owns (st, e) = match e with
      | .ifE .. | .matchE .. => st == .E
      | .whileE .. => st == .PD
      | .forE .. => st == .PD || st == .E || st == .PN
      | _ => false := by
  cases e <;> cases st <;> rfl

theorem owns_N (e : Expr) : owns (.N, e) = false := by cases e <;> rfl

theorem owns_PW (e : Expr) : owns (.PW, e) = false := by cases e <;> rfl

theorem owners_cons (x : St × Expr) (xs : List (St × Expr)) :
    owners (x :: xs) = (if owns x then 1 else 0) + owners xs := rfl

theorem owners_append (a b : List (St × Expr)) : owners (a ++ b) = owners a + owners b := by
  induction a with
  | nil => simp [owners]
  | cons x xs ih => simp only [List.cons_append, owners_cons, ih]; omega

theorem owners_fresh (body : List Expr) : owners (body.map (fun e => (St.N, e))) = 0 := by
  induction body with
  | nil => rfl
  | cons x xs ih => simp [owners_cons, owns_N, ih]

theorem owners_evalBlock (f : Frame) (u : Bool) (body : List Expr) :
    owners (evalBlock f u body).exprs = owners f.exprs := by
  simp [evalBlock_eq, owners_append, owners_fresh]

theorem owners_pushN (items : List Expr) (K : List (St × Expr)) :
    owners ((items.map fun x => (St.N, x)).reverse ++ K) = owners K := by
  simp [← List.map_reverse, owners_append, owners_fresh]

theorem matchCases_spec {p : Program} {used : Bool} {ty : String} {idx : Nat} {payload : Option Value}
    {cases : List Case} {f f' : Frame} (h : matchCases p f used ty idx payload cases = .ok f') :
    f'.blocks.length = f.blocks.length + 1 ∧ owners f'.exprs = owners f.exprs := by
  obtain ⟨_, _, _, _, _, _, rfl⟩ := matchCases_ok h
  exact ⟨evalBlock_blocks_length .., owners_evalBlock ..⟩

def BalAfter (base : Nat) : Disp → Prop
  | .ok f' => Bal base f'
  | .okOut f' _ => Bal base f'
  | .newFrame f' c => Bal base f' ∧ owners c.exprs = 0
  | _ => True

theorem Bal_pushE (f : Frame) (st : St) (e : Expr) (base : Nat) :
    Bal base (f.pushE st e) ↔ f.blocks.length = base + (if owns (st, e) then 1 else 0) + owners f.exprs := by
  unfold Frame.pushE Bal; simp only [owners_cons]; omega

theorem ownsBlock_eq (st : St) (e : Expr) (hl : e.isLoop = false) : ownsBlock st e = owns (st, e) := by
  cases e <;> first | (cases st <;> rfl) | cases hl

theorem evalContinueLoop_spec : ∀ (exprs : List (St × Expr)) (vals : List Value) (blocks : List Block)
    (exprs' : List (St × Expr)) (vals' : List Value) (blocks' : List Block),
    evalContinueLoop exprs vals blocks = some (exprs', vals', blocks') →
    blocks'.length + owners exprs = blocks.length + owners exprs' := by
  intro exprs vals blocks exprs' vals' blocks' h
  fun_induction evalContinueLoop exprs vals blocks
  case case1 => cases h; rfl
  -- a loop not started, a `for` evaluating its iteree: skipped; a running loop: the target, unchanged
  case case2 hN ih =>
    cases beq_iff_eq.mp (Bool.and_eq_true_iff.mp hN).2
    simpa [owners_cons, owns_N] using ih h
  case case3 hPW _ _ ih =>
    cases beq_iff_eq.mp (Bool.and_eq_true_iff.mp hPW).2
    simpa [owners_cons, owns_PW] using ih h
  case case4 => cases h
  case case5 => cases h; rfl
  -- any other entry is discarded, with its block iff it owns one
  case case6 hl hown bs hb ih =>
    obtain ⟨a, rfl, _⟩ := popBlocks1_eq_some.mp hb
    have := ih h
    rw [owners_cons, ← ownsBlock_eq _ _ (Bool.eq_false_iff.mpr hl), hown]
    simp only [List.length_cons, if_true] at this ⊢; omega
  case case7 => cases h
  case case8 hl hown ih =>
    rw [owners_cons, ← ownsBlock_eq _ _ (Bool.eq_false_iff.mpr hl), if_neg hown, Nat.zero_add]
    exact ih h

theorem breakHead_spec {K K' : List (St × Expr)} {V V' : List Value} {B B' : List Block}
    (h : breakHead K V B = some (K', V', B')) : B'.length + owners K = B.length + owners K' := by
  revert h
  fun_cases breakHead K V B <;> intro h
  -- a `while` whose body is running gives up the body's block with its ownership; otherwise it owns none
  case case1 hPD =>
    cases beq_iff_eq.mp hPD
    obtain ⟨bs, hb, ⟨⟩⟩ := Option.map_eq_some_iff.mp h
    obtain ⟨a, rfl, _⟩ := popBlocks1_eq_some.mp hb
    simp [owners_cons, owns_eq]; omega
  case case2 st _ _ _ _ _ hPD => cases h; cases st <;> simp_all [owners_cons, owns_eq]
  -- a running `for` keeps its block: it owns one in every state but N and PW
  case case4 st _ _ _ _ _ _ hst _ _ _ => cases h; cases st <;> simp_all [owners_cons, owns_eq]
  case case5 => cases h
  all_goals cases h; rfl

theorem evalBreakLoop_spec : ∀ (exprs : List (St × Expr)) (vals : List Value) (blocks : List Block)
    (exprs' : List (St × Expr)) (vals' : List Value) (blocks' : List Block),
    evalBreakLoop exprs vals blocks = some (exprs', vals', blocks') →
    blocks'.length + owners exprs = blocks.length + owners exprs' := by
  intro exprs vals blocks exprs' vals' blocks' h
  rw [evalBreakLoop_eq] at h
  obtain ⟨⟨K1, V1, B1⟩, hc, hh⟩ := Option.bind_eq_some_iff.mp h
  have h1 := evalContinueLoop_spec _ _ _ _ _ _ hc
  have h2 : blocks'.length + owners K1 = B1.length + owners exprs' := breakHead_spec hh
  omega

theorem evalCall_bal (p : Program) (f : Frame) (cid : Nat) (used : Bool) (n : Nat) (base : Nat)
    (h : f.blocks.length = base + owners f.exprs) : BalAfter base (evalCall p f cid used n) := by
  fun_cases evalCall p f cid used n
  all_goals simp only [BalAfter, Bal, pushVIf_eq, owners_fresh, and_true]
  all_goals exact h

/-- `return` in state E: the frame's pending entries are dropped. -/
def isReturnDone (st : St) (e : Expr) : Bool :=
  st == St.E && (match e with | .ret .. => true | _ => false)

/-- `f` is the current frame after the entry `(st, e)` was popped; `h`: before the pop the frame was
balanced w.r.t. `base`. -/
theorem dispatch_bal (p : Program) (f : Frame) (st : St) (e : Expr) (base : Nat)
    (h : f.blocks.length = base + owners f.exprs + (if owns (st, e) then 1 else 0))
    (hr : isReturnDone st e = false) :
    BalAfter base (dispatch p f st e) := by
  fun_cases dispatch p f st e
  all_goals try exact trivial   -- errors, panics
  -- whether the popped entry owned a block, by the node kind and state of the leaf
  all_goals try simp [owns_eq] at h
  all_goals try rw [if_neg ‹st = St.E → False›] at h
  -- the resulting frame is built from `f` by pushes (which own nothing unless said), `evalBlock`
  -- (one block more), `addNew` (same blocks); what is left is arithmetic, or one of the helpers below
  all_goals try simp +zetaDelta only [*, BalAfter, Bal, pushVIf_eq, pushE_exprs, pushE_blocks, Frame.pushV,
    owners_cons, owns, Nat.zero_add, Bool.false_eq_true, ↓reduceIte, List.length_cons,
    evalBlock_blocks_length, owners_evalBlock, owners_pushN, foldl_pushN, addNew_length, foldl_addNew_length]
  all_goals first
    | exact h
    | omega
    | exact evalCall_bal _ _ _ _ _ _ h
    | (rw [setExisting_length ‹_›]; exact h)
    | (obtain ⟨_, _, _, hb, rfl⟩ := popBlock_eq_some.mp ‹_›; rw [hb] at h; exact Nat.succ.inj h)
    | (obtain ⟨hb, he⟩ := matchCases_spec ‹_›
       simp +zetaDelta only [hb, he, pushE_exprs, pushE_blocks, owners_cons, owns, ↓reduceIte]; omega)
    | (have := evalBreakLoop_spec _ _ _ _ _ _ ‹_›; omega)
    | (have := evalContinueLoop_spec _ _ _ _ _ _ ‹_›; omega)
    | simp [isReturnDone, *] at hr   -- `return` in state E is excluded

theorem dispatch_ret_done (p : Program) (f : Frame) (st : St) (e : Expr)
    (hr : isReturnDone st e = true) : dispatch p f st e = .ok { f with exprs := [] } := by
  obtain ⟨hst, he⟩ := Bool.and_eq_true_iff.mp hr
  cases beq_iff_eq.mp hst
  cases e <;> first | rfl | cases he

/-- Weak balance: a frame whose pending entries were all dropped by `return` is exempt (a callee's frame
is popped by the next step; the toplevel frame stays, with the bindings of the block `return` left). -/
def BalW (base : Nat) (f : Frame) : Prop := f.exprs = [] ∨ Bal base f

/-- `bases`: a ghost list, one base per frame of the call stack. -/
def BalS : List Nat → List Frame → Prop
  | [], [] => True
  | b :: bs, f :: fs => BalW b f ∧ BalS bs fs
  | _, _ => False

/-- **One step preserves the balance of every frame**; the ghost bases change only by a
push (call) or a pop (frame return). -/
theorem step_bal (s s' : State) (bases : List Nat) (hb : BalS bases s.frames)
    (h : step s = .cont s') :
    ∃ bases', BalS bases' s'.frames ∧
      (bases' = bases ∨ (∃ b, bases' = b :: bases) ∨ (∃ b, bases = b :: bases' ∧ bases' ≠ [])) := by
  match hf : s.frames, bases, hb with
  | [], _, _ => rw [step_nil hf] at h; cases h
  | f :: callers, [], hb => exact hb.elim
  | f :: callers, base :: bs, ⟨hbf, hbc⟩ =>
    match he : f.exprs with
    | [] =>
      match callers, bs, hbc with
      | [], _, _ => rw [step_finish hf he] at h; split at h <;> cases h
      | caller :: rest, [], hbc => exact hbc.elim
      | caller :: rest, b2 :: bs2, ⟨h1, h2⟩ =>
        rw [step_return hf he] at h
        split at h
        · cases h
        · split at h <;> cases h
          refine ⟨b2 :: bs2, ⟨?_, h2⟩, Or.inr (Or.inr ⟨base, rfl, List.cons_ne_nil _ _⟩)⟩
          split
          · exact h1
          · exact h1
    | (st, e) :: rest =>
      rw [step_popped hf he] at h
      have hbal : Bal base f := hbf.resolve_left (by rw [he]; exact List.cons_ne_nil _ _)
      have hpre : f.blocks.length = base + owners rest + (if owns (st, e) then 1 else 0) := by
        unfold Bal at hbal; rw [he, owners_cons] at hbal; omega
      split at h
      · cases h
      by_cases hr : isReturnDone st e = true
      · rw [dispatch_ret_done _ _ _ _ hr] at h
        cases stopCheck_cont h
        exact ⟨base :: bs, ⟨Or.inl rfl, hbc⟩, Or.inl rfl⟩
      · have hd := dispatch_bal s.prog { f with exprs := rest } st e base hpre (Bool.eq_false_iff.mpr hr)
        cases hdd : dispatch s.prog { f with exprs := rest } st e <;> rw [hdd] at h hd
        case ok f' => cases stopCheck_cont h; exact ⟨base :: bs, ⟨Or.inr hd, hbc⟩, Or.inl rfl⟩
        case okOut f' o => cases stopCheck_cont h; exact ⟨base :: bs, ⟨Or.inr hd, hbc⟩, Or.inl rfl⟩
        case newFrame f' callee =>
          cases h
          refine ⟨callee.blocks.length :: base :: bs, ⟨Or.inr ?_, Or.inr hd.1, hbc⟩, Or.inr (Or.inl ⟨_, rfl⟩)⟩
          unfold Bal; rw [hd.2]; rfl
        all_goals cases h

/-- States reachable from the start of `garden run p` by evaluator steps (no tick or stack
limit error, no runtime error: an error ends the run). An interrupted and resumed run ends with the
same frames as the uninterrupted one (C08: `interrupts_unobservable`); the balance of the restored
state after an interrupt or an error is not stated. -/
inductive Reach (p : Program) (tl sl : Option Nat) : State → Prop
  | init : Reach p tl sl (init p [] tl sl)
  | step {s s' : State} : Reach p tl sl s → step s = .cont s' → Reach p tl sl s'

theorem BalS_nil_iff {bases : List Nat} {frames : List Frame} (h : BalS bases frames) :
    bases = [] ↔ frames = [] := by
  cases bases <;> cases frames <;> simp_all [BalS]

/-- **Invariant of every reachable state**: each frame of the call stack has some base number of
binding blocks plus one per block it has entered and not yet left, however blocks are left; the toplevel
frame's base is 1 (the bases of the other frames are existentially quantified per state: that a frame's
base stays the same from step to step is `step_bal`, not this statement). -/
theorem reach_bal (p : Program) (tl sl : Option Nat) (s : State) (h : Reach p tl sl s) :
    ∃ bases, BalS bases s.frames ∧ bases.getLast? = some 1 ∧ s.frames ≠ [] := by
  induction h with
  | init =>
    refine ⟨[1], ⟨Or.inr ?_, trivial⟩, rfl, List.cons_ne_nil _ _⟩
    simp [Bal, initFrame, owners_fresh]
  | step hr hs ih =>
    obtain ⟨bases, hb, hl, hne⟩ := ih
    obtain ⟨bases', hb', hrel⟩ := step_bal _ _ bases hb hs
    have hbne : bases ≠ [] := mt (BalS_nil_iff hb).mp hne
    rcases hrel with rfl | ⟨b, rfl⟩ | ⟨b, rfl, hbn⟩
    · exact ⟨bases', hb', hl, mt (BalS_nil_iff hb').mpr hbne⟩
    · refine ⟨_, hb', ?_, mt (BalS_nil_iff hb').mpr (List.cons_ne_nil _ _)⟩
      obtain ⟨x, xs, rfl⟩ := List.exists_cons_of_ne_nil hbne
      exact hl
    · refine ⟨bases', hb', ?_, mt (BalS_nil_iff hb').mpr hbn⟩
      obtain ⟨x, xs, rfl⟩ := List.exists_cons_of_ne_nil hbn
      exact hl

/-- **Scope restoration at top level.** Whenever the toplevel frame is current and no
entered block is pending (i.e. between two toplevel statements, whatever the previous
statements did, including loops left by `break`/`continue`), exactly ONE binding block
exists (the count only: that a block-local variable is then unbound is not stated, see the head). -/
theorem toplevel_scope_restored (p : Program) (tl sl : Option Nat) (s : State) (f : Frame)
    (h : Reach p tl sl s) (hf : s.frames = [f]) (hp : f.exprs ≠ []) (ho : owners f.exprs = 0) :
    f.blocks.length = 1 := by
  obtain ⟨bases, hb, hl, _⟩ := reach_bal p tl sl s h
  rw [hf] at hb
  match bases, hb with
  | [b], hb =>
    simp at hl; subst hl
    rcases hb.1 with h0 | h0
    · exact absurd h0 hp
    · simpa [Bal, ho] using h0

/-- The current frame of any call depth, with no entered block pending: the call stack is balanced
with the frame's block count as its base. (`b` is bound by the `∃`: this is `reach_bal` read at the
current frame, it does not say what the base of a called frame is.) -/
theorem frame_scope_restored (p : Program) (tl sl : Option Nat) (s : State) (f : Frame) (rest : List Frame)
    (h : Reach p tl sl s) (hf : s.frames = f :: rest) (hp : f.exprs ≠ []) (ho : owners f.exprs = 0) :
    ∃ bases b, BalS (b :: bases) (f :: rest) ∧ f.blocks.length = b := by
  obtain ⟨bases, hb, _, _⟩ := reach_bal p tl sl s h
  rw [hf] at hb
  match bases, hb with
  | b :: bs, hb =>
    refine ⟨bs, b, hb, ?_⟩
    rcases hb.1 with h0 | h0
    · exact absurd h0 hp
    · simpa [Bal, ho] using h0

-- A while loop whose body is running (state PD) owns exactly one block; the initial state of any
-- program is reachable. (The hypotheses of `toplevel_scope_restored` are not exhibited together here.)
example : owners [(St.PD, Expr.whileE 3 false (.var 1 true "c") [.brk 2 false]), (St.N, .int 4 true 0)] = 1 := by
  simp [owners, owns]
example (p : Program) : Reach p none none (init p [] none none) := Reach.init
end C06
