import GardenVerif.Model.Machine
import GardenVerif.Model.TestRunner
/-!
What one iteration of the evaluator loop does, in a form proofs can use without unfolding it. The
iteration is stated for `TestRunner.stepWith d` (the loop with the dispatch function as a parameter;
`Machine.step` is `stepWith dispatch`) and split into the tick with its three tests (`refusal`) and what
happens to the result of the dispatch (`post`).
-/

namespace Machine


theorem foldl_pushV (vals : List Value) (f : Frame) :
    vals.foldl (fun f v => f.pushV v) f = { f with values := vals.reverse ++ f.values } := by
  induction vals generalizing f with
  | nil => rfl
  | cons v vs ih => rw [List.foldl, ih]; simp [Frame.pushV]

theorem restore_eq (f : Frame) (st : St) (e : Expr) (vals : List Value) :
    restore f st e vals = { f with values := vals.reverse ++ f.values, exprs := (st, e) :: f.exprs } := by
  simp [restore, foldl_pushV, Frame.pushE]

/-- Operands are pushed in order, so the LAST one is evaluated first. -/
theorem foldl_pushN (items : List Expr) (f : Frame) :
    items.foldl (fun f x => f.pushE .N x) f =
      { f with exprs := (items.map fun x => (St.N, x)).reverse ++ f.exprs } := by
  induction items generalizing f with
  | nil => rfl
  | cons x xs ih => rw [List.foldl, ih]; simp [Frame.pushE]

theorem popN_eq_some {n : Nat} {l got rest : List Value} :
    popN n l = some (got, rest) ↔ l = got ++ rest ∧ got.length = n := by
  induction n generalizing l got with
  | zero =>
    simp only [popN, Option.some.injEq, Prod.mk.injEq, List.length_eq_zero_iff]
    constructor
    · rintro ⟨rfl, rfl⟩; exact ⟨rfl, rfl⟩
    · rintro ⟨h, rfl⟩; exact ⟨rfl, h⟩
  | succ n ih =>
    cases l with
    | nil =>
      simp only [popN, reduceCtorEq, false_iff]
      rintro ⟨h, hl⟩
      cases got <;> simp at h hl
    | cons v vs =>
      simp only [popN, Option.map_eq_some_iff, Prod.mk.injEq, Prod.exists]
      constructor
      · rintro ⟨g, r, hp, rfl, rfl⟩
        obtain ⟨rfl, hl⟩ := ih.mp hp
        exact ⟨rfl, by simp [hl]⟩
      · rintro ⟨h, hl⟩
        cases got with
        | nil => simp at hl
        | cons w ws =>
          obtain ⟨rfl, rfl⟩ : v = w ∧ vs = ws ++ rest := by simpa using h
          exact ⟨ws, rest, ih.mpr ⟨rfl, by simpa using hl⟩, rfl, rfl⟩

theorem addNew_length (bs : List Block) (n : String) (v : Value) : (addNew bs n v).length = bs.length := by
  unfold addNew
  split
  · rfl
  · cases bs <;> rfl

theorem setExisting_length {bs bs' : List Block} {n : String} {v : Value}
    (h : setExisting bs n v = some bs') : bs'.length = bs.length := by
  induction bs generalizing bs' with
  | nil => simp [setExisting] at h
  | cons b rest ih =>
    simp only [setExisting] at h
    split at h
    · cases h; rfl
    · obtain ⟨r, hr, rfl⟩ := Option.map_eq_some_iff.mp h
      simp [ih hr]

/-! The scope operations never look at the values they move, so the predicate `P` on bound values is arbitrary. -/
section
variable {P : Value → Prop} {n : String} {v : Value}

theorem blockSet_all {b : Block} (hb : ∀ kv ∈ b, P kv.2) (hv : P v) : ∀ kv ∈ blockSet b n v, P kv.2 := by
  intro kv hkv
  unfold blockSet at hkv
  split at hkv
  · obtain ⟨x, hx, rfl⟩ := List.mem_map.1 hkv
    split
    · exact hv
    · exact hb x hx
  · rcases List.mem_append.1 hkv with h | h
    · exact hb kv h
    · cases List.mem_singleton.1 h; exact hv

theorem addNew_all {bs : List Block} (hb : ∀ b ∈ bs, ∀ kv ∈ b, P kv.2) (hv : P v) :
    ∀ b ∈ addNew bs n v, ∀ kv ∈ b, P kv.2 := by
  unfold addNew
  split
  · exact hb
  · cases bs with
    | nil => exact hb
    | cons b rest =>
      obtain ⟨h1, h2⟩ := List.forall_mem_cons.mp hb
      exact List.forall_mem_cons.mpr ⟨blockSet_all h1 hv, h2⟩

theorem foldl_addNew_all (kvs : List (String × Value)) {bs : List Block} (hk : ∀ kv ∈ kvs, P kv.2)
    (hb : ∀ b ∈ bs, ∀ kv ∈ b, P kv.2) :
    ∀ b ∈ kvs.foldl (fun bs kv => addNew bs kv.1 kv.2) bs, ∀ kv ∈ b, P kv.2 := by
  induction kvs generalizing bs with
  | nil => exact hb
  | cons x xs ih =>
    exact ih (fun kv h => hk kv (List.mem_cons_of_mem _ h)) (addNew_all hb (hk x List.mem_cons_self))

theorem foldl_blockSet_all (kvs : List (String × Value)) {b : Block} (hk : ∀ kv ∈ kvs, P kv.2)
    (hb : ∀ kv ∈ b, P kv.2) :
    ∀ kv ∈ kvs.foldl (fun b kv => if kv.1 == "_" then b else blockSet b kv.1 kv.2) b, P kv.2 := by
  induction kvs generalizing b with
  | nil => exact hb
  | cons x xs ih =>
    refine ih (fun kv h => hk kv (List.mem_cons_of_mem _ h)) ?_
    show ∀ kv ∈ (if x.1 == "_" then b else blockSet b x.1 x.2), P kv.2
    split
    · exact hb
    · exact blockSet_all hb (hk x List.mem_cons_self)

theorem setExisting_all : ∀ {bs bs' : List Block}, setExisting bs n v = some bs' →
    (∀ b ∈ bs, ∀ kv ∈ b, P kv.2) → P v → ∀ b ∈ bs', ∀ kv ∈ b, P kv.2
  | [], _, h, _, _ => by simp [setExisting] at h
  | b :: rest, bs', h, hb, hv => by
    obtain ⟨h1, h2⟩ := List.forall_mem_cons.mp hb
    unfold setExisting at h
    split at h
    · cases h
      exact List.forall_mem_cons.mpr ⟨blockSet_all h1 hv, h2⟩
    · simp at h
      obtain ⟨r, hr, rfl⟩ := h
      exact List.forall_mem_cons.mpr ⟨h1, setExisting_all hr h2 hv⟩

theorem lookupBlocks_all : ∀ {bs : List Block}, lookupBlocks bs n = some v →
    (∀ b ∈ bs, ∀ kv ∈ b, P kv.2) → P v
  | [], h, _ => by simp [lookupBlocks] at h
  | b :: rest, h, hb => by
    obtain ⟨h1, h2⟩ := List.forall_mem_cons.mp hb
    unfold lookupBlocks at h
    split at h
    · rename_i kv hf
      cases h
      exact h1 kv (List.mem_of_find?_eq_some hf)
    · exact lookupBlocks_all h h2

theorem zip_all {names : List String} {items : List Value} (h : ∀ v ∈ items, P v) :
    ∀ kv ∈ names.zip items, P kv.2 :=
  fun kv hkv => h kv.2 (List.of_mem_zip (a := kv.1) (b := kv.2) hkv).2

end

theorem setTop_cons {s : State} {f0 : Frame} {rest : List Frame} (h : s.frames = f0 :: rest) (f : Frame) :
    setTop s f = { s with frames := f :: rest } := by
  simp [setTop, h]

theorem setTop_nil {s : State} (h : s.frames = []) (f : Frame) : setTop s f = s := by
  simp [setTop, h]


/-- The value `eval` returns right after a successful `eval_expr` of `(st, e)` that left the frame
`f'`, if `stop_at_expr_id` asks for it. -/
def stopValue (stopAt : Option Nat) (f' : Frame) (st : St) (e : Expr) : Option Value :=
  if stopAt == some e.id then
    if doneSub st e then
      match f'.values with
      | v :: _ => some v
      | [] => some (.str "__ERROR: no expressions evaluated. This is a bug.")
    else if (match e with | .forE .. => true | _ => false) && (st == St.PW || st == St.PD || st == St.PN) then
      some vUnit
    else none
  else none

theorem stopCheck_eq (a : State) (f' : Frame) (st : St) (e : Expr) :
    stopCheck a f' st e =
      match stopValue a.stopAt f' st e with
      | some v => .done a v
      | none => .cont a := by
  unfold stopCheck stopValue
  split
  · split
    · rcases f'.values with _ | ⟨v, _⟩ <;> rfl
    · have hc : ∀ c : Bool, (if c = true then StepResult.done a vUnit else .cont a) =
          match (if c = true then some vUnit else none) with
          | some v => StepResult.done a v
          | none => .cont a := by
        intro c; cases c <;> rfl
      exact hc _
  · rfl

theorem stopValue_ne {stopAt : Option Nat} {e : Expr} (h : stopAt ≠ some e.id) (f' : Frame) (st : St) :
    stopValue stopAt f' st e = none := by
  have : (stopAt == some e.id) = false := by simpa using h
  simp [stopValue, this]

theorem stopCheck_of_none {a : State} {f' : Frame} {st : St} {e : Expr}
    (h : stopValue a.stopAt f' st e = none) : stopCheck a f' st e = .cont a := by
  rw [stopCheck_eq, h]

theorem stopCheck_of_some {a : State} {f' : Frame} {st : St} {e : Expr} {v : Value}
    (h : stopValue a.stopAt f' st e = some v) : stopCheck a f' st e = .done a v := by
  rw [stopCheck_eq, h]

theorem stopCheck_ne {a : State} {e : Expr} (h : a.stopAt ≠ some e.id) (f' : Frame) (st : St) :
    stopCheck a f' st e = .cont a :=
  stopCheck_of_none (stopValue_ne h f' st)

def StepResult.state? : StepResult → Option State
  | .cont s => some s
  | .done s _ => some s
  | .error s _ => some s
  | .panic _ => none
  | .unsupported _ => none

theorem stopCheck_state (a : State) (f' : Frame) (st : St) (e : Expr) :
    (stopCheck a f' st e).state? = some a := by
  rw [stopCheck_eq]; split <;> rfl


open TestRunner (stepWith)

/-- Why the loop puts the entry it has popped back instead of dispatching it. -/
def refusal (s : State) : Option Err :=
  if s.interrupted || s.interruptAt.contains (s.ticks + 1) then some .interrupted
  else if limitReached s.tickLimit (s.ticks + 1) then some .tickLimit
  else if limitExceeded s.stackLimit s.frames.length then some .stackLimit
  else none

/-- The state after the tick of a step that popped an entry, refused or not (an interrupt is consumed
by the refusal it causes). -/
def ticked (s : State) : State := { s with ticks := s.ticks + 1, interrupted := false }

theorem refusal_eq_none {s : State} : refusal s = none ↔
    (s.interrupted || s.interruptAt.contains (s.ticks + 1)) = false ∧
      limitReached s.tickLimit (s.ticks + 1) = false ∧ limitExceeded s.stackLimit s.frames.length = false := by
  unfold refusal
  cases (s.interrupted || s.interruptAt.contains (s.ticks + 1)) <;> cases limitReached s.tickLimit (s.ticks + 1) <;>
    cases limitExceeded s.stackLimit s.frames.length <;> simp

/-- `s` is the ticked state, `callers` the frames below the current one. -/
def post (s : State) (callers : List Frame) (st : St) (e : Expr) : Disp → StepResult
  | .ok f' => stopCheck { s with frames := f' :: callers } f' st e
  | .okOut f' o => stopCheck { s with out := s.out ++ o, frames := f' :: callers } f' st e
  | .newFrame f' callee => .cont { s with frames := callee :: f' :: callers }
  | .err f' st' vals er => .error { s with frames := restore f' st' e vals :: callers } er
  | .panic site => .panic site
  | .unsupported w => .unsupported w

theorem stepWith_nil (d : Program → Frame → St → Expr → Disp) {s : State} (hf : s.frames = []) :
    stepWith d s = .panic "empty call stack" := by
  simp [stepWith, hf]

theorem stepWith_idle (d : Program → Frame → St → Expr → Disp) {s : State} {f : Frame} {callers : List Frame}
    (hf : s.frames = f :: callers) (he : f.exprs = []) : stepWith d s = step s := by
  unfold stepWith step
  rw [hf]; dsimp only; rw [he]
  rfl

theorem stepWith_entry (d : Program → Frame → St → Expr → Disp) {s : State} {f : Frame} {callers : List Frame}
    {st : St} {e : Expr} {rest : List (St × Expr)} (hf : s.frames = f :: callers) (he : f.exprs = (st, e) :: rest) :
    stepWith d s =
      match refusal s with
      | some er => .error (ticked s) er
      | none => post (ticked s) callers st e (d s.prog { f with exprs := rest } st e) := by
  have hback : restore { f with exprs := rest } st e [] = f := by
    cases f; simp_all [restore, Frame.pushE]
  cases s with | mk prog frames ticks out intr tl sl ia sa =>
  simp only at hf; subst hf
  unfold stepWith refusal ticked
  simp only [he, hback, setTop]
  cases (intr || ia.contains (ticks + 1))
  · simp only [Bool.false_eq_true, if_false]
    split
    · rfl
    · split
      · rfl
      · cases d prog { f with exprs := rest } st e <;> rfl
  · rfl

theorem refusal_none_of_not_error {d : Program → Frame → St → Expr → Disp} {s : State} {f : Frame}
    {callers : List Frame} {st : St} {e : Expr} {rest : List (St × Expr)} (hf : s.frames = f :: callers)
    (he : f.exprs = (st, e) :: rest) (h : ∀ s' er, stepWith d s ≠ .error s' er) : refusal s = none := by
  rw [stepWith_entry d hf he] at h
  cases hr : refusal s with
  | none => rfl
  | some er => rw [hr] at h; exact absurd rfl (h _ _)

theorem step_nil {s : State} (hf : s.frames = []) : step s = .panic "empty call stack" :=
  stepWith_nil dispatch hf

theorem step_popped {s : State} {f : Frame} {callers : List Frame} {st : St} {e : Expr}
    {rest : List (St × Expr)} (hf : s.frames = f :: callers) (he : f.exprs = (st, e) :: rest) :
    step s =
      match refusal s with
      | some er => .error (ticked s) er
      | none => post (ticked s) callers st e (dispatch s.prog { f with exprs := rest } st e) :=
  stepWith_entry dispatch hf he

theorem step_finish {s : State} {f : Frame} (hf : s.frames = [f]) (he : f.exprs = []) :
    step s =
      match f.values with
      | v :: vals => .done { s with frames := [{ f with values := vals }] } v
      | [] => .panic "Should have a value from the last expression" := by
  simp only [step, hf, he, setTop]
  rcases f.values with _ | ⟨v, vals⟩ <;> rfl

theorem step_return {s : State} {f caller : Frame} {rest : List Frame}
    (hf : s.frames = f :: caller :: rest) (he : f.exprs = []) :
    step s =
      match f.values with
      | [] => .panic "Should have a value"
      | rv :: _ =>
        if f.callerId.isSome && s.stopAt == f.callerId then .done { s with frames := caller :: rest } rv
        else .cont { s with frames := (if f.callerUses then caller.pushV rv else caller) :: rest } := by
  simp only [step, hf, he]
  rcases f.values with _ | ⟨rv, vals⟩ <;> rfl

theorem post_state {s s' : State} {callers : List Frame} {st : St} {e : Expr} {d : Disp}
    (h : (post s callers st e d).state? = some s') :
    ∃ fr o, s' = { s with frames := fr, out := s.out ++ o } ∧ fr ≠ [] := by
  have hid : ∀ fr, ({ s with frames := fr } : State) = { s with frames := fr, out := s.out ++ "" } := by
    intro fr; rw [String.append_empty]
  cases d with
  | ok f' => rw [post, stopCheck_state] at h; cases h; exact ⟨_, "", hid _, List.cons_ne_nil _ _⟩
  | okOut f' o => rw [post, stopCheck_state] at h; cases h; exact ⟨_, o, rfl, List.cons_ne_nil _ _⟩
  | newFrame f' callee => cases h; exact ⟨_, "", hid _, List.cons_ne_nil _ _⟩
  | err f' st' vals er => cases h; exact ⟨_, "", hid _, List.cons_ne_nil _ _⟩
  | panic site => cases h
  | unsupported w => cases h

theorem stepWith_state (d : Program → Frame → St → Expr → Disp) {s s' : State}
    (h : (stepWith d s).state? = some s') :
    ∃ fr o t i, s' = { s with frames := fr, out := s.out ++ o, ticks := t, interrupted := i } ∧
      s.ticks ≤ t ∧ t ≤ s.ticks + 1 ∧ (i = true → s.interrupted = true) ∧ fr ≠ [] := by
  have hid : ∀ fr, ({ s with frames := fr } : State) =
      { s with frames := fr, out := s.out ++ "", ticks := s.ticks, interrupted := s.interrupted } := by
    intro fr; rw [String.append_empty]
  match hf : s.frames with
  | [] => rw [stepWith_nil d hf] at h; cases h
  | f :: callers =>
    match he : f.exprs with
    | [] =>
      rw [stepWith_idle d hf he] at h
      match callers with
      | [] =>
        rw [step_finish hf he] at h
        split at h <;> cases h
        exact ⟨_, "", _, _, hid _, Nat.le_refl _, Nat.le_succ _, id, List.cons_ne_nil _ _⟩
      | caller :: rest =>
        rw [step_return hf he] at h
        split at h
        · cases h
        · split at h <;> cases h <;> exact ⟨_, "", _, _, hid _, Nat.le_refl _, Nat.le_succ _, id, List.cons_ne_nil _ _⟩
    | (st, e) :: rest =>
      rw [stepWith_entry d hf he] at h
      have hstay : ticked s =
          { s with frames := s.frames, out := s.out ++ "", ticks := s.ticks + 1, interrupted := false } := by
        rw [String.append_empty]; rfl
      split at h
      · cases h
        exact ⟨_, "", _, _, hstay, Nat.le_succ _, Nat.le_refl _, nofun, hf ▸ List.cons_ne_nil _ _⟩
      · obtain ⟨fr, o, rfl, hne⟩ := post_state h
        exact ⟨fr, o, s.ticks + 1, false, rfl, Nat.le_succ _, Nat.le_refl _, nofun, hne⟩

theorem step_state {s s' : State} (h : (step s).state? = some s') :
    ∃ fr o t i, s' = { s with frames := fr, out := s.out ++ o, ticks := t, interrupted := i } ∧
      s.ticks ≤ t ∧ t ≤ s.ticks + 1 ∧ (i = true → s.interrupted = true) ∧ fr ≠ [] :=
  stepWith_state dispatch h

theorem step_error_inv {s s' : State} {er : Err} (h : step s = .error s' er) :
    ∃ f callers st e rest, s.frames = f :: callers ∧ f.exprs = (st, e) :: rest ∧
      (s' = ticked s ∨
        ∃ f' st' vals, dispatch s.prog { f with exprs := rest } st e = .err f' st' vals er ∧
          s' = { ticked s with frames := restore f' st' e vals :: callers }) := by
  match hf : s.frames with
  | [] => rw [step_nil hf] at h; cases h
  | f :: callers =>
    match he : f.exprs with
    | [] =>
      match callers with
      | [] => rw [step_finish hf he] at h; split at h <;> cases h
      | caller :: rest =>
        rw [step_return hf he] at h
        split at h
        · cases h
        · split at h <;> cases h
    | (st, e) :: rest =>
      refine ⟨f, callers, st, e, rest, rfl, he, ?_⟩
      rw [step_popped hf he] at h
      split at h
      · cases h; exact .inl rfl
      · cases hd : dispatch s.prog { f with exprs := rest } st e <;> rw [hd, post] at h
        case err => cases h; exact .inr ⟨_, _, _, rfl, rfl⟩
        case ok | okOut => rw [stopCheck_eq] at h; split at h <;> cases h
        all_goals cases h

theorem step_error {s s' : State} {er : Err} (h : step s = .error s' er) :
    ∃ fr, s' = { ticked s with frames := fr } := by
  obtain ⟨f, callers, st, e, rest, _, _, rfl | ⟨f', st', vals, _, rfl⟩⟩ := step_error_inv h
  · exact ⟨s.frames, rfl⟩
  · exact ⟨_, rfl⟩


theorem step_frames_ne {s s' : State} (h : (step s).state? = some s') : s'.frames ≠ [] := by
  obtain ⟨fr, o, t, i, rfl, _, _, _, hne⟩ := step_state h
  exact hne

end Machine

namespace TestRunner
open Machine

def mapState (g : State → State) : StepResult → StepResult
  | .cont s => .cont (g s)
  | .done s v => .done (g s) v
  | .error s e => .error (g s) e
  | .panic site => .panic site
  | .unsupported w => .unsupported w

theorem mapState_inv {g : State → State} {r r' : StepResult} (h : mapState g r = r') :
    match r' with
    | .cont t => ∃ s, r = .cont s ∧ g s = t
    | .done t v => ∃ s, r = .done s v ∧ g s = t
    | .error t e => ∃ s, r = .error s e ∧ g s = t
    | .panic site => r = .panic site
    | .unsupported w => r = .unsupported w := by
  subst h
  cases r <;> first | exact ⟨_, rfl, rfl⟩ | rfl

theorem mapState_post (g : State → State)
    (hfr : ∀ (s : State) fr, g { s with frames := fr } = { g s with frames := fr })
    (hout : ∀ (s : State) fr o,
      g { s with frames := fr, out := s.out ++ o } = { g s with frames := fr, out := (g s).out ++ o })
    (hstop : ∀ s, (g s).stopAt = s.stopAt)
    (s : State) (callers : List Frame) (st : St) (e : Expr) (d : Disp) :
    mapState g (post s callers st e d) = post (g s) callers st e d := by
  have hcheck : ∀ (a : State) f', mapState g (stopCheck a f' st e) = stopCheck (g a) f' st e := by
    intro a f'
    rw [stopCheck_eq, stopCheck_eq, hstop]
    split <;> rfl
  cases d with
  | ok f' => exact (hcheck _ _).trans (by rw [hfr]; rfl)
  | okOut f' o => exact (hcheck _ _).trans (by rw [hout]; rfl)
  | newFrame f' callee => exact congrArg StepResult.cont (hfr s _)
  | err f' st' vals er => exact congrArg (StepResult.error · er) (hfr s _)
  | panic site => rfl
  | unsupported w => rfl

end TestRunner
