import GardenVerif.Lemmas.Prelude
/-!
C32 — Prelude string and list functions match their specification.

Statement: the prelude's string and list functions return what a reference implementation returns,
for all arguments, and always terminate.

Model: `Model/Prelude.lean` (M12). A Garden string is `Str = List Char` (code points; `len`,
`substring`, `index_of` all count code points in `src/eval.rs`). Built-ins are transcribed from the
Rust, Garden-source functions line by line from `src/__prelude.gdn` (`while` = fuel, `for` = foldl,
exceptions = `Res.exn`). Every theorem below is universally quantified (no bound on lengths). For a
function with a loop the theorem assumes `bound(|args|) ≤ fuel` and says what `run fuel args` returns:
`.ok (reference args)`, or, for `contains_spec` and `sort_nums_sorted_perm`, `∃ r, run fuel args = .ok r ∧ …`
with a property of `r`. That is correctness and termination at once: every fuel above an explicit bound
gives the same, successful, result. The property text ends "They always terminate": the `*_terminates`
corollaries (range, sort_nums, contains, trim, split, replace; none for trim_left and trim_right by
themselves) say `∃ n ≤ g(|args|), run n args ≠ .outOfFuel`; each is its `_spec` at the bound and says less
than the spec. `split_terminates` and `replace_terminates` assume a non-empty needle; the empty needle is in
`split_empty_needle`, `replace_empty_needle`. Every function of the property text has a theorem named
after it here, also where it only restates a lemma of Lemmas/Prelude.lean; the reference `splitCore` is
defined there.

Proved for all arguments, transcription equal to reference:
  first, last, get, len (List and String, definitional), concat, map, filter, enumerate, range, join,
  starts_with, ends_with, strip_prefix, strip_suffix, contains (String and List), min, max, sort_nums,
  substring (value and exactly when it raises), slice,
  chars — `chars_spec`: the pieces have length 1 and concatenate to the string,
  trim_left / trim_right / trim — against what the code does: it removes U+0020 only (`dropWhile (· = ' ')`);
    the doc comment says "whitespace": known finding C32/trim-removes-only-space,
  index_of — relative to `find`, the model of Rust's `str::find`: `index_of_spec_some`, `index_of_spec_none`
    say what `index_of` returns for each value of `find s n` and that this value is the leftmost occurrence,
    or that there is none; for the empty needle: `index_of_empty_needle` (the `"".index_of("") = None`
    quirk is known finding C32/empty-needle-in-empty-string),
  split_once (needle ≠ "") — `split_once_spec` is stated through `find` in the same way,
  split and replace (needle ≠ ""): equal to the reference "cut at the leftmost occurrence and continue
    after it" (`splitCore`), which is proved to be a right inverse of joining with the needle
    (`split_join`); with the empty needle: `split_empty_needle`, `replace_empty_needle` (the guards of
    patches/prelude-fix-empty-needle.diff); without the guard the loop runs out of every fuel on a
    non-empty string — the
    defect the property text mentions: `unguarded_split_diverges` for `splitUnguarded`,
    `unguarded_replace_diverges` for `replaceLoop`, the loop that `replaceUnguarded` starts with `parts = []`.
Proved in part:
  lines — `lines_pieces_partial`: the `split_inclusive('\n')` pieces concatenate to the input; the per-piece
    stripping of one `\n` and then one `\r` is the definition `linesMap`. Not proved: equality with a
    `splitOn '\n'`-based reference (drop the last piece if empty).
No theorem, only the correspondence run: List::index_of, List::append (trivial), string_repr rendering.
-/
namespace C32
open Prelude

theorem len_spec {α : Type} (l : List α) : listLen l = (l.length : Int) := rfl

theorem get_spec {α : Type} (l : List α) (i : Int) :
    listGet l i = if 0 ≤ i then l[i.toNat]? else none := listGet_eq l i

theorem first_spec {α : Type} (l : List α) : first l = l.head? := by
  cases l <;> simp [first, listGet]

theorem last_spec {α : Type} (l : List α) : last l = l.getLast? := by
  simp only [last, listGet_eq, listLen]
  cases l with
  | nil => simp
  | cons x xs =>
    have : (0:Int) ≤ ((x :: xs).length : Int) - 1 := by simp
    simp only [this, ite_true]
    rw [List.getLast?_eq_getElem?]
    congr 1
    omega

theorem concat_spec {α : Type} (a b : List α) : concat a b = a ++ b := concat_eq a b
theorem map_spec {α β : Type} (l : List α) (f : α → β) : map l f = l.map f := by
  simp [map, map_foldl]

theorem filter_spec {α : Type} (l : List α) (f : α → Bool) : filter l f = l.filter f := filter_eq l f

theorem enumerate_spec {α : Type} (l : List α) :
    enumerate l = l.zipIdx.map (fun p => ((p.2 : Int), p.1)) := by
  have := enumerate_foldl l [] 0
  simp at this
  simp [enumerate, this]

theorem list_contains_spec {α : Type} [BEq α] (l : List α) (x : α) :
    listContains l x = l.any (· == x) := by
  induction l with
  | nil => rfl
  | cons y ys ih => unfold listContains; cases h : y == x <;> simp [h, ih]

/-- `slice(i, j)`: a negative `j` counts from the end, then plain take/drop (which clamp). -/
theorem slice_spec {α : Type} (l : List α) (i j : Int) :
    listSlice l i j = (l.take (if j < 0 then (l.length : Int) + j else j).toNat).drop i.toNat :=
  listSlice_eq l i j

example : listSlice [10, 11, 12] 1 (-1) = [11] := by decide
example : listGet [4, 5, 6] 3 = none ∧ listGet [4, 5, 6] 1 = some 5 := by decide

/-- `range(i, j) = [i, i+1, …, j-1]`, with any fuel ≥ (j - i) + 1. -/
theorem range_spec (fuel : Nat) (i j : Int) (h : (j - i).toNat + 1 ≤ fuel) :
    range fuel i j = .ok ((List.range (j - i).toNat).map (fun (k : Nat) => i + (k : Int))) := by
  simp [range, rangeLoop_eq j fuel i [] h]

theorem range_terminates (i j : Int) : ∃ n, n ≤ (j - i).toNat + 1 ∧ range n i j ≠ .outOfFuel :=
  Res.terminates_of_ok (range_spec _ i j (Nat.le_refl _))

example : range 5 1 5 = .ok [1, 2, 3, 4] := by decide

theorem max_spec (x y : Int) : Prelude.max x y = Max.max x y := by
  unfold Prelude.max; omega
theorem min_spec (x y : Int) : Prelude.min x y = Min.min x y := by
  unfold Prelude.min; omega

theorem sort_nums_sorted_perm (fuel : Nat) (items : List Int) (h : items.length + 1 ≤ fuel) :
    ∃ r, sortNums fuel items = .ok r ∧ r.Pairwise (· ≤ ·) ∧ r.Perm items := sortNums_sound fuel items h

/-- `sort_nums` is THE sorted permutation (merge sort by `≤`); recursion depth ≤ length + 1. -/
theorem sort_nums_spec (fuel : Nat) (items : List Int) (h : items.length + 1 ≤ fuel) :
    sortNums fuel items = .ok (items.mergeSort (fun a b => decide (a ≤ b))) := by
  obtain ⟨r, hr, sr, pr⟩ := sortNums_sound fuel items h
  rw [hr]
  congr 1
  have sm : (items.mergeSort (fun a b => decide (a ≤ b))).Pairwise (· ≤ ·) := by
    have := List.pairwise_mergeSort (le := fun (a b : Int) => decide (a ≤ b))
      (by intro a b c; simp; omega) (by intro a b; simp; omega) items
    exact this.imp (by intro a b; simp)
  exact List.Perm.eq_of_pairwise (le := (· ≤ ·)) (by intro a b _ _ h1 h2; omega) sr sm
    (pr.trans (List.mergeSort_perm items _).symm)

theorem sort_nums_terminates (items : List Int) :
    ∃ n, n ≤ items.length + 1 ∧ sortNums n items ≠ .outOfFuel :=
  Res.terminates_of_ok (sort_nums_spec _ items (Nat.le_refl _))

example : sortNums 5 [2, 1, 2, -1] = .ok [-1, 1, 2, 2] := by decide

theorem str_len_spec (s : Str) : strLen s = (s.length : Int) := rfl

theorem substring_spec (s : Str) (i j : Int) (hi : 0 ≤ i) (hij : i ≤ j) :
    substring s i j = .ok ((s.take j.toNat).drop i.toNat) := substring_ok s i j hi hij

theorem substring_raises_iff (s : Str) (i j : Int) :
    (∃ k, substring s i j = .exn k) ↔ (i < 0 ∨ i > j) := by
  unfold substring
  by_cases h1 : i < 0
  · simp [h1]
  · by_cases h2 : i > j <;> simp [h1, h2]

example : substring ['a', 'é', 'b'] 1 99 = .ok ['é', 'b'] := by decide

theorem starts_with_spec (s p : Str) : startsWith s p = true ↔ ∃ t, s = p ++ t := by
  unfold startsWith
  rw [List.isPrefixOf_iff_prefix]
  exact exists_congr fun _ => eq_comm

theorem ends_with_spec (s p : Str) : endsWith s p = true ↔ ∃ t, s = t ++ p := by
  unfold endsWith
  rw [List.isSuffixOf_iff_suffix]
  exact exists_congr fun _ => eq_comm

theorem join_spec (sep : Str) (items : List Str) : join sep items = List.intercalate sep items :=
  join_eq sep items

theorem chars_spec (s : Str) : (chars s).flatten = s ∧ ∀ x ∈ chars s, x.length = 1 := by
  constructor
  · induction s with
    | nil => rfl
    | cons c cs ih => simp [chars] at ih ⊢; exact ih
  · intro x hx
    simp [chars] at hx
    obtain ⟨c, _, rfl⟩ := hx
    rfl

theorem index_of_spec_some (s n : Str) (k : Nat) (hn : n ≠ []) (h : find s n = some k) :
    indexOf s n = some (k : Int) ∧ n <+: s.drop k ∧ k + n.length ≤ s.length ∧
      ∀ j, j < k → ¬ n <+: s.drop j :=
  ⟨(cut_ok h (find_lt hn h)).1, find_some_spec h⟩

theorem index_of_spec_none (s n : Str) (h : find s n = none) :
    indexOf s n = none ∧ ∀ j, j ≤ s.length → ¬ n <+: s.drop j :=
  ⟨indexOf_of_find_none s n h, by have := find_spec s n; rwa [h] at this⟩

/-- The empty needle: offset 0 in a non-empty string, but `None` in the empty string (the quirk of
looking the offset up among `char_indices()`; known finding C32/empty-needle-in-empty-string). -/
theorem index_of_empty_needle (s : Str) : indexOf s [] = if s = [] then none else some 0 := by
  cases s with
  | nil => simp [indexOf, find]
  | cons c cs => simp [indexOf, find]

example : indexOf ['a', 'é', 'c'] ['c'] = some 2 := by decide

/-- About the `split_inclusive('\n')` pieces that `lines` maps `linesMap` over, not about `lines`
itself: they concatenate to the input. -/
theorem lines_pieces_partial (s : Str) : (splitInclusiveNl s []).flatten = s := by
  simpa using splitInclusiveNl_flatten s []

theorem contains_spec (fuel : Nat) (this sub : Str) (hf : this.length + 2 ≤ fuel) :
    ∃ b, contains fuel this sub = .ok b ∧ (b = true ↔ sub <:+: this) := by
  unfold contains
  by_cases hm : strLen sub > strLen this
  · simp only [hm, ite_true]
    refine ⟨false, rfl, ?_⟩
    simp only [strLen] at hm
    exact ⟨fun h => (nomatch h), fun h => by have := h.length_le; omega⟩
  · simp only [hm, ite_false]
    simp only [strLen] at hm
    have := containsLoop_eq this sub (by omega) fuel 0 (by omega) (by omega)
    simp only [Int.cast_ofNat_Int] at this
    refine ⟨_, this, ?_⟩
    rw [infix_iff_window, List.any_eq_true]
    constructor
    · rintro ⟨j, hj, h⟩
      rw [List.mem_range'_1] at hj
      exact ⟨j, by omega, by simpa using h⟩
    · rintro ⟨j, hj, h⟩
      exact ⟨j, by rw [List.mem_range'_1]; omega, by simpa using h⟩

theorem contains_terminates (this sub : Str) :
    ∃ n, n ≤ this.length + 2 ∧ contains n this sub ≠ .outOfFuel := by
  obtain ⟨b, hb, -⟩ := contains_spec _ this sub (Nat.le_refl _)
  exact Res.terminates_of_ok hb

example : contains 6 ['a', 'b', 'c', 'd'] ['b', 'c'] = .ok true := by decide

theorem strip_prefix_spec_hit (p t : Str) : stripPrefix (p ++ t) p = .ok t := by
  unfold stripPrefix
  rw [if_pos ((starts_with_spec _ _).2 ⟨t, rfl⟩)]
  simp [strLen, substring_nat]

theorem strip_prefix_spec_miss (s p : Str) (h : ¬ ∃ t, s = p ++ t) : stripPrefix s p = .ok s := by
  unfold stripPrefix
  rw [if_neg (fun hs => h ((starts_with_spec _ _).1 hs))]

theorem strip_suffix_spec_hit (t p : Str) : stripSuffix (t ++ p) p = .ok t := by
  unfold stripSuffix
  rw [if_pos ((ends_with_spec _ _).2 ⟨t, rfl⟩)]
  simpa [strLen] using substring_nat (t ++ p) 0 t.length

theorem strip_suffix_spec_miss (s p : Str) (h : ¬ ∃ t, s = t ++ p) : stripSuffix s p = .ok s := by
  unfold stripSuffix
  rw [if_neg (fun hs => h ((ends_with_spec _ _).1 hs))]

theorem trim_left_spec (fuel : Nat) (s : Str) (hf : s.length + 1 ≤ fuel) :
    trimLeft fuel s = .ok (s.dropWhile (· == ' ')) := by
  unfold trimLeft
  have hl := trimLeftLoop_eq s fuel 0 (by omega) (by omega)
  simp only [Int.cast_ofNat_Int, List.drop_zero, Nat.zero_add] at hl
  have hle := length_takeWhile_add_dropWhile (· == ' ') s
  rw [hl, Res.bind_ok, substring_ok _ _ _ (by omega) (by simp only [strLen]; omega)]
  simp only [strLen, Int.toNat_natCast, List.take_length]
  have key := List.drop_left' (l₁ := s.takeWhile (· == ' ')) (l₂ := s.dropWhile (· == ' ')) rfl
  rw [List.takeWhile_append_dropWhile] at key
  rw [key]

theorem trim_right_spec (fuel : Nat) (s : Str) (hf : s.length + 1 ≤ fuel) :
    trimRight fuel s = .ok (s.reverse.dropWhile (· == ' ')).reverse := by
  unfold trimRight
  have hl := trimRightLoop_eq s fuel s.length (by omega) (by omega)
  simp only [List.take_length] at hl
  simp only [strLen]
  rw [hl, Res.bind_ok, substring_ok _ _ _ (by omega) (by omega)]
  simp only [Int.sub_add_cancel, Int.toNat_natCast, Int.toNat_zero, List.drop_zero]
  have h2 : s = (s.reverse.dropWhile (· == ' ')).reverse ++ (s.reverse.takeWhile (· == ' ')).reverse := by
    rw [← List.reverse_append, List.takeWhile_append_dropWhile, List.reverse_reverse]
  have key := List.take_left' (l₁ := (s.reverse.dropWhile (· == ' ')).reverse)
    (l₂ := (s.reverse.takeWhile (· == ' ')).reverse) rfl
  rw [← h2, List.length_reverse] at key
  rw [key]

theorem trim_spec (fuel : Nat) (s : Str) (hf : s.length + 1 ≤ fuel) :
    trim fuel s = .ok ((s.dropWhile (· == ' ')).reverse.dropWhile (· == ' ')).reverse := by
  unfold trim
  rw [trim_left_spec fuel s hf, Res.bind_ok]
  apply trim_right_spec
  have := length_takeWhile_add_dropWhile (· == ' ') s
  omega

theorem trim_terminates (s : Str) : ∃ n, n ≤ s.length + 1 ∧ trim n s ≠ .outOfFuel :=
  Res.terminates_of_ok (trim_spec _ s (Nat.le_refl _))

example : trim 5 [' ', 'a', ' ', ' '] = .ok ['a'] := by decide
example : trim 5 ['\t', 'a'] = .ok ['\t', 'a'] := by decide   -- the known finding

theorem split_once_spec (s n : Str) (hn : n ≠ []) :
    splitOnce s n = .ok (match find s n with
      | none => none
      | some k => some (s.take k, s.drop (k + n.length))) := by
  unfold splitOnce
  cases hf : find s n with
  | none => simp [indexOf_of_find_none s n hf]
  | some k =>
    obtain ⟨hi, h1, h2⟩ := cut_ok hf (find_lt hn hf)
    simp only [hi, h1, h2, Res.bind_ok]

theorem split_once_rejoin (s n a b : Str) (hn : n ≠ []) (h : splitOnce s n = .ok (some (a, b))) :
    s = a ++ n ++ b := by
  rw [split_once_spec s n hn] at h
  cases hf : find s n with
  | none => simp [hf] at h
  | some k =>
    simp only [hf, Res.ok.injEq, Option.some.injEq, Prod.mk.injEq] at h
    rw [← h.1, ← h.2, List.append_assoc, find_cut hf]

example : splitOnce ['a', 'b', 'c', 'b', 'e'] ['b'] = .ok (some (['a'], ['c', 'b', 'e'])) := by decide

theorem split_spec (fuel : Nat) (s n : Str) (hn : n ≠ []) (hf : s.length + 1 ≤ fuel) :
    split fuel s n = .ok (if s = [] then [] else splitCore n s) := by
  have hn' : (n == []) = false := by simpa using hn
  unfold split splitUnguarded
  simp only [hn']
  by_cases hs : s = []
  · simp [hs]
  · have hs' : (s == []) = false := by simpa using hs
    simp [hs', hs, splitLoop_eq n hn s.length fuel s [] (Nat.le_refl _) hf, splitCore]

theorem split_join (n s : Str) : List.intercalate n (splitCore n s) = s := splitCoreF_join n s.length s

theorem split_terminates (s n : Str) (hn : n ≠ []) :
    ∃ k, k ≤ s.length + 1 ∧ split k s n ≠ .outOfFuel :=
  Res.terminates_of_ok (split_spec _ s n hn (Nat.le_refl _))

theorem split_empty_needle (fuel : Nat) (s : Str) : split fuel s [] = .ok (chars s) := by
  simp [split]

example : split 9 ['a', ',', ',', 'b', ','] [','] = .ok [['a'], [], ['b'], []] := by decide
example : split 9 ['a', 'a', 'a'] ['a', 'a'] = .ok [[], ['a']] := by decide

theorem replace_spec (fuel : Nat) (s before after : Str) (hn : before ≠ []) (hf : s.length + 1 ≤ fuel) :
    replace fuel s before after = .ok (List.intercalate after (splitCore before s)) := by
  have hn' : (before == []) = false := by simpa using hn
  unfold replace replaceUnguarded
  simp [hn', replaceLoop_eq before after hn s.length fuel s [] (Nat.le_refl _) hf, join_eq, splitCore,
    List.intercalate, flatten_intersperse_nil]

theorem replace_terminates (s before after : Str) (hn : before ≠ []) :
    ∃ k, k ≤ s.length + 1 ∧ replace k s before after ≠ .outOfFuel :=
  Res.terminates_of_ok (replace_spec _ s before after hn (Nat.le_refl _))

theorem replace_empty_needle (fuel : Nat) (s after : Str) : replace fuel s [] after = .ok s := by
  simp [replace]

example : replace 9 ['a', 'b', 'c', 'd', ' ', 'c', 'd'] ['c', 'd'] ['x'] = .ok ['a', 'b', 'x', ' ', 'x'] := by
  decide

/-- The defect of the pinned tree: without the guard of patches/prelude-fix-empty-needle.diff the Garden
program never terminates on a non-empty string (`hs`; on `""` it returns at once). Stated of `replaceLoop`
from any `parts`; `replaceUnguarded` starts it at `[]`. -/
theorem unguarded_replace_diverges (fuel : Nat) (s after : Str) (parts : List Str) (hs : s ≠ []) :
    replaceLoop [] after fuel s parts = .outOfFuel := by
  obtain ⟨hi, h0, hd⟩ := empty_needle_cut s hs
  exact diverges_of_step (fun fuel parts => replaceLoop [] after fuel s parts) (fun _ => rfl)
    (fun fuel parts => ⟨_, by simp only [replaceLoop, hi, h0, hd, Res.bind_ok]; rfl⟩) fuel parts

theorem unguarded_split_diverges (fuel : Nat) (s : Str) (hs : s ≠ []) :
    splitUnguarded fuel s [] = .outOfFuel := by
  obtain ⟨hi, h0, hd⟩ := empty_needle_cut s hs
  have hs' : (s == []) = false := by simpa using hs
  have key := diverges_of_step (fun fuel parts => splitLoop [] fuel s parts) (fun _ => rfl)
    (fun fuel parts => ⟨_, by simp only [splitLoop, hi, h0, hd, Res.bind_ok]; rfl⟩) fuel
  simp [splitUnguarded, hs', key]

end C32
