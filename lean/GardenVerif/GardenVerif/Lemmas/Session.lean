import GardenVerif.Model.Session
import GardenVerif.Lemmas.MachineStep
/-!
For C09 / C10 over the session model M6. `NE m` (the call stack is non-empty) is what every `unwrap` /
`expect` / index of json_session.rs, commands.rs and env.rs on the modelled path relies on; it is kept by
every evaluator step, hence by `eval`, hence by every request. `Good r`: what one handled request must satisfy.
-/
namespace Session
open Machine

def NE (m : Machine.State) : Prop := m.frames ≠ []

/-- The same function as `StepResult.state?` (`resState_eq`). It stands before `step_ne` because the
`match` in that statement elaborates to this definition's matcher (`resState.match_1`). -/
def resState : StepResult → Option Machine.State
  | .cont s => some s
  | .done s _ => some s
  | .error s _ => some s
  | _ => none

theorem resState_eq : resState = StepResult.state? := by
  funext r; cases r <;> rfl

theorem step_ne' (s : Machine.State) : ∀ s', resState (step s) = some s' → s'.frames ≠ [] :=
  fun _ hs => step_frames_ne (resState_eq ▸ hs)

-- The hypothesis is not needed: on an empty call stack `step` panics.
set_option linter.unusedVariables false in
theorem step_ne (s : Machine.State) (h : s.frames ≠ []) :
    match step s with
    | .cont s' => s'.frames ≠ []
    | .done s' _ => s'.frames ≠ []
    | .error s' _ => s'.frames ≠ []
    | _ => True := by
  have := step_ne' s
  cases hr : step s <;> simp_all [resState]

theorem mstep_ne' (cfg : Cfg) (s : Machine.State) :
    ∀ s', resState (mstep cfg s) = some s' → s'.frames ≠ [] := by
  intro s' hs
  have h0 := step_ne' s
  unfold mstep at hs
  cases hr : step s with
  | cont a | done a v | error a e => rw [hr] at hs h0; simp [resState] at hs h0; subst hs; exact h0
  | panic site => rw [hr] at hs; simp only at hs; split at hs <;> simp [resState] at hs
  | unsupported w => rw [hr] at hs; simp [resState] at hs

def resStateE : EvalRes → Option Machine.State
  | .done m _ => some m
  | .error m _ => some m
  | _ => none

theorem evalLoop_ne (cfg : Cfg) : ∀ (fuel : Nat) (m : Machine.State),
    ∀ m', resStateE (evalLoop cfg fuel m) = some m' → m'.frames ≠ []
  | 0, m, m', hm => by simp [evalLoop, resStateE] at hm
  | n + 1, m, m', hm => by
    have hs := mstep_ne' cfg m
    unfold evalLoop at hm
    cases hr : mstep cfg m with
    | cont a => rw [hr] at hm; exact evalLoop_ne cfg n a m' hm
    | done a v | error a e => rw [hr] at hm hs; simp [resStateE] at hm; subst hm; exact hs a rfl
    | panic site | unsupported w => rw [hr] at hm; simp [resStateE] at hm

theorem eval_ne (cfg : Cfg) (fuel : Nat) (m : Machine.State) :
    ∀ m', resStateE (eval cfg fuel m) = some m' → m'.frames ≠ [] := by
  intro m' hm
  unfold eval at hm
  split at hm
  · rename_i f hf
    split at hm
    · simp [resStateE] at hm; subst hm; rw [hf]; exact List.cons_ne_nil _ _
    · exact evalLoop_ne cfg fuel m m' hm
  · exact evalLoop_ne cfg fuel m m' hm

theorem lastList_ne {α : Type} : ∀ (l : List α), l ≠ [] → ∃ a, lastList l = [a]
  | [], h => absurd rfl h
  | [a], _ => ⟨a, rfl⟩
  | a :: b :: rest, _ => by
    have := lastList_ne (b :: rest) (by simp)
    simpa [lastList] using this

theorem lastList_length {α : Type} : ∀ (l : List α), (lastList l).length ≤ 1
  | [] => by simp [lastList]
  | [a] => by simp [lastList]
  | a :: b :: rest => by simpa [lastList] using lastList_length (b :: rest)

theorem popToToplevel_ne (cfg : Cfg) (m : Machine.State) (h : m.frames ≠ []) :
    (popToToplevel cfg m).frames ≠ [] := by
  unfold popToToplevel
  split
  · simp
  · exact h

def Good (r : Result) : Prop :=
  (r.outcome = .ok → r.responses.length = 1 ∧ NE r.state.m) ∧ r.isSessionPanic = false

theorem good_respond (st : State) (r : Resp) (h : NE st.m) : Good (respond st r) := by
  simp [Good, respond, Result.isSessionPanic, h]

theorem good_die (st : State) (o : Outcome) (ho : o ≠ .ok := by simp)
    (hp : ∀ s, o ≠ .sessionPanic s := by simp) :
    Good (die st o) := by
  unfold Good die Result.isSessionPanic
  refine ⟨fun h => absurd h ho, ?_⟩
  cases o <;> simp_all

theorem topName_some (m : Machine.State) (h : NE m) : ∃ n, topName m = some n := by
  unfold topName
  cases hf : m.frames with
  | nil => exact absurd hf h
  | cons f rest => exact ⟨_, rfl⟩

theorem good_cmdResp (st : State) (id : Option Nat) (msg : String) (h : NE st.m) :
    Good (cmdResp st id msg) := by
  obtain ⟨n, hn⟩ := topName_some st.m h
  simp [cmdResp, hn, good_respond, h]

theorem good_errToResponse (st : State) (m : Machine.State) (id : Option Nat) (e : Err) (h : NE m) :
    Good (errToResponse st m id e) := by
  obtain ⟨n, hn⟩ := topName_some m h
  simp only [errToResponse, hn]
  exact good_respond _ _ h

theorem good_evalToResponse (cfg : Cfg) (fuel : Nat) (st : State) :
    Good (evalToResponse cfg fuel st) := by
  have he := eval_ne cfg fuel st.m
  unfold evalToResponse
  split
  · rename_i m v hm
    have he := he m (by rw [hm]; rfl)
    obtain ⟨n, hn⟩ := topName_some m he
    simp only [hn]; exact good_respond _ _ he
  · rename_i m e hm
    have he := he m (by rw [hm]; rfl)
    obtain ⟨n, hn⟩ := topName_some m he
    simp only [hn]; exact good_respond _ _ he
  all_goals exact good_die _ _

theorem runTests_good (cfg : Cfg) (fuel : Nat) (id : Option Nat) :
    ∀ (ts : List TestDef) (st : State), NE st.m →
    (∀ st', runTests cfg fuel st id ts = .ok st' → NE st'.m) ∧
    (∀ r, runTests cfg fuel st id ts = .error r → Good r)
  | [], st, h => by
    constructor
    · intro st' hs; simp [runTests] at hs; subst hs; exact h
    · intro r hs; simp [runTests] at hs
  | t :: rest, st, h => by
    have he := eval_ne cfg fuel { st.m with frames := testFrame t :: st.m.frames }
    cases hr : eval cfg fuel { st.m with frames := testFrame t :: st.m.frames } with
    | done m' v =>
      have he := he m' (by rw [hr]; rfl)
      have ih := runTests_good cfg fuel id rest { st with m := popToToplevel cfg m' } (popToToplevel_ne cfg m' he)
      constructor
      · intro st' hs; simp only [runTests, hr] at hs; exact ih.1 st' hs
      · intro r hs; simp only [runTests, hr] at hs; exact ih.2 r hs
    | error m' e =>
      have he := he m' (by rw [hr]; rfl)
      constructor
      · intro st' hs; simp [runTests, hr] at hs
      · intro r hs; simp only [runTests, hr, Except.error.injEq] at hs; subst hs
        exact good_errToResponse _ _ _ _ he
    | panic site | unsupported w | fuel =>
      constructor
      · intro st' hs; simp [runTests, hr] at hs
      · intro r hs; simp only [runTests, hr, Except.error.injEq] at hs; subst hs
        exact good_die _ _

theorem setTopExprs_some (m : Machine.State) (es : List Expr) (h : m.frames ≠ []) :
    ∃ m', setTopExprs m es = some m' := by
  unfold setTopExprs
  cases hf : m.frames with
  | nil => exact absurd hf h
  | cons f rest => exact ⟨_, rfl⟩

end Session
