import GardenVerif.Lemmas.TestRunner
import GardenVerif.Model.EvalUpTo
/-! Lemmas for C27: the run with `stopAt = some id` against the run with `stopAt = none`
(`fires`, `step_stop`), and what marking the observed node used changes in that node's own steps
(`Simple`, `unflag*`, `ExtraPush`, `simple_completion_flag`). -/

namespace EvalUpTo
open Machine TestRunner

def clr (s : State) : State := { s with stopAt := none }

def isForPartial (st : St) (e : Expr) : Bool :=
  (match e with | .forE .. => true | _ => false) && (st == St.PW || st == St.PD || st == St.PN)

def report (st : St) (e : Expr) (f' : Frame) : Option Value :=
  if doneSub st e then
    some (match f'.values with
      | v :: _ => v
      | [] => .str "__ERROR: no expressions evaluated. This is a bug.")
  else if isForPartial st e then some vUnit
  else none

/-- **Completion of the observed node at this step**: the step from `s` is a tick on the node
`s.stopAt` that is not cut short by an interrupt or a limit, whose dispatch succeeds and leaves
the node with its subexpressions done (`doneSub`; a `for` loop: as soon as it has entered its
body) — then the value is the top of the value stack; or it is the return of the frame created
by the call expression `s.stopAt` — then the value is the frame's result. -/
def fires (d : Program → Frame → St → Expr → Disp) (s : State) : Option Value :=
  match s.frames with
  | [] => none
  | f :: callers =>
    match f.exprs with
    | (st, e) :: rest =>
      if (s.interrupted || s.interruptAt.contains (s.ticks + 1)) then none
      else if limitReached s.tickLimit (s.ticks + 1) then none
      else if limitExceeded s.stackLimit s.frames.length then none
      else if s.stopAt == some e.id then
        match d s.prog { f with exprs := rest } st e with
        | .ok f' => report st e f'
        | .okOut f' _ => report st e f'
        | _ => none
      else none
    | [] =>
      match callers with
      | [] => none
      | _ :: _ =>
        match f.values with
        | [] => none
        | rv :: _ => if f.callerId.isSome && s.stopAt == f.callerId then some rv else none

theorem stopValue_eq_report (stopAt : Option Nat) (f' : Frame) (st : St) (e : Expr) :
    stopValue stopAt f' st e = if stopAt == some e.id then report st e f' else none := by
  unfold stopValue report isForPartial
  split
  · split
    · cases f'.values <;> rfl
    · rfl
  · rfl

/-- Only a dispatched entry can complete the observed node. -/
theorem fires_entry (d : Program → Frame → St → Expr → Disp) {s : State} {f : Frame} {callers : List Frame}
    {st : St} {e : Expr} {rest : List (St × Expr)} (hf : s.frames = f :: callers) (he : f.exprs = (st, e) :: rest) :
    fires d s =
      match refusal s with
      | some _ => none
      | none =>
        match d s.prog { f with exprs := rest } st e with
        | .ok f' => stopValue s.stopAt f' st e
        | .okOut f' _ => stopValue s.stopAt f' st e
        | _ => none := by
  unfold fires refusal
  rw [hf]; dsimp only; rw [he]; dsimp only
  cases (s.interrupted || s.interruptAt.contains (s.ticks + 1)) <;>
    cases limitReached s.tickLimit (s.ticks + 1) <;>
    cases limitExceeded s.stackLimit (f :: callers).length <;> try rfl
  simp only [Bool.false_eq_true, if_false, stopValue_eq_report]
  cases d s.prog { f with exprs := rest } st e <;> cases (s.stopAt == some e.id) <;> rfl

/-- `r`: the step with the request to stop, `r₀`: without it, the third argument: what the stop test
reports (`fires d s`). -/
def StopSpec (r r₀ : StepResult) : Option Value → Prop
  | none => mapState clr r = r₀
  | some v => ∃ s', r = .done s' v ∧ ∃ s'', r₀ = .cont s''

theorem post_stop (a : State) (callers : List Frame) (st : St) (e : Expr) (D : Disp) :
    StopSpec (post a callers st e D) (post (clr a) callers st e D)
      (match D with
        | .ok f' => stopValue a.stopAt f' st e
        | .okOut f' _ => stopValue a.stopAt f' st e
        | _ => none) := by
  -- without the request the stop test never fires
  have hclr : ∀ fr o f', stopValue ({ clr a with out := o, frames := fr } : State).stopAt f' st e = none :=
    fun _ _ f' => stopValue_ne (stopAt := none) (fun h => nomatch h) f' st
  cases D with
  | ok f' | okOut f' o =>
    simp only [post, stopCheck_eq]
    rw [hclr]
    cases stopValue a.stopAt f' st e with
    | none => rfl
    | some v => exact ⟨_, rfl, _, rfl⟩
  | _ => rfl

theorem step_stop (d : Program → Frame → St → Expr → Disp) (s : State) :
    StopSpec (stepWith d s) (stepWith d (clr s)) (fires d s) := by
  match hf : s.frames with
  | [] =>
    have h : fires d s = none := by simp only [fires, hf]
    rw [h, stepWith_nil d hf, stepWith_nil d (s := clr s) hf]; rfl
  | f :: callers =>
    have hf' : (clr s).frames = f :: callers := hf
    match he : f.exprs with
    | [] =>
      rw [stepWith_idle d hf he, stepWith_idle d hf' he]
      cases callers with
      | nil =>
        have h : fires d s = none := by simp only [fires, hf, he]
        rw [h, step_finish hf he, step_finish hf' he]
        show mapState clr _ = _
        split <;> rfl
      | cons caller rest =>
        have h : fires d s = match f.values with
            | [] => none
            | rv :: _ => if f.callerId.isSome && s.stopAt == f.callerId then some rv else none := by
          simp only [fires, hf, he]
        rw [h, step_return hf he, step_return hf' he]
        cases f.values with
        | nil => rfl
        | cons rv vs =>
          -- the run without the request never stops at a frame return
          have hc2 : (f.callerId.isSome && (clr s).stopAt == f.callerId) = false := by
            cases f.callerId <;> rfl
          dsimp only
          rw [hc2, if_neg Bool.false_ne_true]
          cases (f.callerId.isSome && s.stopAt == f.callerId)
          · rw [if_neg Bool.false_ne_true, if_neg Bool.false_ne_true]; rfl
          · rw [if_pos rfl, if_pos rfl]; exact ⟨_, rfl, _, rfl⟩
    | (st, e) :: rest =>
      rw [fires_entry d hf he, stepWith_entry d hf he, stepWith_entry d hf' he,
        show refusal (clr s) = refusal s from rfl]
      cases refusal s with
      | some er => rfl
      | none => exact post_stop (ticked s) callers st e _


/-- Node kinds for which marking changes nothing below the node (no block flags are recomputed:
`setUsedExpr` only recurses with `true` into operands) and whose value is pushed by the node's own
completing step. Excluded: `if` / `match` (flags of the branches change), loops (the value is pushed
one step before completion; `break` reads the loop's flag), calls (the flag travels into the callee
frame), `return` / `break` / `continue` / parentheses (no value of their own is pushed). -/
def Simple : Expr → Bool
  | .int .. | .str .. | .var .. | .lambda .. | .binop .. | .letE .. | .assign .. | .update .. | .list .. | .tuple .. => true
  | _ => false

@[simp] theorem withUsed_id (u : Bool) (e : Expr) : (withUsed u e).id = e.id := by cases e <;> rfl
@[simp] theorem withUsed_used (u : Bool) (e : Expr) : (withUsed u e).used = u := by cases e <;> rfl
@[simp] theorem withUsed_withUsed (a b : Bool) (e : Expr) : withUsed a (withUsed b e) = withUsed a e := by cases e <;> rfl
theorem withUsed_self (e : Expr) : withUsed e.used e = e := by cases e <;> rfl

theorem doneSub_withUsed (u : Bool) (st : St) (e : Expr) : doneSub st (withUsed u e) = doneSub st e := by
  cases e <;> rfl

/-- `unflag`, `unflagF`, `unflagD`: erase the use flag of node `id` in an expression, in the pending
entries of a frame, in the frame of a dispatch result. -/
def unflag (id : Nat) (x : Expr) : Expr := if x.id == id then withUsed false x else x

def unflagF (id : Nat) (f : Frame) : Frame := { f with exprs := f.exprs.map fun sx => (sx.1, unflag id sx.2) }

def unflagD (id : Nat) : Disp → Disp
  | .ok f => .ok (unflagF id f)
  | .okOut f o => .okOut (unflagF id f) o
  | .newFrame f c => .newFrame (unflagF id f) c
  | .err f st vals e => .err (unflagF id f) st vals e
  | .panic s => .panic s
  | .unsupported w => .unsupported w

theorem unflag_marked (e : Expr) (u : Bool) : unflag e.id (withUsed u e) = unflag e.id e := by
  simp [unflag]

theorem unflagF_pushE (id : Nat) (f : Frame) (st : St) (x : Expr) :
    unflagF id (f.pushE st x) = (unflagF id f).pushE st (unflag id x) := by
  simp [unflagF, Frame.pushE]

theorem unflagF_foldl (id : Nat) (items : List Expr) (g : Frame) :
    unflagF id (items.foldl (fun f x => f.pushE .N x) g) =
      (items.map (unflag id)).foldl (fun f x => f.pushE .N x) (unflagF id g) := by
  rw [List.foldl_map]
  exact (List.foldl_hom (unflagF id) fun f x => (unflagF_pushE id f .N x).symm).symm

def ExtraPush (d d' : Disp) : Prop :=
  match d with
  | .ok f1 => ∃ v, d' = .ok (f1.pushV v)
  | .err f1 st vals er => d' = .err f1 st vals er
  | .panic s => d' = .panic s
  | .unsupported w => d' = .unsupported w
  | .okOut _ _ => True
  | .newFrame _ _ => True

theorem extraPush_pushVIf (g : Frame) (v : Value) : ExtraPush (.ok (g.pushVIf false v)) (.ok (g.pushVIf true v)) :=
  ⟨v, rfl⟩

theorem binopBody_flag (g : Frame) (op : BinOp) (lv rv : Value) :
    ExtraPush (binopBody g false op lv rv) (binopBody g true op lv rv) := by
  unfold binopBody
  repeat' split
  all_goals first | exact extraPush_pushVIf .. | rfl

theorem letBody_flag (g : Frame) (dest : Dest) (v : Value) :
    ExtraPush (letBody g false dest v) (letBody g true dest v) := by
  unfold letBody
  repeat' split
  all_goals first | exact extraPush_pushVIf .. | rfl

theorem updateBody_flag (g : Frame) (isAdd : Bool) (n : String) (cur : Int64) (rv : Value) :
    ExtraPush (updateBody g false isAdd n cur rv) (updateBody g true isAdd n cur rv) := by
  unfold updateBody
  repeat' split
  all_goals first | exact extraPush_pushVIf .. | rfl

/-- Only a leaf is done before its state says so. -/
theorem doneSub_E {st : St} {e : Expr} (hd : doneSub st e = true) (hk : doneSub .N e = false) : st = .E := by
  cases st <;> first | rfl | exact absurd (hd.symm.trans hk) (by decide)

/-- The completing step of a `Simple` node reads the node's flag only to decide whether to push
the value. -/
theorem simple_completion_flag (p : Program) (f : Frame) (st : St) (e : Expr)
    (hs : Simple e = true) (hd : doneSub st e = true) :
    ExtraPush (dispatch p f st (withUsed false e)) (dispatch p f st (withUsed true e)) := by
  cases e <;> first | cases hs | skip
  case int => exact extraPush_pushVIf ..
  case str => exact extraPush_pushVIf ..
  case lambda => exact extraPush_pushVIf ..
  case var =>
    simp only [withUsed, dispatch_var]
    split
    · exact extraPush_pushVIf ..
    · rfl
  case binop =>
    cases doneSub_E hd rfl
    simp only [withUsed, dispatch_binop_E]
    split
    · exact binopBody_flag ..
    · rfl
  case letE =>
    cases doneSub_E hd rfl
    simp only [withUsed, dispatch_let_E]
    split
    · exact letBody_flag ..
    · rfl
  case assign =>
    cases doneSub_E hd rfl
    simp only [withUsed, dispatch_assign_E]
    repeat' split
    all_goals first | exact extraPush_pushVIf .. | rfl
  case update =>
    cases doneSub_E hd rfl
    simp only [withUsed, dispatch_update_E]
    repeat' split
    all_goals first | exact updateBody_flag .. | rfl
  case list =>
    cases doneSub_E hd rfl
    simp only [withUsed, dispatch_list_E]
    split
    · exact extraPush_pushVIf ..
    · rfl
  case tuple =>
    cases doneSub_E hd rfl
    simp only [withUsed, dispatch_tuple_E]
    split
    · exact extraPush_pushVIf ..
    · rfl

end EvalUpTo
