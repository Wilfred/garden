import GardenVerif.Lemmas.ExtractFunSim
/-!
# C20 — Extract variable and extract function preserve behaviour

(V) certified validator, built on Model/Extract.lean part 2.

Relations, decided by the driver on the two trees of the REAL parser (`hoist_check`, `funext_check`):
* `IsLetHoist p p' t n`: up to node ids / use flags, `p'` is `p` with `let n = e` (`e` = the node `t`,
  one layer of parentheses dropped, as the tool does) inserted as a statement IMMEDIATELY BEFORE the
  statement on whose block-free spine the node lies — i.e. in the same block, never outside a branch
  of `if`, a loop body, a `match` arm or a closure body — and exactly that occurrence replaced by the
  variable `n`; `n` occurs nowhere in `p`.
* `IsFunExtract p p' t n`: `p'` has one more toplevel function `n` whose body is exactly `e`; `p'`
  without it is `p` with the node replaced by the call `n(params…)`, the arguments being the new
  function's parameter names in the same order; `n` is fresh.

Proved here (all programs, all fuel; closure-free restriction `cl = false` of `RefSem`, hence `_partial`):
* `hoistCheck_sound`, `funextCheck_sound` — the decision procedures imply the relations;
* `let_hoist_sound_partial`, `fun_extract_sound_partial` (hypotheses and conclusion: see there), with their
  `_behaviour_partial` forms and `hoistCheck_behaviour_partial`: under decidable side conditions a run of `p` that
  ends without a Garden error is reproduced — same result value, same printed output — by `p'` with more fuel;
* `pure_keeps_state_partial`, `hoisted_use_partial` — local facts about `let n = e`, for any `cl`; the
  simulations do not use them.

Not proved, so the full statements are open: the same with closures (`cl = true`: closure values carry code, the two
runs' values differ by the transformation), for programs with assignments (stores would have to be
related by an injection instead of by extension), and for impure `e` / impure sub-expressions before
`e` in the statement (then the hypothesis would have to be a dynamic one). Per input the direct
oracle covers those: the output parses, and where the original ran without error the result prints
the same and ends the same way.
-/

namespace C20
open Extract RefSem Validators
open Machine (Program Expr)

theorem hoistCheck_sound (p p' : Program) (t : Nat) (n : String) (h : hoistCheck p p' t n = true) :
    IsLetHoist p p' t n := by
  simp only [hoistCheck, Bool.and_eq_true, beq_iff_eq] at h
  exact ⟨progEq_sound _ _ h.1.1, h.1.2, h.2⟩

theorem funextCheck_sound (p p' : Program) (t : Nat) (n : String) (h : funextCheck p p' t n = true) :
    IsFunExtract p p' t n := by
  unfold funextCheck at h
  split at h
  · cases h
  · rename_i d hd
    split at h
    · rename_i b hb
      simp only [Bool.and_eq_true, beq_iff_eq, Bool.not_eq_true', decide_eq_true_eq] at h
      exact ⟨d, b, hd, hb, progEq_sound _ _ h.1.1.1.1, h.1.1.1.2, h.1.1.2, h.1.2, h.2⟩
    · cases h

theorem pure_keeps_state_partial (cl : Bool) (p : Program) (n : Nat) (env : Env) (s : RefSem.St) (e : Expr)
    (h : arithE e = true) : (eval cl p n env s e).2 = s :=
  ((arithPure cl p n).ev env s e h).1

set_option linter.unusedVariables false in
theorem hoisted_use_partial (cl : Bool) (p : Program) (m : Nat) (env : Env) (s : RefSem.St) (e : Expr)
    (n : String) (v : Val) (hn : n ≠ "_") (he : eval cl p (m + 1) env s e = (.val v, s)) (id : Nat) (u : Bool) :
    let r := bindDest (.sym n) v env s
    ∃ env' s', r = .ok (env', s') ∧ eval cl p (m + 1) env' s' (.var id u n) = (.val v, s') := by
  have hn' : (n == "_") = false := by simpa using hn
  refine ⟨(n, s.store.length) :: env, { s with store := s.store ++ [v] }, ?_, ?_⟩
  · simp [bindDest, bindNames, hn']
  · simp [eval, lookupVar, lookup]

/-- The property let_hoist_sound of DESIGN.md §7, for the closure-free restriction of `RefSem` (hence `_partial`).
Hypotheses: `IsLetHoist p p' t n` (the schema, decided by `hoistCheck`; only its tree equation is used) and
`hoistSafe t n p`, the side
conditions decided on the tree before by `hoist_check`:
* `n ≠ "_"` and `n` is not used as a variable or binder anywhere in `p`;
* `p` is assignment-free (no `=`, `+=`, `-=`);
* where the `let` is inserted, the extracted expression `e` is pure and call-free (`arithE`) and `sp t`
  holds: the node lies on the block-free spine of its statement, every sub-expression of the statement
  evaluated BEFORE it is pure and call-free, and it is not a `while` condition. (The real tool
  guarantees the spine / same-block part; purity of `e` and of what precedes it in the statement is
  what excludes an observable change of evaluation order.)
Conclusion: for every fuel `k`, if the original run ends without a Garden error (result neither
`timeout` nor `err` nor `unsupported`), then the extracted program with fuel `2 * k` ends with the
same result value and has printed the same output. (Stores are not compared: the extracted program's
store has the additional cells of the hoisted variable.) If `e` raises an error where the statement starts, the
original run is an error run as well (`spBad`), which is why no "e is total" hypothesis is needed. -/
theorem let_hoist_sound_partial (p p' : Program) (t : Nat) (n : String)
    (h : IsLetHoist p p' t n) (hs : hoistSafe t n p = true) (k : Nat)
    (hk : bad (run false p k).1 = false) :
    (run false p' (2 * k)).1 = (run false p k).1 ∧ (run false p' (2 * k)).2.out = (run false p k).2.out := by
  have hr := hoistProg_run hs k
  rcases hr with hr | ⟨e1, e2, _, _⟩
  · rw [hk] at hr; cases hr
  · have hq : isTO (run false (hoistProg t n p) (2 * k)).1 = false := by rw [← e1]; exact isTO_of_not_bad hk
    rw [strip_eq_run h.1 _ (Or.inl hq)]
    exact ⟨e1.symm, e2.symm⟩

theorem let_hoist_behaviour_partial (p p' : Program) (t : Nat) (n : String)
    (h : IsLetHoist p p' t n) (hs : hoistSafe t n p = true) (k : Nat)
    (hk : (behaviour false p k).1 = .finished) :
    behaviour false p' (2 * k) = behaviour false p k := by
  have := let_hoist_sound_partial p p' t n h hs k (not_bad_of_finished hk)
  simp only [behaviour, this.1, this.2]

theorem hoistCheck_behaviour_partial (p p' : Program) (t : Nat) (n : String)
    (h : hoistCheck p p' t n = true) (hs : hoistSafe t n p = true) (k : Nat)
    (hk : (behaviour false p k).1 = .finished) :
    behaviour false p' (2 * k) = behaviour false p k :=
  let_hoist_behaviour_partial p p' t n (hoistCheck_sound p p' t n h) hs k hk


/-- The property fun_extract_sound of DESIGN.md §7, for the closure-free restriction of `RefSem` (hence `_partial`).
Hypotheses: `IsFunExtract p p' t n` (the schema, decided by `funextCheck`) and `funSafe p p' t n`, the
side conditions decided by `funext_check` on the real trees (`d` = the new function, `e` = node `t`):
* `n ≠ "_"`, no parameter is `_`, and `n` is neither a function, an enum variant nor a built-in of `p`;
* `p` is assignment-free and never uses `n` as a variable;
* `e` is pure and call-free (`arithE`), contains no other node with its id, and equals the new
  function's body up to ids / flags;
* every parameter of `d` occurs in `e`; every variable of `e` is a parameter of `d` or a name that `p`
  never binds (a global: function, enum constant); no binder of `p` and no parameter of `d` is called
  `n` or like one of these globals.
Conclusion: if the original run with fuel `k` ends without a Garden error, the extracted program with
some fuel `m` (the proof gives `(d.params.length + 5) * k`) ends with the same result value and has
printed the same output. Of `IsFunExtract` only the lookup of the new function and the tree equation
are used; the other conjuncts (`hitsProg`, `freshProg`, `expectedParams`, …) are schema only. -/
theorem fun_extract_sound_partial (p p' : Program) (t : Nat) (n : String)
    (h : IsFunExtract p p' t n) (hs : funSafe p p' t n = true) (k : Nat)
    (hk : bad (run false p k).1 = false) :
    ∃ m, (run false p' m).1 = (run false p k).1 ∧ (run false p' m).2.out = (run false p k).2.out := by
  obtain ⟨d, b, hd, hb, h3, _, _, _, _⟩ := h
  simp only [funSafe, hd, hb, Bool.and_eq_true, bne_iff_ne, ne_eq, Option.isNone_iff_eq_none,
    List.all_eq_true] at hs
  obtain ⟨⟨⟨⟨⟨hn, psu⟩, nfree⟩, psf⟩, gfuns⟩, gtop⟩ := hs
  have psu' : (fxOf t n d b).ps.all (· != "_") = true := by
    simp only [List.all_eq_true, bne_iff_ne, ne_eq]; exact psu
  have psf' : (fxOf t n d b).ps.all (fxOf t n d b).f = true := by
    simp only [List.all_eq_true]; exact psf
  have hc : FCtx (fxOf t n d b) p (WP stripCfg p') := fctx_strip hn psu' psf' nfree gfuns hd hb rfl rfl h3
  have htop : WSeq stripCfg p'.toplevel = WSeq (fxOf t n d b).cfg p.toplevel := congrArg Program.toplevel h3
  refine ⟨thrX (fxOf t n d b) k, ?_⟩
  rcases extract_run hc htop gtop k with hr | ⟨e1, e2, _, _⟩
  · rw [hk] at hr; cases hr
  · have hq : isTO (run false (WP stripCfg p') (thrX (fxOf t n d b) k)).1 = false := by
      rw [← e1]; exact isTO_of_not_bad hk
    rw [← strip_run p' (thrX (fxOf t n d b) k) (Or.inr hq)]
    exact ⟨e1.symm, e2.symm⟩

theorem fun_extract_behaviour_partial (p p' : Program) (t : Nat) (n : String)
    (h : IsFunExtract p p' t n) (hs : funSafe p p' t n = true) (k : Nat)
    (hk : (behaviour false p k).1 = .finished) :
    ∃ m, behaviour false p' m = behaviour false p k := by
  obtain ⟨m, h1, h2⟩ := fun_extract_sound_partial p p' t n h hs k (not_bad_of_finished hk)
  exact ⟨m, by simp only [behaviour, h1, h2]⟩


/-- Non-trivial instance of the relation: `println(string_repr((1 + 2) * 3))`, extracting `1 + 2`
(node 7, inside parentheses 6) as `nv`: `let nv = 1 + 2` before the statement, `nv * 3` in it. -/
example :
    let p : Program := ⟨[], [], [.call 1 false (.var 2 true "println")
      [.call 3 true (.var 4 true "string_repr") [.binop 5 true .mul
        (.paren 6 true (.binop 7 true .add (.int 8 true 1) (.int 9 true 2))) (.int 10 true 3)]]]⟩
    let p' : Program := ⟨[], [], [.letE 20 false (.sym "nv") (.binop 21 true .add (.int 22 true 1) (.int 23 true 2)),
      .call 24 false (.var 25 true "println")
      [.call 26 true (.var 27 true "string_repr") [.binop 28 true .mul (.var 29 true "nv") (.int 30 true 3)]]]⟩
    hoistCheck p p' 6 "nv" = true ∧ hoistSafe 6 "nv" p = true := by
  intro p p'
  have h : WP stripCfg p' = WP stripCfg (hoistProg 6 "nv" p) := by rfl
  exact ⟨by rw [hoistCheck, progEq_of_eq h]; decide, by decide⟩

/-- Non-trivial instance for extract function: `let a = 3` / `println(string_repr(a + 2))`, extracting
`a + 2` (node 7) as `nf`: the new function `nf(a) { a + 2 }` and the call `nf(a)`; schema and side
conditions hold. -/
example :
    let p : Program := ⟨[], [], [.letE 1 false (.sym "a") (.int 2 true 3),
      .call 3 false (.var 4 true "println") [.call 5 true (.var 6 true "string_repr")
        [.binop 7 true .add (.var 8 true "a") (.int 9 true 2)]]]⟩
    let p' : Program := ⟨[⟨"nf", ["a"], [.binop 20 true .add (.var 21 true "a") (.int 22 true 2)]⟩], [],
      [.letE 23 false (.sym "a") (.int 24 true 3),
       .call 25 false (.var 26 true "println") [.call 27 true (.var 28 true "string_repr")
        [.call 29 true (.var 30 true "nf") [.var 31 true "a"]]]]⟩
    funextCheck p p' 7 "nf" = true ∧ funSafe p p' 7 "nf" = true := by
  -- not by evaluation as the other examples: the wrapper of `funCfg` calls `exprEq`, which the kernel cannot run
  simp [funextCheck, funSafe, fxOf, funCfg, FX.f, FX.selOK, GFSeq, GF, bokDest, callOf, varsE, arithE,
    progEq_refl, exprEq_refl, WP, WSeq, W, fin, stripCfg, WCfg.i, WCfg.u, hitsProg, hitsSeq, hits,
    hitsOf, freshProg, freshSeq, fresh, freshDest, funNames, nsLookup, findVariant, Machine.preludeEnums,
    builtinNames, List.findIdx?_cons, Expr.id, expectedParams, fvE, dedup, pureGlobal, bokProg, bokSeq, bok]

end C20
