import GardenVerif.Lemmas.MachineValues
/-!
# C02 — Evaluation never panics (value-stack discipline of the evaluator machine)

**Model.** `Machine.step` (Model/Machine.lean): one iteration of the loop of `eval` in src/eval.rs
for the core language; every `expect` / `unreachable!` / `assert!` on the modelled path is an
explicit `StepResult.panic site` (via `Disp.panic` of `Machine.dispatch`).  The model is compared
tick-by-tick with the real evaluator by the trace-correspondence harness.

**Invariant.** `WF s := WFd s ∧ StateV s`: the value-stack discipline of every frame of the call stack
(Lemmas/MachineDiscipline.lean) with one binding block per block-owning pending entry plus a base block
(`C06.dispatch_bal`), so `pop_block` never empties the bindings; and the deep value invariant
(Lemmas/MachineValues.lean), which makes the callee frame of a call well-formed and excludes the panic
"function value without definition".

**What is proved** (the only hypothesis is `okProg p`): for all 21 node kinds and all entry states one
step from a state with the invariant is not a panic and re-establishes it (`step_no_panic`,
`step_preserves_WF`), hence `run_no_panic`.
Runs that end in a runtime error stop (`StepResult.error`, state restored for `:resume`); they are
outside `Reach`.  Resuming after a runtime error is C07's subject, after an interrupt C08's; `WF` of
the restored state is not stated.

**What `okProg` excludes.**
(i) `break`/`continue` in operand position, e.g. `1 + break`, on which the interpreter panics (known
    finding C02/break-continue-in-operand-position): `okE false (.brk ..) = false`.
(ii) `break`/`continue` outside any loop (function bodies and lambdas are checked with flag `false`).
(iii) a parenthesised expression whose `used` flag differs from that of the expression inside
    (`for x in [1,2] { (5) }` with `5` used and `(5)` unused panics "`for` loop index should always be
    an `Int`"): `okE` requires `inner.used = paren.used`, which the parser guarantees.
Accepted: `break` out of a loop whose value is used, e.g. `(while True { break }, while True { break })`
or any toplevel loop (toplevel expressions are used): `eval_break` pushes Unit iff the LOOP's value
is used (`headLoopUsed`, `breakLoop_disc`), and the body of any loop is `okBlock true false`.
-/
namespace C02
open Machine MachineDiscipline

def WF (s : State) : Prop := MachineDiscipline.WFd s ∧ MachineDiscipline.StateV s

theorem init_WF (p : Program) (tl sl : Option Nat) (h : okProg p = true) : WF (init p [] tl sl) := by
  have hitems := okItems_iff.mp (Bool.and_eq_true_iff.mp h).2
  refine ⟨⟨initFrame p.toplevel, [], rfl, ⟨?_, ?_, ?_⟩, trivial⟩, h, List.forall_mem_singleton.mpr ⟨?_, ?_, nofun⟩⟩
  · have := Bal_operands p.toplevel [] [vUnit] (fun e he => (hitems e he).1) fun vs _ => List.append_ne_nil_of_right_ne_nil _ (List.cons_ne_nil _ _)
    rwa [List.append_nil] at this
  · have := KOK_operands p.toplevel [] trivial fun e he => (hitems e he).2
    rwa [List.append_nil] at this
  · exact Nat.le_of_eq (by rw [initFrame, C06.owners_fresh]; rfl)
  · exact List.forall_mem_singleton.mpr (vUnit_V p)
  · exact List.forall_mem_singleton.mpr nofun

theorem step_no_panic (s : State) (hw : WF s) (site : String) : step s ≠ .panic site := by
  intro h
  have := step_ok s hw.1 hw.2
  rwa [h] at this

theorem step_preserves_WF (s s' : State) (hw : WF s) (h : step s = .cont s') : WF s' := by
  have := step_ok s hw.1 hw.2
  rwa [h] at this

/-- States reachable from the start of `garden run p` by evaluator steps (an error ends the run). -/
inductive Reach (p : Program) (tl sl : Option Nat) : State → Prop
  | init : Reach p tl sl (init p [] tl sl)
  | step {s s' : State} : Reach p tl sl s → step s = .cont s' → Reach p tl sl s'

theorem reach_WF (p : Program) (tl sl : Option Nat) (hp : okProg p = true) (s : State)
    (h : Reach p tl sl s) : WF s := by
  induction h with
  | init => exact init_WF p tl sl hp
  | step _ hs ih => exact step_preserves_WF _ _ ih hs

/-- **Evaluation of a well-formed program never panics**: from no reachable state (any number of
steps, any tick/stack limits) does the next step hit an `expect`/`unreachable!`/`assert!`. -/
theorem run_no_panic (p : Program) (tl sl : Option Nat) (hp : okProg p = true) (s : State)
    (h : Reach p tl sl s) (site : String) : step s ≠ .panic site :=
  step_no_panic s (reach_WF p tl sl hp s h) site

/-- `fun f(x) { while True { if x { break } continue } x }  f(True)` -/
def demo : Program :=
  { funs := [⟨"f", ["x"],
      [.whileE 3 false (.var 4 true "True")
          [.ifE 8 false (.var 9 true "x") [.brk 5 false] none, .cont 10 false],
       .var 6 true "x"]⟩],
    enums := [],
    toplevel := [.call 1 true (.var 2 true "f") [.var 7 true "True"]] }

example : okProg demo = true := by
  rfl

/-- (i) `while True { 1 + break }`: `break` in operand position is rejected. -/
def badOperand : Program :=
  { funs := [], enums := [],
    toplevel := [.whileE 9 true (.var 8 true "True")
      [.binop 1 false .add (.int 3 true 1) (.brk 2 true)]] }

example : okProg badOperand = false := by
  rfl

/-- `(while True { break }, while True { break })`: `break` out of a USED loop is accepted
(`eval_break` pushes the loop's Unit; a toplevel loop is a used expression too). -/
def usedLoop : Program :=
  { funs := [], enums := [],
    toplevel := [.tuple 1 true [.whileE 2 true (.var 3 true "True") [.brk 4 false],
                                .whileE 5 true (.var 6 true "True") [.brk 7 false]]] }

example : okProg usedLoop = true := by
  rfl

/-- (iii) `for x in [1, 2] { (5) }` with the inner `5` used and the parenthesised statement unused
is rejected. -/
def badParen : Program :=
  { funs := [], enums := [],
    toplevel := [.forE 1 true (.sym "x") (.list 2 true [.int 3 true 1, .int 4 true 2])
      [.paren 5 false (.int 6 true 5)]] }

example : okProg badParen = false := by
  rfl

end C02
