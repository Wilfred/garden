import GardenVerif.Model.Display
import GardenVerif.Lemmas.StringLit
/-! For C12: which values exist at run time (`wf`), the contexts a printed value stands in (`okRest`),
the fuel the reader needs (`need`), and the lemmas showing that the reader reads back what `display`
prints. -/

namespace Display
open StringLit

theorem isDigit_ne_underscore {c : Char} (h : isDigit c = true) : c ≠ '_' := by
  intro h'; subst h'; revert h; decide
theorem isWs_false_of_ge {c : Char} (h : 33 ≤ c.toNat) : isWs c = false := by
  have ne : ∀ d : Char, d.toNat < 33 → c ≠ d := fun d hd e => by subst e; omega
  simp [isWs, ne ' ' (by decide), ne '\n' (by decide), ne '\t' (by decide), ne '\r' (by decide)]
  omega

theorem isDigit_not_ws {c : Char} (h : isDigit c = true) : isWs c = false := by
  simp only [isDigit, Bool.and_eq_true, decide_eq_true_eq] at h
  exact isWs_false_of_ge (by omega)
theorem isDigit_isDigitU {c : Char} (h : isDigit c = true) : isDigitU c = true := by
  simp [isDigitU, h]

theorem isSymStart_not_ws {c : Char} (h : isSymStart c = true) : isWs c = false := by
  simp only [isSymStart, Bool.or_eq_true, Bool.and_eq_true, decide_eq_true_eq] at h
  refine isWs_false_of_ge ?_
  rcases h with (h | h) | h
  · omega
  · omega
  · subst h; decide
theorem isSymStart_not_digit {c : Char} (h : isSymStart c = true) : isDigit c = false := by
  cases hd : isDigit c with
  | false => rfl
  | true =>
    exfalso
    simp only [isDigit, Bool.and_eq_true, decide_eq_true_eq] at hd
    simp only [isSymStart, Bool.or_eq_true, Bool.and_eq_true, decide_eq_true_eq] at h
    rcases h with (h | h) | h
    · omega
    · omega
    · subst h; revert hd; decide

def stops (p : Char → Bool) : List Char → Bool
  | [] => true
  | c :: _ => !p c

theorem spanChars_append (p : Char → Bool) (a rest : List Char)
    (ha : ∀ c ∈ a, p c = true) (hr : stops p rest = true) :
    spanChars p (a ++ rest) = (a, rest) := by
  induction a with
  | nil =>
    cases rest with
    | nil => simp [spanChars]
    | cons c cs => simp [stops] at hr; simp [spanChars, hr]
  | cons c cs ih =>
    have hc : p c = true := ha c (by simp)
    have := ih (fun d hd => ha d (by simp [hd]))
    simp [spanChars, hc, this]

/-! The model's own decimal printing and digit classes are those of core (`Nat.toDigits`, `Char.isDigit`,
`Nat.ofDigitChars`), so the facts about a printed number are core's. -/

theorem digitChar_eq : ∀ d, d < 10 → digitChar d = Nat.digitChar d := by decide

theorem natDigits_eq (n : Nat) : natDigits n = Nat.toDigits 10 n := by
  induction n using Nat.strongRecOn with
  | _ n ih =>
    rw [natDigits, Nat.toDigits_eq_if (by decide)]
    split
    · rw [digitChar_eq n ‹_›]
    · rw [ih (n / 10) (by omega), digitChar_eq (n % 10) (by omega)]

theorem isDigit_eq (c : Char) : isDigit c = c.isDigit := by
  simp only [isDigit, Char.isDigit, ge_iff_le, UInt32.le_iff_toNat_le]; rfl

theorem digitsVal_eq (ds : List Char) : digitsVal ds = Nat.ofDigitChars 10 ds 0 := by
  unfold digitsVal Nat.ofDigitChars
  congr 1; funext a c
  show a * 10 + (c.toNat - 48) = 10 * a + (c.toNat - 48)
  rw [Nat.mul_comm]

theorem natDigits_digits (n : Nat) : ∀ c ∈ natDigits n, isDigit c = true := fun c hc => by
  rw [isDigit_eq]; exact Nat.isDigit_of_mem_toDigits (by decide) (by decide) (natDigits_eq n ▸ hc)

theorem natDigits_ne_nil (n : Nat) : natDigits n ≠ [] := natDigits_eq n ▸ Nat.toDigits_ne_nil

theorem natDigits_value (n : Nat) : digitsVal (natDigits n) = n := by
  rw [digitsVal_eq, natDigits_eq]; exact Nat.ofDigitChars_ten_toDigits

/-- The contexts in which `display` puts a value. -/
def okRest : List Char → Bool
  | [] => true
  | c :: _ => c = ',' || c = ']' || c = ')' || c = ' '

theorem okRest_cases {rest : List Char} (h : okRest rest = true) :
    rest = [] ∨ ∃ c cs, rest = c :: cs ∧ (c = ',' ∨ c = ']' ∨ c = ')' ∨ c = ' ') := by
  cases rest with
  | nil => exact Or.inl rfl
  | cons c cs =>
    simp only [okRest, Bool.or_eq_true, decide_eq_true_eq] at h
    exact Or.inr ⟨c, cs, rfl, by rcases h with ((h | h) | h) | h <;> simp [h]⟩

theorem okRest_stops_digitU {rest : List Char} (h : okRest rest = true) : stops isDigitU rest = true := by
  rcases okRest_cases h with rfl | ⟨c, cs, rfl, rfl | rfl | rfl | rfl⟩ <;> rfl
theorem okRest_stops_sym {rest : List Char} (h : okRest rest = true) : stops isSymChar rest = true := by
  rcases okRest_cases h with rfl | ⟨c, cs, rfl, rfl | rfl | rfl | rfl⟩ <;> rfl

theorem filter_digits (a : List Char) (ha : ∀ c ∈ a, isDigit c = true) :
    a.filter (· != '_') = a := by
  rw [List.filter_eq_self]
  intro c hc
  have := isDigit_ne_underscore (ha c hc)
  simp [this]

theorem scanInt_neg (d : Char) (cs : List Char) :
    scanInt ('-' :: d :: cs) =
      if isDigit d then some ('-' :: d :: (spanChars isDigitU cs).1, (spanChars isDigitU cs).2) else none := rfl

theorem scanInt_cons {d : Char} (hm : d ≠ '-') (cs : List Char) :
    scanInt (d :: cs) =
      if isDigit d then some (d :: (spanChars isDigitU cs).1, (spanChars isDigitU cs).2) else none := by
  unfold scanInt
  split
  · rename_i heq; cases heq; exact absurd rfl hm
  · rename_i heq; cases heq; rfl
  · rename_i heq; cases heq

theorem scanInt_digits (neg : Bool) (a rest : List Char) (ha : ∀ c ∈ a, isDigit c = true) (hne : a ≠ [])
    (hr : stops isDigitU rest = true) :
    scanInt ((if neg then ['-'] else []) ++ a ++ rest) = some ((if neg then ['-'] else []) ++ a, rest) := by
  cases a with
  | nil => exact absurd rfl hne
  | cons d ds =>
    have hd : isDigit d = true := ha d (List.mem_cons_self ..)
    have hs := spanChars_append isDigitU ds rest (fun c hc => isDigit_isDigitU (ha c (List.mem_cons_of_mem _ hc))) hr
    cases neg
    · simp [scanInt_cons (show d ≠ '-' by rintro rfl; revert hd; decide), hd, hs]
    · simp [scanInt_neg, hd, hs]

theorem scanInt_showInt (i : Int) (rest : List Char) (hr : stops isDigitU rest = true) :
    scanInt (showInt i ++ rest) = some (showInt i, rest) := by
  unfold showInt
  split
  · exact scanInt_digits true _ _ (natDigits_digits _) (natDigits_ne_nil _) hr
  · exact scanInt_digits false _ _ (natDigits_digits _) (natDigits_ne_nil _) hr

theorem parseI64_showInt (i : Int) (h1 : -9223372036854775808 ≤ i) (h2 : i < 9223372036854775808) :
    parseI64 (showInt i) = some i := by
  unfold showInt
  split
  · rename_i hneg
    have hf : ('-' :: natDigits i.natAbs).filter (· != '_') = '-' :: natDigits i.natAbs := by
      rw [List.filter_cons]; simp [filter_digits _ (natDigits_digits _)]
    have : -((i.natAbs : Nat) : Int) = i := by omega
    simp [parseI64, hf, natDigits_value, this, h1, h2]
  · rename_i hnn
    have hf := filter_digits _ (natDigits_digits i.toNat)
    have hm : (natDigits i.toNat).head? ≠ some '-' := by
      intro hh
      have := natDigits_digits i.toNat '-' (List.mem_of_mem_head? hh)
      revert this; decide
    have : ((i.toNat : Nat) : Int) = i := by omega
    simp [parseI64, hf, hm, natDigits_value, this, h1, h2]

theorem skipWs_cons {c : Char} {cs : List Char} (h : isWs c = false) : skipWs (c :: cs) = c :: cs := by
  simp [skipWs, h]
theorem skipWs_space (cs : List Char) : skipWs (' ' :: cs) = skipWs cs := by
  simp [skipWs, isWs]

def isSymbol : List Char → Bool
  | [] => false
  | c :: cs => isSymStart c && cs.all isSymChar

theorem scanSymbol_name (n rest : List Char) (hn : isSymbol n = true)
    (hr : stops isSymChar rest = true) : scanSymbol (n ++ rest) = some (n, rest) := by
  cases n with
  | nil => simp [isSymbol] at hn
  | cons c cs =>
    simp only [isSymbol, Bool.and_eq_true, List.all_eq_true] at hn
    have hs := spanChars_append isSymChar cs rest hn.2 hr
    simp [scanSymbol, hn.1, hs]

theorem scanInt_symStart (c : Char) (cs : List Char) (h : isSymStart c = true) :
    scanInt (c :: cs) = none := by
  have hm : c ≠ '-' := by intro h'; subst h'; revert h; decide
  rw [scanInt_cons hm, isSymStart_not_digit h]
  rfl

theorem scanFloat_symStart (c : Char) (cs : List Char) (h : isSymStart c = true) :
    scanFloat (c :: cs) = none := by
  simp [scanFloat, scanInt_symStart c cs h]

theorem scanFloat_showInt (i : Int) (rest : List Char) (hr : okRest rest = true) :
    scanFloat (showInt i ++ rest) = none := by
  simp only [scanFloat, scanInt_showInt i rest (okRest_stops_digitU hr)]
  rcases okRest_cases hr with rfl | ⟨c, cs, rfl, rfl | rfl | rfl | rfl⟩ <;> rfl

theorem scanFloat_shw {F} (fr : FloatRepr F) (f : F) (rest : List Char)
    (hr : stops isDigitU rest = true) : scanFloat (fr.shw f ++ rest) = some (fr.shw f, rest) := by
  obtain ⟨hin, hid⟩ := fr.ipart_digits f
  obtain ⟨hfn, hfd⟩ := fr.fpart_digits f
  rw [fr.shape f]
  cases hfp : fr.fpart f with
  | nil => exact absurd hfp hfn
  | cons d fs =>
    have hd : isDigit d = true := hfd d (by simp [hfp])
    have hs := spanChars_append isDigitU fs rest
      (fun c hc => isDigit_isDigitU (hfd c (by simp [hfp, hc]))) hr
    have h1 := scanInt_digits (fr.neg f) (fr.ipart f) ('.' :: d :: (fs ++ rest)) hid hin rfl
    simp only [List.append_assoc, List.cons_append] at h1 ⊢
    simp [scanFloat, h1, hd, hs]

theorem shw_filter {F} (fr : FloatRepr F) (f : F) : (fr.shw f).filter (· != '_') = fr.shw f := by
  obtain ⟨hin, hid⟩ := fr.ipart_digits f
  obtain ⟨hfn, hfd⟩ := fr.fpart_digits f
  rw [fr.shape f, List.filter_eq_self]
  intro c hc
  simp only [List.mem_append, List.mem_cons] at hc
  have : c ≠ '_' := by
    rcases hc with (hc | hc) | hc | hc
    · cases hn : fr.neg f <;> simp [hn] at hc; subst hc; decide
    · exact isDigit_ne_underscore (hid c hc)
    · subst hc; decide
    · exact isDigit_ne_underscore (hfd c hc)
  simp [this]

mutual
/-- Fuel that `readValue` needs on `display v`. A payload costs 2: it is read as a one-element
argument list by `readItems`, which calls `readValue`. -/
def need {F} : DValue F → Nat
  | .int _ => 1
  | .float _ => 1
  | .str _ => 1
  | .enum0 _ => 1
  | .list items => 1 + needItems items
  | .tuple items => 1 + needItems items
  | .dict es => 1 + needPairs es
  | .enum1 _ p => 2 + need p
  | .struct _ fs => 1 + needPairs fs
def needItems {F} : List (DValue F) → Nat
  | [] => 1
  | v :: vs => 1 + max (need v) (needItems vs)
def needPairs {F} : List (List Char × DValue F) → Nat
  | [] => 1
  | (_, v) :: rest => 1 + max (need v) (needPairs rest)
end

/-- Keys strictly ascending (what `sort_by_key` on the keys of a map gives). -/
def ascending : List (List Char) → Prop
  | [] => True
  | k :: ks => (∀ k' ∈ ks, strLt k k' = true) ∧ ascending ks

mutual
/-- Values that exist at run time for a program with signature `sig`: integers are `i64`,
dict entries are in ascending key order without duplicates (the order `display` uses), enum
values name a variant of the right kind, struct values have exactly the declared fields.
`isSymbol` and `≠ dictKw` are conditions on the names of the signature, not on values: the reader takes
a name as one symbol token and `Dict` as the start of a dict literal. No condition on a float: `F` holds
finite floats only (`FloatRepr` is assumed of every element of `F`). -/
def wf {F} (sig : Sig) : DValue F → Prop
  | .int i => -9223372036854775808 ≤ i ∧ i < 9223372036854775808
  | .float _ => True
  | .str _ => True
  | .list items => wfItems sig items
  | .tuple items => wfItems sig items
  | .dict es => wfPairs sig es ∧ ascending (es.map (·.1))
  | .enum0 n => isSymbol n = true ∧ n ≠ dictKw ∧ sig.variant n = some false
  | .enum1 n p => isSymbol n = true ∧ n ≠ dictKw ∧ sig.variant n = some true ∧ wf sig p
  | .struct n fs => isSymbol n = true ∧ n ≠ dictKw ∧
      (∃ d, sig.structFields n = some d ∧ fieldsOk d (fs.map (·.1)) = true) ∧
      (∀ k ∈ fs.map (·.1), isSymbol k = true) ∧ wfPairs sig fs
def wfItems {F} (sig : Sig) : List (DValue F) → Prop
  | [] => True
  | v :: vs => wf sig v ∧ wfItems sig vs
def wfPairs {F} (sig : Sig) : List (List Char × DValue F) → Prop
  | [] => True
  | (_, v) :: rest => wf sig v ∧ wfPairs sig rest
end

section
variable {F : Type} (shw : F → List Char)

theorem displayItems_cons₂ (v w : DValue F) (ws : List (DValue F)) :
    displayItems shw (v :: w :: ws) = display shw v ++ ',' :: ' ' :: displayItems shw (w :: ws) := by
  rw [displayItems]

theorem displayEntries_single (k : List Char) (v : DValue F) :
    displayEntries shw [(k, v)] = escapeStringLiteral k ++ ' ' :: '=' :: '>' :: ' ' :: display shw v := by
  rw [displayEntries]

theorem displayEntries_cons₂ (k : List Char) (v : DValue F) (e : List Char × DValue F)
    (es : List (List Char × DValue F)) :
    displayEntries shw ((k, v) :: e :: es) =
      escapeStringLiteral k ++ ' ' :: '=' :: '>' :: ' ' ::
        (display shw v ++ ',' :: ' ' :: displayEntries shw (e :: es)) := by
  rw [displayEntries]

theorem displayFields_single (k : List Char) (v : DValue F) :
    displayFields shw [(k, v)] = k ++ ':' :: ' ' :: display shw v := by
  rw [displayFields]

theorem displayFields_cons₂ (k : List Char) (v : DValue F) (e : List Char × DValue F)
    (fs : List (List Char × DValue F)) :
    displayFields shw ((k, v) :: e :: fs) =
      k ++ ':' :: ' ' :: (display shw v ++ ',' :: ' ' :: displayFields shw (e :: fs)) := by
  rw [displayFields]

end

def NumOrSym (c : Char) : Prop := c = '-' ∨ isDigit c = true ∨ isSymStart c = true

theorem numOrSym_facts {c : Char} (h : NumOrSym c) :
    isWs c = false ∧ c ≠ '(' ∧ c ≠ '[' ∧ c ≠ '"' ∧ c ≠ ']' ∧ c ≠ ')' ∧ c ≠ '}' ∧ c ≠ ',' := by
  rcases h with h | h | h
  · subst h; decide
  · refine ⟨isDigit_not_ws h, ?_, ?_, ?_, ?_, ?_, ?_, ?_⟩ <;> (intro h'; subst h'; revert h; decide)
  · refine ⟨isSymStart_not_ws h, ?_, ?_, ?_, ?_, ?_, ?_, ?_⟩ <;> (intro h'; subst h'; revert h; decide)

theorem showInt_start (i : Int) : ∃ c tl, showInt i = c :: tl ∧ NumOrSym c := by
  unfold showInt
  split
  · exact ⟨'-', _, rfl, Or.inl rfl⟩
  · cases h : natDigits i.toNat with
    | nil => exact absurd h (natDigits_ne_nil _)
    | cons c tl =>
      exact ⟨c, tl, rfl, Or.inr (Or.inl (natDigits_digits i.toNat c (by simp [h])))⟩

theorem shw_start {F} (fr : FloatRepr F) (f : F) : ∃ c tl, fr.shw f = c :: tl ∧ NumOrSym c := by
  obtain ⟨hin, hid⟩ := fr.ipart_digits f
  rw [fr.shape f]
  cases hn : fr.neg f with
  | true => exact ⟨'-', fr.ipart f ++ '.' :: fr.fpart f, by simp, Or.inl rfl⟩
  | false =>
    cases hi : fr.ipart f with
    | nil => exact absurd hi hin
    | cons c tl => exact ⟨c, tl ++ '.' :: fr.fpart f, by simp, Or.inr (Or.inl (hid c (by simp [hi])))⟩

theorem symbol_start {n : List Char} (h : isSymbol n = true) : ∃ c tl, n = c :: tl ∧ NumOrSym c := by
  cases n with
  | nil => simp [isSymbol] at h
  | cons c tl =>
    simp only [isSymbol, Bool.and_eq_true] at h
    exact ⟨c, tl, rfl, Or.inr (Or.inr h.1)⟩

def StartsOk (t : List Char) : Prop :=
  ∃ c tl, t = c :: tl ∧ isWs c = false ∧ c ≠ ']' ∧ c ≠ ')' ∧ c ≠ '}' ∧ c ≠ ','

theorem startsOk_of_numOrSym {t : List Char} (h : ∃ c tl, t = c :: tl ∧ NumOrSym c) : StartsOk t := by
  obtain ⟨c, tl, hc, hn⟩ := h
  obtain ⟨h0, -, -, -, h4, h5, h6, h7⟩ := numOrSym_facts hn
  exact ⟨c, tl, hc, h0, h4, h5, h6, h7⟩

theorem display_startsOk {F} (fr : FloatRepr F) (sig : Sig) (v : DValue F) (hw : wf sig v) :
    StartsOk (display fr.shw v) := by
  cases v with
  | int i => exact startsOk_of_numOrSym (showInt_start i)
  | float f => exact startsOk_of_numOrSym (shw_start fr f)
  | str s => exact ⟨'"', _, rfl, by decide⟩
  | list items => exact ⟨'[', _, rfl, by decide⟩
  | tuple items => exact ⟨'(', _, rfl, by decide⟩
  | dict es => exact ⟨'D', _, rfl, by decide⟩
  | enum0 n => exact startsOk_of_numOrSym (symbol_start hw.1)
  | enum1 n p =>
    obtain ⟨c, tl, rfl, hn⟩ := symbol_start hw.1
    exact startsOk_of_numOrSym ⟨c, _, rfl, hn⟩
  | struct n fs =>
    obtain ⟨c, tl, rfl, hn⟩ := symbol_start hw.1
    exact startsOk_of_numOrSym ⟨c, _, rfl, hn⟩

theorem StartsOk.skip {t : List Char} (h : StartsOk t) (r : List Char) : skipWs (t ++ r) = t ++ r := by
  obtain ⟨c, tl, hc, hws, -⟩ := h
  subst hc; exact skipWs_cons hws

theorem StartsOk.head_ne {t : List Char} (h : StartsOk t) (r : List Char) {term : Char}
    (ht : term = ']' ∨ term = ')') : ¬ (t ++ r).head? = some term := by
  obtain ⟨c, tl, rfl, -, h1, h2, -⟩ := h
  rcases ht with rfl | rfl
  · simpa using h1
  · simpa using h2

/-! Each lemma runs `readValue` or one of its loops over one leading token and leaves the recursive
calls as hypotheses, so that the induction over values below never unfolds the reader. -/

theorem readItems_space {F} (ops : FloatOps F) (sig : Sig) (fuel : Nat) (term : Char) (cs : List Char) :
    readItems ops sig fuel term (' ' :: cs) = readItems ops sig fuel term cs := by
  cases fuel <;> rfl

theorem readValue_space {F} (ops : FloatOps F) (sig : Sig) (fuel : Nat) (cs : List Char) :
    readValue ops sig fuel (' ' :: cs) = readValue ops sig fuel cs := by
  cases fuel <;> rfl

theorem readEntries_space {F} (ops : FloatOps F) (sig : Sig) (fuel : Nat) (cs : List Char) :
    readEntries ops sig fuel (' ' :: cs) = readEntries ops sig fuel cs := by
  cases fuel <;> rfl

theorem readFields_space {F} (ops : FloatOps F) (sig : Sig) (fuel : Nat) (cs : List Char) :
    readFields ops sig fuel (' ' :: cs) = readFields ops sig fuel cs := by
  cases fuel <;> rfl

section
variable {F : Type} (ops : FloatOps F) (sig : Sig) (f : Nat)

theorem readValue_unit (rest : List Char) :
    readValue ops sig (f + 1) ('(' :: ')' :: rest) = some (.tuple [], rest) := by
  simp only [readValue, skipWs_cons (show isWs '(' = false by decide),
    skipWs_cons (show isWs ')' = false by decide), List.head?_cons, List.tail_cons, ↓reduceIte]

theorem readValue_tuple {X R rest : List Char} {v : DValue F} {vs : List (DValue F)}
    (hskip : skipWs X = X) (hhead : ¬ X.head? = some ')')
    (hv : readValue ops sig f X = some (v, ',' :: R))
    (hvs : readItems ops sig f ')' R = some (vs, rest)) :
    readValue ops sig (f + 1) ('(' :: X) = some (.tuple (v :: vs), rest) := by
  simp only [readValue, skipWs_cons (show isWs '(' = false by decide),
    skipWs_cons (show isWs ',' = false by decide), List.head?_cons, List.tail_cons, ↓reduceIte,
    hskip, hhead, hv, hvs]

theorem readValue_list {R rest : List Char} {vs : List (DValue F)}
    (hvs : readItems ops sig f ']' R = some (vs, rest)) :
    readValue ops sig (f + 1) ('[' :: R) = some (.list vs, rest) := by
  simp only [readValue, skipWs_cons (show isWs '[' = false by decide), List.head?_cons,
    Option.some.injEq, (by decide : ¬ '[' = '('), ↓reduceIte, List.tail_cons, hvs]

theorem readValue_str (s rest : List Char) :
    readValue ops sig (f + 1) (escapeStringLiteral s ++ rest) = some (.str s, rest) := by
  have hl := lexString_escape s rest
  simp only [escapeStringLiteral, List.cons_append] at hl
  simp only [escapeStringLiteral, List.cons_append, readValue,
    skipWs_cons (show isWs '"' = false by decide), List.head?_cons, Option.some.injEq,
    (by decide : ¬ '"' = '('), (by decide : ¬ '"' = '['), ↓reduceIte, hl]
  have hu := unescapeString_escape s
  simp only [escapeStringLiteral] at hu
  simp [hu]

theorem readValue_int (i : Int) (rest : List Char)
    (hw : -9223372036854775808 ≤ i ∧ i < 9223372036854775808) (hr : okRest rest = true) :
    readValue ops sig (f + 1) (showInt i ++ rest) = some (.int i, rest) := by
  have hF := scanFloat_showInt i rest hr
  have hI := scanInt_showInt i rest (okRest_stops_digitU hr)
  obtain ⟨c, tl, hc, hcls⟩ := showInt_start i
  obtain ⟨hws, h1, h2, h3, -⟩ := numOrSym_facts hcls
  rw [hc] at hF hI ⊢
  simp only [List.cons_append] at hF hI ⊢
  simp only [readValue, skipWs_cons hws, List.head?_cons, Option.some.injEq, h1, h2, h3, ↓reduceIte,
    hF, hI, ← hc, parseI64_showInt i hw.1 hw.2]

theorem readValue_float (fr : FloatRepr F) (x : F) (rest : List Char) (hr : okRest rest = true) :
    readValue fr.toFloatOps sig (f + 1) (fr.shw x ++ rest) = some (.float x, rest) := by
  have hF := scanFloat_shw fr x rest (okRest_stops_digitU hr)
  obtain ⟨c, tl, hc, hcls⟩ := shw_start fr x
  obtain ⟨hws, h1, h2, h3, -⟩ := numOrSym_facts hcls
  rw [hc] at hF ⊢
  simp only [List.cons_append] at hF ⊢
  simp only [readValue, skipWs_cons hws, List.head?_cons, Option.some.injEq, h1, h2, h3, ↓reduceIte,
    hF, ← hc, shw_filter, fr.read_shw]

theorem readValue_symbol {n r : List Char} (hn : isSymbol n = true)
    (hr : stops isSymChar r = true) :
    readValue ops sig (f + 1) (n ++ r) =
      if n = dictKw then
        if (skipWs r).head? = some '[' then
          match readEntries ops sig f (skipWs r).tail with
          | none => none
          | some (es, r2) => some (.dict es, r2)
        else none
      else if r.head? = some '{' then
        match sig.structFields n, readFields ops sig f r.tail with
        | some declared, some (fs, r1) =>
          if fieldsOk declared (fs.map (·.1)) then some (.struct n fs, r1) else none
        | _, _ => none
      else if r.head? = some '(' then
        match sig.variant n, readItems ops sig f ')' r.tail with
        | some true, some ([v], r1) => some (.enum1 n v, r1)
        | _, _ => none
      else
        match sig.variant n with
        | some false => some (.enum0 n, r)
        | _ => none := by
  have hS := scanSymbol_name n r hn hr
  obtain ⟨c, tl, rfl, hcls⟩ := symbol_start hn
  have hc : isSymStart c = true := by
    simp only [isSymbol, Bool.and_eq_true] at hn; exact hn.1
  obtain ⟨hws, h1, h2, h3, -⟩ := numOrSym_facts hcls
  simp only [List.cons_append] at hS ⊢
  simp only [readValue, skipWs_cons hws, List.head?_cons, Option.some.injEq, h1, h2, h3, ↓reduceIte,
    scanFloat_symStart c _ hc, scanInt_symStart c _ hc, hS]
  rfl

theorem readValue_enum0 {n rest : List Char} (hn : isSymbol n = true) (hd : n ≠ dictKw)
    (hv : sig.variant n = some false) (hr : okRest rest = true) :
    readValue ops sig (f + 1) (n ++ rest) = some (.enum0 n, rest) := by
  have ⟨hb, hp⟩ : ¬ rest.head? = some '{' ∧ ¬ rest.head? = some '(' := by
    rcases okRest_cases hr with rfl | ⟨c, cs, rfl, rfl | rfl | rfl | rfl⟩ <;> simp
  rw [readValue_symbol ops sig f hn (okRest_stops_sym hr), if_neg hd, if_neg hb, if_neg hp, hv]

theorem readValue_enum1 {n R rest : List Char} {v : DValue F} (hn : isSymbol n = true)
    (hd : n ≠ dictKw) (hv : sig.variant n = some true)
    (hp : readItems ops sig f ')' R = some ([v], rest)) :
    readValue ops sig (f + 1) (n ++ '(' :: R) = some (.enum1 n v, rest) := by
  rw [readValue_symbol ops sig f hn rfl, if_neg hd]
  simp only [List.head?_cons, List.tail_cons, Option.some.injEq, (by decide : ¬ '(' = '{'),
    ↓reduceIte, hv, hp]

theorem readValue_struct {n R rest : List Char} {d : List (List Char)}
    {fs : List (List Char × DValue F)} (hn : isSymbol n = true) (hd : n ≠ dictKw)
    (hdecl : sig.structFields n = some d) (hfs : readFields ops sig f R = some (fs, rest))
    (hok : fieldsOk d (fs.map (·.1)) = true) :
    readValue ops sig (f + 1) (n ++ '{' :: R) = some (.struct n fs, rest) := by
  rw [readValue_symbol ops sig f hn rfl, if_neg hd]
  simp only [List.head?_cons, List.tail_cons, hdecl, hfs, hok, ↓reduceIte]

theorem readValue_dict {R rest : List Char} {es : List (List Char × DValue F)}
    (hes : readEntries ops sig f R = some (es, rest)) :
    readValue ops sig (f + 1) (dictKw ++ '[' :: R) = some (.dict es, rest) := by
  rw [readValue_symbol ops sig f (by decide) rfl, if_pos rfl,
    skipWs_cons (show isWs '[' = false by decide)]
  simp only [List.head?_cons, List.tail_cons, ↓reduceIte, hes]

theorem readItems_nil {term : Char} (hws : isWs term = false) (rest : List Char) :
    readItems ops sig (f + 1) term (term :: rest) = some ([], rest) := by
  simp only [readItems, skipWs_cons hws, List.head?_cons, ↓reduceIte, List.tail_cons]

theorem readItems_last {term : Char} {X rest : List Char} {v : DValue F} (hskip : skipWs X = X)
    (hhead : ¬ X.head? = some term) (ht : term = ']' ∨ term = ')')
    (hv : readValue ops sig f X = some (v, term :: rest)) :
    readItems ops sig (f + 1) term X = some ([v], rest) := by
  have hws : isWs term = false := by rcases ht with rfl | rfl <;> decide
  have hcomma : term ≠ ',' := by rcases ht with rfl | rfl <;> decide
  simp only [readItems, hskip, hhead, ↓reduceIte, hv, skipWs_cons hws, List.head?_cons,
    Option.some.injEq, hcomma, List.tail_cons]

theorem readItems_cons {term : Char} {X R rest : List Char} {v : DValue F} {vs : List (DValue F)}
    (hskip : skipWs X = X) (hhead : ¬ X.head? = some term)
    (hv : readValue ops sig f X = some (v, ',' :: R))
    (hvs : readItems ops sig f term R = some (vs, rest)) :
    readItems ops sig (f + 1) term X = some (v :: vs, rest) := by
  unfold readItems
  simp only [hskip, hhead, ↓reduceIte, hv, skipWs_cons (show isWs ',' = false by decide),
    List.head?_cons, List.tail_cons, hvs]

theorem readEntries_nil (rest : List Char) :
    readEntries ops sig (f + 1) (']' :: rest) = some ([], rest) := by
  simp only [readEntries, skipWs_cons (show isWs ']' = false by decide), List.head?_cons,
    ↓reduceIte, List.tail_cons]

-- A dict key is itself read by `readValue`, so an entry needs one unit of fuel more than an item or
-- a field: `f + 2` here against `f + 1` in `readItems_*` and `readFields_*`.
theorem readEntries_last {k Y rest : List Char} {v : DValue F}
    (hv : readValue ops sig (f + 1) Y = some (v, ']' :: rest)) :
    readEntries ops sig (f + 2) (escapeStringLiteral k ++ ' ' :: '=' :: '>' :: ' ' :: Y) =
      some ([(k, v)], rest) := by
  have hkey := readValue_str ops sig f k (' ' :: '=' :: '>' :: ' ' :: Y)
  simp only [escapeStringLiteral, List.cons_append] at hkey ⊢
  simp only [readEntries, skipWs_cons (show isWs '"' = false by decide), List.head?_cons,
    Option.some.injEq, (by decide : ¬ '"' = ']'), ↓reduceIte, hkey, skipWs_space,
    skipWs_cons (show isWs '=' = false by decide), List.tail_cons, and_self, readValue_space, hv,
    skipWs_cons (show isWs ']' = false by decide), (by decide : ¬ ']' = ',')]

theorem readEntries_cons {k Y R rest : List Char} {v : DValue F}
    {es : List (List Char × DValue F)} (hv : readValue ops sig (f + 1) Y = some (v, ',' :: R))
    (hes : readEntries ops sig (f + 1) R = some (es, rest)) :
    readEntries ops sig (f + 2) (escapeStringLiteral k ++ ' ' :: '=' :: '>' :: ' ' :: Y) =
      some (if es.any (·.1 = k) then es else dictInsert k v es, rest) := by
  have hkey := readValue_str ops sig f k (' ' :: '=' :: '>' :: ' ' :: Y)
  simp only [escapeStringLiteral, List.cons_append] at hkey ⊢
  unfold readEntries
  simp only [skipWs_cons (show isWs '"' = false by decide), List.head?_cons,
    Option.some.injEq, (by decide : ¬ '"' = ']'), ↓reduceIte, hkey, skipWs_space,
    skipWs_cons (show isWs '=' = false by decide), List.tail_cons, and_self, readValue_space, hv,
    skipWs_cons (show isWs ',' = false by decide), hes]

theorem readFields_nil (rest : List Char) :
    readFields ops sig (f + 1) ('}' :: rest) = some ([], rest) := by
  simp only [readFields, skipWs_cons (show isWs '}' = false by decide), List.head?_cons, ↓reduceIte,
    List.tail_cons]

theorem readFields_last {k Y rest : List Char} {v : DValue F} (hk : isSymbol k = true)
    (hv : readValue ops sig f Y = some (v, ' ' :: '}' :: rest)) :
    readFields ops sig (f + 1) (k ++ ':' :: ' ' :: Y) = some ([(k, v)], rest) := by
  have hS := scanSymbol_name k (':' :: ' ' :: Y) hk rfl
  obtain ⟨c, tl, rfl, hcls⟩ := symbol_start hk
  obtain ⟨hws, -, -, -, -, -, h6, -⟩ := numOrSym_facts hcls
  simp only [List.cons_append] at hS ⊢
  simp only [readFields, skipWs_cons hws, List.head?_cons, Option.some.injEq, h6, ↓reduceIte, hS,
    skipWs_cons (show isWs ':' = false by decide), List.tail_cons, readValue_space, hv,
    skipWs_space, skipWs_cons (show isWs '}' = false by decide), (by decide : ¬ '}' = ',')]

theorem readFields_cons {k Y R rest : List Char} {v : DValue F}
    {fs : List (List Char × DValue F)} (hk : isSymbol k = true)
    (hv : readValue ops sig f Y = some (v, ',' :: R))
    (hfs : readFields ops sig f R = some (fs, rest)) :
    readFields ops sig (f + 1) (k ++ ':' :: ' ' :: Y) = some ((k, v) :: fs, rest) := by
  have hS := scanSymbol_name k (':' :: ' ' :: Y) hk rfl
  obtain ⟨c, tl, rfl, hcls⟩ := symbol_start hk
  obtain ⟨hws, -, -, -, -, -, h6, -⟩ := numOrSym_facts hcls
  simp only [List.cons_append] at hS ⊢
  unfold readFields
  simp only [skipWs_cons hws, List.head?_cons, Option.some.injEq, h6, ↓reduceIte, hS,
    skipWs_cons (show isWs ':' = false by decide), List.tail_cons, readValue_space, hv,
    skipWs_cons (show isWs ',' = false by decide), hfs]

end

theorem exists_fuel {n fuel : Nat} (h : 1 + n ≤ fuel) : ∃ f, fuel = f + 1 ∧ n ≤ f :=
  ⟨fuel - 1, by omega, by omega⟩

theorem exists_fuel_max {a b fuel : Nat} (h : 1 + max a b ≤ fuel) : ∃ f, fuel = f + 1 ∧ a ≤ f ∧ b ≤ f :=
  ⟨fuel - 1, by omega, by omega, by omega⟩

theorem need_pos {F} (v : DValue F) : 1 ≤ need v := by
  cases v <;> simp [need] <;> omega

theorem strLt_irrefl (k : List Char) : strLt k k = false := by
  induction k with
  | nil => rfl
  | cons c cs ih => simp [strLt, ih]

theorem dictInsert_front {F} (k : List Char) (v : DValue F) (es : List (List Char × DValue F))
    (h : ∀ k' ∈ es.map (·.1), strLt k k' = true) :
    (if es.any (·.1 = k) then es else dictInsert k v es) = (k, v) :: es := by
  have hne : ∀ e ∈ es, e.1 ≠ k := by
    intro e he heq
    have := h e.1 (List.mem_map_of_mem he)
    rw [heq, strLt_irrefl] at this; cases this
  have hany : es.any (·.1 = k) = false := by
    rw [List.any_eq_false]; intro e he; simpa using hne e he
  rw [hany, if_neg (by decide)]
  cases es with
  | nil => rfl
  | cons e es =>
    have hlt : strLt k e.1 = true := h e.1 (by simp)
    have hk : k ≠ e.1 := fun heq => hne e (by simp) heq.symm
    simp only [dictInsert, hk, ↓reduceIte, hlt]

mutual
/-- Only a number and a bare name look at `rest` (it must not continue the token); a composite value ends
with its own closer and does not use `hr`, and what follows its elements is in `okRest` by `rfl`. -/
theorem readValue_display {F} (fr : FloatRepr F) (sig : Sig) : ∀ (v : DValue F), wf sig v →
    ∀ (fuel : Nat) (rest : List Char), need v ≤ fuel → okRest rest = true →
    readValue fr.toFloatOps sig fuel (display fr.shw v ++ rest) = some (v, rest)
  | .int i, hw, fuel, rest, hf, hr => by
    obtain ⟨f, rfl, -⟩ := exists_fuel (n := 0) hf
    exact readValue_int _ sig f i rest hw hr
  | .float x, hw, fuel, rest, hf, hr => by
    obtain ⟨f, rfl, -⟩ := exists_fuel (n := 0) hf
    exact readValue_float sig f fr x rest hr
  | .str s, hw, fuel, rest, hf, hr => by
    obtain ⟨f, rfl, -⟩ := exists_fuel (n := 0) hf
    exact readValue_str _ sig f s rest
  | .enum0 n, hw, fuel, rest, hf, hr => by
    obtain ⟨f, rfl, -⟩ := exists_fuel (n := 0) hf
    exact readValue_enum0 _ sig f hw.1 hw.2.1 hw.2.2 hr
  | .list items, hw, fuel, rest, hf, hr => by
    obtain ⟨f, rfl, hf'⟩ := exists_fuel (n := needItems items) hf
    have ih := readItems_display fr sig items hw f ']' rest hf' (Or.inl rfl)
    simp only [display, List.cons_append, List.append_assoc, List.nil_append]
    exact readValue_list _ sig f ih
  | .tuple [], hw, fuel, rest, hf, hr => by
    obtain ⟨f, rfl, -⟩ := exists_fuel (n := needItems (F := F) []) hf
    exact readValue_unit _ sig f rest
  | .tuple (v :: vs), hw, fuel, rest, hf, hr => by
    obtain ⟨f, rfl, hf'⟩ := exists_fuel (n := needItems (v :: vs)) hf
    obtain ⟨g, rfl, hgv, hgvs⟩ := exists_fuel_max (a := need v) (b := needItems vs) hf'
    have hso := display_startsOk fr sig v hw.1
    have ihr := readItems_display fr sig vs hw.2 (g + 1) ')' rest (Nat.le_succ_of_le hgvs) (Or.inr rfl)
    -- after the first item: `,)` for a 1-tuple, `, ` and the other items otherwise
    obtain ⟨R, hR, hitems⟩ : ∃ R, display fr.shw (.tuple (v :: vs)) ++ rest =
          '(' :: (display fr.shw v ++ ',' :: R) ∧
        readItems fr.toFloatOps sig (g + 1) ')' R = some (vs, rest) := by
      cases vs with
      | nil => exact ⟨')' :: rest, by simp [display, displayItems], ihr⟩
      | cons w ws =>
        exact ⟨' ' :: (displayItems fr.shw (w :: ws) ++ ')' :: rest), by simp [display, displayItems],
          by rw [readItems_space]; exact ihr⟩
    have ihv := readValue_display fr sig v hw.1 (g + 1) (',' :: R) (Nat.le_succ_of_le hgv) rfl
    rw [hR]
    exact readValue_tuple _ sig (g + 1) (hso.skip _) (hso.head_ne _ (Or.inr rfl)) ihv hitems
  | .enum1 n p, hw, fuel, rest, hf, hr => by
    have hf2 : 1 + (1 + need p) ≤ fuel := by simp only [need] at hf; omega
    obtain ⟨f, rfl, hf1⟩ := exists_fuel hf2
    obtain ⟨g, rfl, hf0⟩ := exists_fuel hf1
    obtain ⟨hn, hd, hv, hwp⟩ := hw
    have hso := display_startsOk fr sig p hwp
    have ihp := readValue_display fr sig p hwp g (')' :: rest) hf0 rfl
    simp only [display, List.cons_append, List.append_assoc, List.nil_append]
    exact readValue_enum1 _ sig (g + 1) hn hd hv
      (readItems_last _ sig g (hso.skip _) (hso.head_ne _ (Or.inr rfl)) (Or.inr rfl) ihp)
  | .dict es, hw, fuel, rest, hf, hr => by
    obtain ⟨f, rfl, hf'⟩ := exists_fuel (n := needPairs es) hf
    have ih := readEntries_display fr sig es hw.1 hw.2 f rest hf'
    simp only [display, List.cons_append, List.append_assoc, List.nil_append]
    exact readValue_dict _ sig f ih
  | .struct n fs, hw, fuel, rest, hf, hr => by
    obtain ⟨f, rfl, hf'⟩ := exists_fuel (n := needPairs fs) hf
    obtain ⟨hn, hd, ⟨decl, hdecl, hok⟩, hsyms, hwf⟩ := hw
    have ih := readFields_display fr sig fs hwf hsyms f rest hf'
    simp only [display, List.cons_append, List.append_assoc, List.nil_append]
    exact readValue_struct _ sig f hn hd hdecl (by rw [readFields_space]; exact ih) hok
theorem readItems_display {F} (fr : FloatRepr F) (sig : Sig) : ∀ (items : List (DValue F)), wfItems sig items →
    ∀ (fuel : Nat) (term : Char) (rest : List Char), needItems items ≤ fuel → (term = ']' ∨ term = ')') →
    readItems fr.toFloatOps sig fuel term (displayItems fr.shw items ++ term :: rest) = some (items, rest)
  | [], hw, fuel, term, rest, hf, ht => by
    obtain ⟨f, rfl, -⟩ := exists_fuel (n := 0) hf
    exact readItems_nil _ sig f (by rcases ht with rfl | rfl <;> decide) rest
  | v :: vs, hw, fuel, term, rest, hf, ht => by
    obtain ⟨f, rfl, hfv, hfvs⟩ := exists_fuel_max (a := need v) (b := needItems vs) hf
    have hso := display_startsOk fr sig v hw.1
    have ihr := readItems_display fr sig vs hw.2 f term rest hfvs ht
    cases vs with
    | nil =>
      have ihv := readValue_display fr sig v hw.1 f (term :: rest) hfv
        (by rcases ht with rfl | rfl <;> rfl)
      exact readItems_last _ sig f (hso.skip _) (hso.head_ne _ ht) ht ihv
    | cons w ws =>
      have ihv := readValue_display fr sig v hw.1 f
        (',' :: ' ' :: (displayItems fr.shw (w :: ws) ++ term :: rest)) hfv rfl
      rw [displayItems_cons₂, List.append_assoc]
      exact readItems_cons _ sig f (hso.skip _) (hso.head_ne _ ht) ihv
        (by rw [readItems_space]; exact ihr)
/-- Ascending keys make every `dictInsert` a `cons`. -/
theorem readEntries_display {F} (fr : FloatRepr F) (sig : Sig) : ∀ (es : List (List Char × DValue F)), wfPairs sig es →
    ascending (es.map (·.1)) →
    ∀ (fuel : Nat) (rest : List Char), needPairs es ≤ fuel →
    readEntries fr.toFloatOps sig fuel (displayEntries fr.shw es ++ ']' :: rest) = some (es, rest)
  | [], hw, ha, fuel, rest, hf => by
    obtain ⟨f, rfl, -⟩ := exists_fuel (n := 0) hf
    exact readEntries_nil _ sig f rest
  | (k, v) :: es', hw, ha, fuel, rest, hf => by
    obtain ⟨f, rfl, hfv, hfes⟩ := exists_fuel_max (a := need v) (b := needPairs es') hf
    obtain ⟨g, rfl, -⟩ := exists_fuel (n := 0) (fuel := f) (Nat.le_trans (need_pos v) hfv)
    have ihr := readEntries_display fr sig es' hw.2 ha.2 (g + 1) rest hfes
    cases es' with
    | nil =>
      have ihv := readValue_display fr sig v hw.1 (g + 1) (']' :: rest) hfv rfl
      rw [displayEntries_single, List.append_assoc]
      exact readEntries_last _ sig g ihv
    | cons e es2 =>
      have ihv := readValue_display fr sig v hw.1 (g + 1)
        (',' :: ' ' :: (displayEntries fr.shw (e :: es2) ++ ']' :: rest)) hfv rfl
      simp only [displayEntries_cons₂, List.append_assoc, List.cons_append]
      rw [readEntries_cons _ sig g ihv (by rw [readEntries_space]; exact ihr),
        dictInsert_front k v (e :: es2) ha.1]
/-- `display` writes `name{ fields }`, so a blank stands before the closing brace. -/
theorem readFields_display {F} (fr : FloatRepr F) (sig : Sig) : ∀ (fs : List (List Char × DValue F)), wfPairs sig fs →
    (∀ k ∈ fs.map (·.1), isSymbol k = true) →
    ∀ (fuel : Nat) (rest : List Char), needPairs fs ≤ fuel →
    readFields fr.toFloatOps sig fuel (displayFields fr.shw fs ++ ' ' :: '}' :: rest) = some (fs, rest)
  | [], hw, hs, fuel, rest, hf => by
    obtain ⟨f, rfl, -⟩ := exists_fuel (n := 0) hf
    rw [show displayFields fr.shw ([] : List (List Char × DValue F)) ++ ' ' :: '}' :: rest = ' ' :: '}' :: rest from rfl,
      readFields_space]
    exact readFields_nil _ sig f rest
  | (k, v) :: fs', hw, hs, fuel, rest, hf => by
    obtain ⟨f, rfl, hfv, hffs⟩ := exists_fuel_max (a := need v) (b := needPairs fs') hf
    have hk : isSymbol k = true := hs k (List.mem_cons_self ..)
    have ihr := readFields_display fr sig fs' hw.2 (fun k' hk' => hs k' (List.mem_cons_of_mem _ hk'))
      f rest hffs
    cases fs' with
    | nil =>
      have ihv := readValue_display fr sig v hw.1 f (' ' :: '}' :: rest) hfv rfl
      rw [displayFields_single, List.append_assoc]
      exact readFields_last _ sig f hk ihv
    | cons e fs2 =>
      have ihv := readValue_display fr sig v hw.1 f
        (',' :: ' ' :: (displayFields fr.shw (e :: fs2) ++ ' ' :: '}' :: rest)) hfv rfl
      simp only [displayFields_cons₂, List.append_assoc, List.cons_append]
      exact readFields_cons _ sig f hk ihv (by rw [readFields_space]; exact ihr)
end

theorem symbol_length {n : List Char} (h : isSymbol n = true) : 1 ≤ n.length := by
  cases n with
  | nil => simp [isSymbol] at h
  | cons c tl => simp

mutual
theorem need_le_length {F} (fr : FloatRepr F) (sig : Sig) : ∀ (v : DValue F), wf sig v →
    need v ≤ (display fr.shw v).length
  | .int i, hw => by
    obtain ⟨c, tl, hc, -⟩ := showInt_start i
    simp only [need, display, hc, List.length_cons]; omega
  | .float x, hw => by
    obtain ⟨c, tl, hc, -⟩ := shw_start fr x
    simp only [need, display, hc, List.length_cons]; omega
  | .str s, hw => by simp only [need, display, escapeStringLiteral, List.length_cons]; omega
  | .enum0 n, hw => symbol_length hw.1
  | .list items, hw => by
    have := needItems_le_length fr sig items hw
    simp only [need, display, List.length_cons, List.length_append, List.length_nil]; omega
  | .tuple items, hw => by
    have := needItems_le_length fr sig items hw
    simp only [need, display, List.length_cons, List.length_append]
    split <;> simp only [List.length_cons, List.length_nil] <;> omega
  | .dict es, hw => by
    have := needEntries_le_length fr sig es hw.1
    simp only [need, display, List.length_cons, List.length_append, List.length_nil]; omega
  | .enum1 n p, hw => by
    have := need_le_length fr sig p hw.2.2.2
    have := symbol_length hw.1
    simp only [need, display, List.length_cons, List.length_append, List.length_nil]; omega
  | .struct n fs, hw => by
    have := needFields_le_length fr sig fs hw.2.2.2.2
    simp only [need, display, List.length_cons, List.length_append, List.length_nil]; omega
theorem needItems_le_length {F} (fr : FloatRepr F) (sig : Sig) : ∀ (items : List (DValue F)), wfItems sig items →
    needItems items ≤ (displayItems fr.shw items).length + 1
  | [], hw => Nat.le_refl 1
  | [v], hw => by
    have := need_le_length fr sig v hw.1
    have := need_pos v
    rw [needItems, needItems, displayItems]; omega
  | v :: w :: ws, hw => by
    have := need_le_length fr sig v hw.1
    have := needItems_le_length fr sig (w :: ws) hw.2
    rw [needItems, displayItems_cons₂, List.length_append]
    simp only [List.length_cons]; omega
theorem needEntries_le_length {F} (fr : FloatRepr F) (sig : Sig) : ∀ (es : List (List Char × DValue F)), wfPairs sig es →
    needPairs es ≤ (displayEntries fr.shw es).length + 1
  | [], hw => Nat.le_refl 1
  | [(k, v)], hw => by
    have := need_le_length fr sig v hw.1
    rw [needPairs, needPairs, displayEntries_single, List.length_append]
    simp only [List.length_cons]; omega
  | (k, v) :: e :: es, hw => by
    have := need_le_length fr sig v hw.1
    have := needEntries_le_length fr sig (e :: es) hw.2
    rw [needPairs, displayEntries_cons₂, List.length_append]
    simp only [List.length_cons, List.length_append]; omega
theorem needFields_le_length {F} (fr : FloatRepr F) (sig : Sig) : ∀ (fs : List (List Char × DValue F)), wfPairs sig fs →
    needPairs fs ≤ (displayFields fr.shw fs).length + 1
  | [], hw => Nat.le_refl 1
  | [(k, v)], hw => by
    have := need_le_length fr sig v hw.1
    rw [needPairs, needPairs, displayFields_single, List.length_append]
    simp only [List.length_cons]; omega
  | (k, v) :: e :: fs, hw => by
    have := need_le_length fr sig v hw.1
    have := needFields_le_length fr sig (e :: fs) hw.2
    rw [needPairs, displayFields_cons₂, List.length_append]
    simp only [List.length_cons, List.length_append]; omega
end

theorem readTop_display {F} (fr : FloatRepr F) (sig : Sig) (v : DValue F) (hw : wf sig v) :
    readTop fr.toFloatOps sig (display fr.shw v) = some v := by
  have h := readValue_display fr sig v hw ((display fr.shw v).length + 1) []
    (by have := need_le_length fr sig v hw; omega) rfl
  simp only [List.append_nil] at h
  simp [readTop, h, skipWs]

end Display
