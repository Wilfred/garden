import GardenVerif.Lemmas.Types
/-!
# C15 — Inferred types of lists and branches cover every element

Statements over the models `Ty.unify` / `Ty.unifyAll` of `unify` / `unify_all`
(src/checks/type_checker.rs:2944-3017). Every place where the checker combines
types (list / dict literal elements, if/else, try/catch, match arms) goes
through these two functions.
-/

namespace C15

/-- The combined type of two types is a supertype of both (all types, no
hypotheses). -/
theorem unify_upper (a b c : Ty) (h : Ty.unify a b = some c) :
    Ty.sub a c = true ∧ Ty.sub b c = true := Ty.unify_upper a b c h

theorem unify_idem (a : Ty) : Ty.unify a a = some a := Ty.unify_self a

/-- The combined type of a whole list is a supertype of every element, for
well-formed error-free element types (transitivity, C14, is what carries the
early elements up to the final type). -/
theorem unify_all_upper (sig : String → Nat) (hnv : sig "NoValue" = 0) (ts : List Ty) (c : Ty)
    (hts : ∀ t ∈ ts, Ty.wf sig t = true ∧ Ty.noErr t = true)
    (h : Ty.unifyAll ts = .ok c) : ∀ t ∈ ts, Ty.sub t c = true :=
  (Ty.unifyAllFrom_upper sig ts Ty.noValue c 0 h
    (by simp [Ty.noValue, Ty.wf, Ty.wfList, hnv]) (by simp [Ty.noValue, Ty.noErr, Ty.noErrList]) hts).2.1

theorem unify_all_equal (a : Ty) (n : Nat) :
    Ty.unifyAll (List.replicate (n + 1) a) = .ok a := by
  have h0 : Ty.unify Ty.noValue a = some a := by
    unfold Ty.unify
    cases a <;> simp [Ty.noValue, Ty.isAny, Ty.isNoValue, Ty.isErr]
  simp [Ty.unifyAll, List.replicate, Ty.unifyAllFrom, h0, Ty.unifyAllFrom_replicate]

-- Non-vacuity: a concrete list whose elements differ and whose join is non-trivial:
-- [List<NoValue>, List<Int>] combines to List<Int>.
example :
    let i := Ty.user .struct "Int" []
    Ty.unifyAll [.user .struct "List" [Ty.noValue], .user .struct "List" [i]]
      = .ok (.user .struct "List" [i]) := by
  simp [Ty.unifyAll, Ty.unifyAllFrom, Ty.unify, Ty.unifyArgs, Ty.beq, Ty.beqList, Ty.noValue,
    Ty.isAny, Ty.isNoValue, Ty.isErr]

end C15
