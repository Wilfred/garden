import GardenVerif.Lemmas.MachineStep
/-!
# C08 — An evaluation interrupted anywhere resumes to the same outcome

Statements over the machine model M4 (`Machine.step`, Model/Machine.lean), whose per-tick
traces are compared with the real evaluator's on every run (harness/c08.py, hook H2/H3).

* `interrupt_is_stutter`: an interrupt delivered at ANY step (flag set before the step, or set
  at this tick by the schedule) yields `Err(Interrupted)` and leaves the state unchanged except
  `ticks + 1` and the cleared flag: the popped entry is pushed back, no value is touched, nothing
  is printed. No step is lost, repeated or reordered.
* `run_sim` / `interrupts_unobservable`: for a session WITHOUT a tick limit, for every interrupt
  schedule and any number of resumptions, the run (resuming after each interrupt, as `:resume`
  does) ends with the same result/error and the same final state — in particular the same output
  log — as the uninterrupted run; it needs at most `budget` more steps (one per interrupt
  that can still fire). Unbounded in program, schedule length and number of steps.
* With a tick limit the statement is false as stated (an interrupt consumes a tick, so the limit
  is reached earlier); that is why `tickLimit = none` is a hypothesis.
-/
namespace C08
open Machine

/-- The part of a state the tick counter and the interrupt machinery do not touch. -/
def core (s : State) : State := { s with ticks := 0, interrupted := false, interruptAt := [] }

/-- What an interrupted step does to the state: one tick, flag cleared (the same record as
`Machine.ticked`). -/
def stutter (s : State) : State := { s with ticks := s.ticks + 1, interrupted := false }

/-- The interrupt check of this step succeeds: there is an entry to pop and the flag
is set, or gets set at this tick (H3 schedule). -/
def fires (s : State) : Bool :=
  match s.frames with
  | f :: _ => !f.exprs.isEmpty && (s.interrupted || s.interruptAt.contains (s.ticks + 1))
  | [] => false

theorem fires_entry {s : State} {f : Frame} {callers : List Frame} {st : St} {e : Expr}
    {rest : List (St × Expr)} (hf : s.frames = f :: callers) (he : f.exprs = (st, e) :: rest) :
    fires s = (s.interrupted || s.interruptAt.contains (s.ticks + 1)) := by
  simp [fires, hf, he]

theorem interrupt_is_stutter (s : State) (h : fires s = true) :
    step s = .error (stutter s) .interrupted := by
  match hf : s.frames with
  | [] => simp [fires, hf] at h
  | f :: callers =>
    match he : f.exprs with
    | [] => simp [fires, hf, he] at h
    | (st, e) :: rest =>
      rw [fires_entry hf he] at h
      have hr : refusal s = some .interrupted := by unfold refusal; rw [if_pos h]
      rw [step_popped hf he, hr]
      rfl

theorem core_eq_iff (a b : State) : core a = core b ↔
    a.prog = b.prog ∧ a.frames = b.frames ∧ a.out = b.out ∧ a.tickLimit = b.tickLimit ∧
    a.stackLimit = b.stackLimit ∧ a.stopAt = b.stopAt := by
  cases a; cases b; simp [core]

def mapState (g : State → State) : StepResult → StepResult
  | .cont s => .cont (g s)
  | .done s v => .done (g s) v
  | .error s e => .error (g s) e
  | .panic site => .panic site
  | .unsupported w => .unsupported w

/-- The same function as the test runner's: the lemmas about it are stated there. -/
theorem mapState_eq : @mapState = @TestRunner.mapState := by
  funext g r; cases r <;> rfl

/-- Without a tick limit, a step on which no interrupt fires is the step of the un-instrumented state. -/
theorem step_core (s : State) (hl : s.tickLimit = none) (h : fires s = false) :
    mapState core (step s) = mapState core (step (core s)) := by
  rw [mapState_eq]
  match hf : s.frames with
  | [] => rw [step_nil hf, step_nil (s := core s) hf]
  | f :: callers =>
    match he : f.exprs with
    | (st, e) :: rest =>
      have hdown : (s.interrupted || s.interruptAt.contains (s.ticks + 1)) = false := by
        rw [← fires_entry hf he]; exact h
      have hr : refusal s = refusal (core s) := by
        unfold refusal; rw [hdown]; simp [core, hl, limitReached]
      have hpost : ∀ a : State, TestRunner.mapState core (post a callers st e (dispatch s.prog { f with exprs := rest } st e)) =
          post (core a) callers st e (dispatch s.prog { f with exprs := rest } st e) :=
        fun a => TestRunner.mapState_post core (fun _ _ => rfl) (fun _ _ _ => rfl) (fun _ => rfl) a _ _ _ _
      rw [step_popped hf he, step_popped (s := core s) hf he, hr]
      cases refusal (core s) with
      | some er => rfl
      | none => exact (hpost (ticked s)).trans (hpost (ticked (core s))).symm
    | [] =>
      match callers with
      | [] =>
        rw [step_finish hf he, step_finish (s := core s) hf he]
        rcases f.values with _ | ⟨v, vals⟩ <;> rfl
      | caller :: rest =>
        rw [step_return hf he, step_return (s := core s) hf he]
        rcases f.values with _ | ⟨rv, vals⟩
        · rfl
        · -- the two conditions differ in `(core s).stopAt` against `s.stopAt`: restate them alike for `split`
          show TestRunner.mapState core (if (f.callerId.isSome && s.stopAt == f.callerId) = true then _ else _) =
            TestRunner.mapState core (if (f.callerId.isSome && s.stopAt == f.callerId) = true then _ else _)
          split <;> rfl

inductive Final where
  | ok (v : Value) | err (e : Err) | panic (site : String) | unsupported (w : String)

/-- Run to completion, resuming (`:resume`) after every interrupt. `none` = out of fuel. -/
def run : Nat → State → Option (State × Final)
  | 0, _ => none
  | n + 1, s =>
    match step s with
    | .cont s' => run n s'
    | .error s' e => if e = .interrupted then run n s' else some (s', .err e)
    | .done s' v => some (s', .ok v)
    | .panic site => some (s, .panic site)
    | .unsupported w => some (s, .unsupported w)

def cnt (l : List Nat) (a : Nat) : Nat := (l.filter (fun t => decide (a < t))).length

/-- How many more interrupts the schedule can still deliver. -/
def budget (s : State) : Nat := (if s.interrupted then 1 else 0) + cnt s.interruptAt s.ticks

theorem cnt_filter (l : List Nat) {a b : Nat} (h : a ≤ b) :
    l.filter (fun t => decide (b < t)) = (l.filter (fun t => decide (a < t))).filter (fun t => decide (b < t)) := by
  rw [List.filter_filter]
  congr 1; funext t
  by_cases hb : b < t
  · have : a < t := by omega
    simp [hb, this]
  · simp [hb]

theorem cnt_mono (l : List Nat) (a b : Nat) (h : a ≤ b) : cnt l b ≤ cnt l a := by
  unfold cnt; rw [cnt_filter l h]; exact List.length_filter_le _ _

theorem cnt_strict (l : List Nat) (a : Nat) (h : a + 1 ∈ l) : cnt l (a + 1) < cnt l a := by
  unfold cnt; rw [cnt_filter l (Nat.le_succ a)]
  exact List.length_filter_lt_length_iff_exists.mpr ⟨a + 1, List.mem_filter.mpr ⟨h, by simp⟩, by simp⟩

theorem budget_stutter (s : State) (h : fires s = true) : budget (stutter s) < budget s := by
  have hflag : s.interrupted = true ∨ s.ticks + 1 ∈ s.interruptAt := by
    unfold fires at h
    split at h
    · have := (Bool.and_eq_true _ _ ▸ h).2; simpa using this
    · cases h
  have hmono := cnt_mono s.interruptAt s.ticks (s.ticks + 1) (by omega)
  simp only [budget, stutter]
  rcases hflag with h2 | h2
  · simp [h2]; omega
  · have := cnt_strict s.interruptAt s.ticks h2
    simp; split <;> omega

def quiet (s : State) : Prop := s.interrupted = false ∧ s.interruptAt = []

theorem quiet_not_fires (s : State) (h : quiet s) : fires s = false := by
  unfold fires; split <;> simp [h.1, h.2]

theorem quiet_step (s s' : State) (hq : quiet s) (h : (step s).state? = some s') : quiet s' := by
  obtain ⟨fr, o, t, i, rfl, _, _, hi, _⟩ := step_state h
  refine ⟨?_, hq.2⟩
  cases i
  · rfl
  · exact (hi rfl).symm.trans hq.1

theorem tickLimit_step (s s' : State) (h : (step s).state? = some s') : s'.tickLimit = s.tickLimit := by
  obtain ⟨fr, o, t, i, rfl, _⟩ := step_state h; rfl

theorem budget_step (s s' : State) (h : (step s).state? = some s') : budget s' ≤ budget s := by
  obtain ⟨fr, o, t, i, rfl, ht, _, hi, _⟩ := step_state h
  have := cnt_mono s.interruptAt s.ticks t ht
  simp only [budget]
  cases i
  · simp; omega
  · simp [hi rfl]; omega

theorem step_sim (s1 s2 : State) (hc : core s1 = core s2) (hl : s1.tickLimit = none)
    (h1 : fires s1 = false) (h2 : fires s2 = false) :
    mapState core (step s1) = mapState core (step s2) := by
  have hl2 : s2.tickLimit = none := ((core_eq_iff s1 s2).mp hc).2.2.2.1 ▸ hl
  rw [step_core s1 hl h1, step_core s2 hl2 h2, hc]

/-- **Main theorem.** In a session without a tick limit, for ANY interrupt schedule
(flag initially set or not, any list of ticks at which it gets set) and any number of
resumptions, the run ends with the same result and the same final state (output log,
frames, values, bindings) as the uninterrupted run; it needs at most `budget` more steps. -/
theorem run_sim : ∀ (n b : Nat) (s1 s2 : State) (r : State × Final),
    core s1 = core s2 → s1.tickLimit = none → quiet s1 → budget s2 ≤ b →
    run n s1 = some r →
    ∃ r', run (n + b) s2 = some r' ∧ core r'.1 = core r.1 ∧ r'.2 = r.2 := by
  -- outer induction on the fuel of the quiet run, inner on the interrupt budget of the other run:
  -- a firing interrupt costs one unit of budget and no fuel; `aux` is the common step when none fires
  intro n
  induction n with
  | zero => intro b s1 s2 r _ _ _ _ h; simp [run] at h
  | succ n ihn =>
    intro b
    induction b with
    | zero =>
      intro s1 s2 r hc hl hq hb hr
      have hf2 : fires s2 = false := by
        cases hf : fires s2
        · rfl
        · have := budget_stutter s2 hf; omega
      exact (aux n ihn 0 s1 s2 r hc hl hq hb hr hf2)
    | succ b ihb =>
      intro s1 s2 r hc hl hq hb hr
      cases hf : fires s2
      · exact (aux n ihn (b + 1) s1 s2 r hc hl hq hb hr hf)
      · -- the interrupt fires: a stutter step, then the inner induction hypothesis
        have hst := interrupt_is_stutter s2 hf
        have hb' : budget (stutter s2) ≤ b := by have := budget_stutter s2 hf; omega
        obtain ⟨r', hr', h1, h2⟩ := ihb s1 (stutter s2) r hc hl hq hb' hr
        refine ⟨r', ?_, h1, h2⟩
        have : n + 1 + (b + 1) = (n + 1 + b) + 1 := by omega
        rw [this, run, hst]; simpa using hr'
where
  /-- no interrupt fires in `s2`: both runs do the same step -/
  aux (n : Nat)
      (ihn : ∀ (b : Nat) (s1 s2 : State) (r : State × Final), core s1 = core s2 → s1.tickLimit = none →
        quiet s1 → budget s2 ≤ b → run n s1 = some r →
        ∃ r', run (n + b) s2 = some r' ∧ core r'.1 = core r.1 ∧ r'.2 = r.2)
      (b : Nat) (s1 s2 : State) (r : State × Final) (hc : core s1 = core s2) (hl : s1.tickLimit = none)
      (hq : quiet s1) (hb : budget s2 ≤ b) (hr : run (n + 1) s1 = some r) (hf2 : fires s2 = false) :
      ∃ r', run (n + 1 + b) s2 = some r' ∧ core r'.1 = core r.1 ∧ r'.2 = r.2 := by
    have hsim := step_sim s1 s2 hc hl (quiet_not_fires s1 hq) hf2
    rw [mapState_eq] at hsim
    have next : ∀ s1' s2', (step s1).state? = some s1' → (step s2).state? = some s2' → core s1' = core s2' →
        run n s1' = some r → ∃ r', run (n + b) s2' = some r' ∧ core r'.1 = core r.1 ∧ r'.2 = r.2 :=
      fun s1' s2' h1 h2 hcs hr' =>
        ihn b s1' s2' r hcs ((tickLimit_step s1 s1' h1).trans hl) (quiet_step s1 s1' hq h1)
          (Nat.le_trans (budget_step s2 s2' h2) hb) hr'
    rw [show n + 1 + b = (n + b) + 1 by omega]
    rw [run] at hr ⊢
    cases h1 : step s1 with
    | cont s1' =>
      rw [h1] at hr hsim
      obtain ⟨s2', h2, hcs⟩ := TestRunner.mapState_inv hsim.symm
      rw [h2]
      exact next s1' s2' (by rw [h1]; rfl) (by rw [h2]; rfl) hcs.symm hr
    | error s1' e1 =>
      rw [h1] at hr hsim
      obtain ⟨s2', h2, hcs⟩ := TestRunner.mapState_inv hsim.symm
      rw [h2]
      by_cases hi : e1 = .interrupted
      · simp only [hi, if_true] at hr ⊢
        exact next s1' s2' (by rw [h1]; rfl) (by rw [h2]; rfl) hcs.symm hr
      · simp only [hi, if_false] at hr ⊢
        cases hr
        exact ⟨_, rfl, hcs, rfl⟩
    | done s1' v =>
      rw [h1] at hr hsim
      obtain ⟨s2', h2, hcs⟩ := TestRunner.mapState_inv hsim.symm
      rw [h2]
      cases hr
      exact ⟨_, rfl, hcs, rfl⟩
    | panic site =>
      rw [h1] at hr hsim
      rw [TestRunner.mapState_inv hsim.symm]
      cases hr
      exact ⟨_, rfl, hc.symm, rfl⟩
    | unsupported w =>
      rw [h1] at hr hsim
      rw [TestRunner.mapState_inv hsim.symm]
      cases hr
      exact ⟨_, rfl, hc.symm, rfl⟩

theorem budget_init (p : Program) (ia : List Nat) (sl : Option Nat) :
    budget (init p ia none sl) ≤ ia.length := by
  simp [budget, init, cnt]
  exact List.length_filter_le _ _

/-- The property in `garden` terms: run program `p` with the interrupted flag set at the ticks
in `ia` (any list), resuming after each interrupt; if the uninterrupted run finishes, so does
the interrupted one, with the same output, the same value or error, the same final frames. -/
theorem interrupts_unobservable (p : Program) (ia : List Nat) (sl : Option Nat) (n : Nat)
    (r : State × Final) (h : run n (init p [] none sl) = some r) :
    ∃ r', run (n + ia.length) (init p ia none sl) = some r' ∧
      r'.1.out = r.1.out ∧ r'.1.frames = r.1.frames ∧ r'.2 = r.2 := by
  obtain ⟨r', h1, h2, h3⟩ := run_sim n ia.length (init p [] none sl) (init p ia none sl) r rfl rfl
    ⟨rfl, rfl⟩ (budget_init p ia sl) h
  refine ⟨r', h1, ?_, ?_, h3⟩
  · exact ((core_eq_iff _ _).mp h2).2.2.1
  · exact ((core_eq_iff _ _).mp h2).2.1

-- Non-vacuity: a concrete program and schedule on which the interrupt really fires at the
-- first tick (so the theorem's interrupted run differs from the plain run in its steps).
example : fires (init { funs := [], enums := [], toplevel := [.int 1 true 5] } [1] none none) = true := by
  simp [fires, init, initFrame]

end C08
