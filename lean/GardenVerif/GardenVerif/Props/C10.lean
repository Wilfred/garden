import GardenVerif.Lemmas.Session
/-!
# C10 — `:abort` returns the session to a clean top level

Statements over the session model M6 for /repo HEAD (`Cfg.patched`, in which
`Stack::pop_to_toplevel` also clears frame 0's `exprs_to_eval`,
/verif/patches/session-fix-abort-clears-pending.diff). `abort st` is the state after the `:abort`
command (`abort_is_command`: the state of `Session.handleCommand … .abort`; its "Aborted" response
is not the subject of any statement here).

`BottomOK st` describes the bottom frame as `Stack::new` creates it: kind toplevel, no caller, no
bindings waiting for a block, its oldest value the placeholder `Unit`, at least one binding block.
It is a hypothesis of every theorem; that the session layer establishes or preserves it is not
proved (the `example` below checks it of one literal state, `stopped`), so the theorems are not
about reachable session states.

* `abort_equiv_fresh`: the aborted session equals `freshAt st` (not `Session.fresh`): one fresh
  toplevel frame over the toplevel variables, with the program, the tests, the tick counter, the output, the interrupt flag
  and schedule, the limits and `stopAt` of `st`. So every later request gets the same responses
  as from `freshAt st` (`abort_same_responses`, any request list, any fuel, any `cfg`: a rewriting
  with the equality).
* `abort_clean`, `nothing_leftover`: one frame, nothing pending, the placeholder `Unit` as only value;
  variable lookup sees exactly the toplevel variables.
With `Cfg.pinned` (`abortClears` off) the pending entries of frame 0 survive
(`pinned_abort_keeps_pending`): `:resume` after `:abort` re-runs the aborted expression.
-/
namespace C10
open Machine Session

def abort (st : Session.State) : Session.State := { st with m := popToToplevel Cfg.patched st.m }

/-- Only the state; the response is not stated. -/
theorem abort_is_command (fuel : Nat) (st : Session.State) (id : Option Nat) :
    (handleCommand Cfg.patched fuel st id .abort).state = abort st := by
  simp only [handleCommand, cmdResp, abort]
  split <;> simp [respond, die]

def bottom (st : Session.State) : Option Frame := (lastList st.m.frames).head?

def toplevelVars (st : Session.State) : Block :=
  match bottom st with
  | some f => ((lastList f.blocks).head?).getD []
  | none => []

def defs (st : Session.State) : Program := st.m.prog

def BottomOK (st : Session.State) : Prop :=
  ∃ f, bottom st = some f ∧ f.kind = .toplevel ∧ f.nextBlock = [] ∧ f.callerUses = true ∧
    f.callerId = none ∧ lastList f.values = [vUnit] ∧ f.blocks ≠ []

def Clean (st : Session.State) : Prop :=
  ∃ f, st.m.frames = [f] ∧ f.exprs = [] ∧ f.values = [vUnit] ∧ f.blocks.length = 1

theorem bottom_some (st : Session.State) (f : Frame) (h : bottom st = some f) :
    lastList st.m.frames = [f] := by
  unfold bottom at h
  have hl := lastList_length st.m.frames
  match lastList st.m.frames, h, hl with
  | [g], h, _ => simp at h; simp [h]
  | [], h, _ => simp at h
  | _ :: _ :: _, _, hl => simp at hl

def freshAt (st : Session.State) : Session.State :=
  let f := freshWith (defs st) (toplevelVars st)
  { m := { f.m with prog := st.m.prog, ticks := st.m.ticks, out := st.m.out,
                    interrupted := st.m.interrupted, tickLimit := st.m.tickLimit,
                    stackLimit := st.m.stackLimit, interruptAt := st.m.interruptAt,
                    stopAt := st.m.stopAt },
    tests := st.tests }

theorem freshAt_frames (st : Session.State) :
    (freshAt st).m.frames = (freshWith (defs st) (toplevelVars st)).m.frames := rfl

theorem abort_equiv_fresh (st : Session.State) (h : BottomOK st) : abort st = freshAt st := by
  obtain ⟨f, hb, hk, hn, hc, hi, hv, hbl⟩ := h
  have hl := bottom_some st f hb
  obtain ⟨b, hb1⟩ := lastList_ne f.blocks hbl
  have htv : toplevelVars st = b := by simp [toplevelVars, hb, hb1]
  cases st with
  | mk m tests =>
    cases m with
    | mk prog frames ticks out interrupted tickLimit stackLimit interruptAt stopAt =>
      cases f with
      | mk exprs values blocks nextBlock callerUses kind callerId =>
        simp only at hl hk hn hc hi hv hb1
        simp [abort, freshAt, freshWith, popToToplevel, hl, Cfg.patched, htv, hk, hn, hc, hi, hv, hb1, defs]

theorem abort_clean (st : Session.State) (h : BottomOK st) : Clean (abort st) := by
  rw [abort_equiv_fresh st h]
  exact ⟨_, rfl, rfl, rfl, rfl⟩

theorem abort_same_responses (st : Session.State) (h : BottomOK st) (cfg : Cfg) (fuel : Nat)
    (reqs : List Req) :
    (run cfg fuel (abort st) reqs).responses = (run cfg fuel (freshAt st) reqs).responses ∧
    (run cfg fuel (abort st) reqs).outcome = (run cfg fuel (freshAt st) reqs).outcome := by
  rw [abort_equiv_fresh st h]; exact ⟨rfl, rfl⟩

/-- A variable is found iff it is a toplevel variable: the locals of the aborted frames and of the
aborted toplevel blocks are gone. -/
theorem nothing_leftover (st : Session.State) (h : BottomOK st) :
    ∃ f, (abort st).m.frames = [f] ∧ f.exprs = [] ∧ f.values = [vUnit] ∧
      ∀ name, lookupBlocks f.blocks name = lookupBlocks [toplevelVars st] name := by
  have he := abort_equiv_fresh st h
  refine ⟨_, by rw [he]; rfl, rfl, rfl, fun name => rfl⟩

/-- A session stopped inside a call, inside a block, with a pending toplevel entry. -/
def stopped : Session.State :=
  { Session.fresh with m := { Session.fresh.m with frames :=
      [ { exprs := [(.N, .var 5 true "nosuch")], values := [.int 3, vUnit], blocks := [[("inner", .int 1)], [("a", .int 2)]],
          nextBlock := [], callerUses := true, kind := .fn "f", callerId := some 9 },
        { exprs := [(.E, .ifE 7 true (.var 6 true "c") [] none)], values := [.int 8, vUnit],
          blocks := [[("blk", .int 4)], [("top", .int 10)]], nextBlock := [], callerUses := true, kind := .toplevel } ] } }

example : BottomOK stopped := ⟨_, rfl, rfl, rfl, rfl, rfl, rfl, by simp⟩
example : toplevelVars stopped = [("top", .int 10)] := rfl
example : (abort stopped).m.frames.length = 1 := by decide +kernel

/-- With `abortClears` off, `pop_to_toplevel` keeps frame 0's pending entries (and truncates its
blocks), so the aborted `if` continuation is still there: not clean. -/
theorem pinned_abort_keeps_pending :
    ((popToToplevel Cfg.pinned stopped.m).frames.map (fun f => f.exprs.length)) = [1] := by
  decide +kernel

end C10
