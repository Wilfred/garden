import GardenVerif.Model.Imports
/-!
Lemmas about the loader model (M12): a principle for what every primitive update of the loader
preserves (`loadFile_preserves`), with the termination measure (project files not yet in `paths_seen`)
and the scope invariant as instances; and the pass that shows `exported_syms` to be exactly the public
functions (`loadFile_T`). That pass is an induction of its own: what it proves of a load, `T`, is false
between the entry into a nested file and the end of its load and is not kept by a `fun` item, so it
assumes the statement for the nested load (`RecSpec`) and follows the items of the file (`LoopInv`).
-/

namespace Imports

def itemsOf (proj : Project) (p : String) : List Item := (alookup proj p).getD []

theorem loadItems_cons_ok {step : Item → St → Out St} {it : Item} {rest : List Item} {st st' : St}
    (h : loadItems step (it :: rest) st = .ok st') :
    ∃ st1, step it st = .ok st1 ∧ loadItems step rest st1 = .ok st' := by
  rw [loadItems] at h
  split at h
  · exact ⟨_, ‹_›, h⟩
  · cases h
  · cases h

theorem loadFile_succ_ok {cfg : Cfg} {proj : Project} {n : Nat} {p : String} {st st' : St}
    (h : loadFile cfg proj (n + 1) p st = .ok st') :
    ∃ st1, loadItems (stepItem cfg proj (loadFile cfg proj n) p) (sortItems (itemsOf proj p)) (st.ensureNs p)
        = .ok st1 ∧ st' = insertVariants p (itemsOf proj p) st1 := by
  rw [loadFile] at h
  split at h
  · cases h; exact ⟨_, ‹_›, rfl⟩
  · cases h
  · cases h

theorem stepItem_imp_ok {cfg : Cfg} {proj : Project} {recLoad : String → St → Out St} {cur path : String}
    {alias : Option String} {st st' : St} (h : stepItem cfg proj recLoad cur (.imp path alias) st = .ok st') :
    (st.seen.contains path = true ∧
      (insertImported cfg alias cur path st = .ok st' ∨ st' = insertPlaceholder alias cur path st)) ∨
    (st.seen.contains path = false ∧ alookup proj path = none ∧
      st' = insertPlaceholder alias cur path { st with seen := path :: st.seen, diags := st.diags ++ [path] }) ∨
    (st.seen.contains path = false ∧ (alookup proj path).isSome = true ∧
      ∃ st1, recLoad path { st with seen := path :: st.seen, calls := st.calls + 1 } = .ok st1 ∧
        insertImported cfg alias cur path st1 = .ok st') := by
  simp only [stepItem] at h
  split at h
  · refine Or.inl ⟨‹_›, ?_⟩
    split at h
    · exact Or.inl h
    · split at h <;> cases h
      exact Or.inr rfl
  · have hs : st.seen.contains path = false := Bool.eq_false_iff.mpr ‹_›
    split at h
    · cases h; exact Or.inr (Or.inl ⟨hs, ‹_›, rfl⟩)
    · rename_i items hl
      split at h
      · exact Or.inr (Or.inr ⟨hs, by rw [hl]; rfl, _, ‹_›, h⟩)
      · cases h
      · cases h

theorem stepItem_outOfFuel {cfg : Cfg} {proj : Project} {recLoad : String → St → Out St} {cur : String}
    {it : Item} {st : St} (h : stepItem cfg proj recLoad cur it st = .outOfFuel) :
    ∃ path items, st.seen.contains path = false ∧ alookup proj path = some items ∧
      recLoad path { st with seen := path :: st.seen, calls := st.calls + 1 } = .outOfFuel := by
  have himp : ∀ a c p s, insertImported cfg a c p s ≠ .outOfFuel := by
    intro a c p s h
    cases a <;> simp only [insertImported] at h
    · split at h <;> cases h
    · cases h
  cases it <;> simp only [stepItem] at h <;> try cases h
  split at h
  · split at h
    · exact (himp _ _ _ _ h).elim
    · split at h <;> cases h
  · have hs : st.seen.contains _ = false := Bool.eq_false_iff.mpr ‹_›
    split at h
    · cases h
    · rename_i items hl
      split at h
      · exact (himp _ _ _ _ h).elim
      · cases h
      · exact ⟨_, items, hs, hl, ‹_›⟩

/-- A relation between loader states that holds across every primitive update the loader makes. -/
structure Closed (cfg : Cfg) (proj : Project) (Q : St → St → Prop) : Prop where
  refl : ∀ st, Q st st
  trans : ∀ {a b c}, Q a b → Q b c → Q a c
  ensureNs : ∀ st p, Q st (st.ensureNs p)
  addFun : ∀ st c b n t bd, Q st (st.addFun c b n t bd)
  addMethod : ∀ st r n mi, Q st (st.addMethod r n mi)
  addType : ∀ st c n k b, Q st (st.addType c n k b)
  imported : ∀ a c p st st', insertImported cfg a c p st = .ok st' → Q st st'
  placeholder : ∀ a c p st, Q st (insertPlaceholder a c p st)
  variants : ∀ c items st, Q st (insertVariants c items st)
  unreadable : ∀ (st : St) p, st.seen.contains p = false → alookup proj p = none →
    Q st { st with seen := p :: st.seen, diags := st.diags ++ [p] }
  enter : ∀ (st : St) p, st.seen.contains p = false → (alookup proj p).isSome = true →
    Q st { st with seen := p :: st.seen, calls := st.calls + 1 }

section preserves
variable {cfg : Cfg} {proj : Project} {Q : St → St → Prop} (hQ : Closed cfg proj Q)
include hQ

theorem stepItem_preserves {recLoad : String → St → Out St}
    (hrec : ∀ q st st', recLoad q st = .ok st' → Q st st') {cur : String} {it : Item} {st st' : St}
    (h : stepItem cfg proj recLoad cur it st = .ok st') : Q st st' := by
  cases it with
  | fn => cases h; exact hQ.addFun ..
  | meth => cases h; exact hQ.addMethod ..
  | struct => cases h; exact hQ.addType ..
  | «enum» => cases h; exact hQ.addType ..
  | imp path alias =>
    rcases stepItem_imp_ok h with ⟨_, hi | rfl⟩ | ⟨hs, hl, rfl⟩ | ⟨hs, hl, st1, h1, hi⟩
    · exact hQ.imported _ _ _ _ _ hi
    · exact hQ.placeholder ..
    · exact hQ.trans (hQ.unreadable st path hs hl) (hQ.placeholder ..)
    · exact hQ.trans (hQ.enter st path hs hl) (hQ.trans (hrec _ _ _ h1) (hQ.imported _ _ _ _ _ hi))

theorem loadItems_preserves {step : Item → St → Out St} (hstep : ∀ it st st', step it st = .ok st' → Q st st') :
    ∀ (items : List Item) (st st' : St), loadItems step items st = .ok st' → Q st st'
  | [], st, st', h => by cases h; exact hQ.refl st
  | it :: rest, st, st', h => by
    obtain ⟨st1, h1, h2⟩ := loadItems_cons_ok h
    exact hQ.trans (hstep it st st1 h1) (loadItems_preserves hstep rest st1 st' h2)

theorem loadFile_preserves : ∀ (n : Nat) (q : String) (st st' : St), loadFile cfg proj n q st = .ok st' → Q st st'
  | 0, _, _, _, h => by cases h
  | n + 1, q, st, st', h => by
    obtain ⟨st1, h1, rfl⟩ := loadFile_succ_ok h
    exact hQ.trans (hQ.ensureNs st q) (hQ.trans
      (loadItems_preserves hQ (fun _ _ _ hs => stepItem_preserves hQ (loadFile_preserves n) hs) _ _ _ h1)
      (hQ.variants ..))

end preserves

/-- Project entries whose path is not in `paths_seen`. -/
def unseen : Project → List String → Nat
  | [], _ => 0
  | (k, _) :: rest, seen => (if seen.contains k then 0 else 1) + unseen rest seen

theorem unseen_nil (proj : Project) : unseen proj [] = proj.length := by
  induction proj with
  | nil => rfl
  | cons kv rest ih => obtain ⟨k, v⟩ := kv; simp [unseen, ih]; omega

theorem unseen_cons_le (proj : Project) (p : String) (s : List String) :
    unseen proj (p :: s) ≤ unseen proj s := by
  induction proj with
  | nil => exact Nat.le_refl _
  | cons kv rest ih =>
    obtain ⟨k, v⟩ := kv
    simp only [unseen, List.contains_cons]
    cases s.contains k <;> cases (k == p) <;> simp <;> omega

theorem unseen_cons_lt (proj : Project) (p : String) (s : List String) (v : List Item)
    (hl : alookup proj p = some v) (hs : s.contains p = false) :
    unseen proj (p :: s) + 1 ≤ unseen proj s := by
  induction proj with
  | nil => cases hl
  | cons kv rest ih =>
    obtain ⟨k, w⟩ := kv
    simp only [unseen, List.contains_cons]
    by_cases hk : k = p
    · subst hk
      have := unseen_cons_le rest k s
      rw [hs]; simp; omega
    · have hk' : (k == p) = false := beq_eq_false_iff_ne.mpr hk
      simp only [alookup, hk'] at hl
      have := ih hl
      simp [hk']; omega

/-- The transition measure: the ghost call counter only grows, and every recursive load is paid
for by one project file leaving the unseen set. -/
def Meas (proj : Project) (st st' : St) : Prop :=
  st.calls ≤ st'.calls ∧ unseen proj st'.seen + st'.calls ≤ unseen proj st.seen + st.calls

theorem Meas.unseen_le {proj : Project} {a b : St} (h : Meas proj a b) :
    unseen proj b.seen ≤ unseen proj a.seen := by have := h.1; have := h.2; omega

def SameSC (st st' : St) : Prop := st'.seen = st.seen ∧ st'.calls = st.calls

theorem SameSC.meas {proj : Project} {st st' : St} (h : SameSC st st') : Meas proj st st' := by
  unfold Meas; rw [h.1, h.2]; exact ⟨Nat.le_refl _, Nat.le_refl _⟩

theorem sameSC_setNs (st : St) (p : String) (ns : Ns) : SameSC st (st.setNs p ns) := ⟨rfl, rfl⟩

theorem sameSC_ensureNs (st : St) (p : String) : SameSC st (st.ensureNs p) := by
  unfold St.ensureNs; split <;> exact ⟨rfl, rfl⟩

theorem sameSC_addMethod (st : St) (r n : String) (mi : MInfo) : SameSC st (st.addMethod r n mi) := by
  unfold St.addMethod; split <;> exact ⟨rfl, rfl⟩

theorem sameSC_insertPlaceholder (a : Option String) (c p : String) (st : St) :
    SameSC st (insertPlaceholder a c p st) := by
  unfold insertPlaceholder; split <;> exact ⟨rfl, rfl⟩

theorem sameSC_insertImported {cfg : Cfg} {a : Option String} {c p : String} {st st' : St}
    (h : insertImported cfg a c p st = .ok st') : SameSC st st' := by
  cases a <;> simp only [insertImported] at h
  · split at h <;> cases h
    exact ⟨rfl, rfl⟩
  · cases h; exact ⟨rfl, rfl⟩

theorem meas_closed (cfg : Cfg) (proj : Project) : Closed cfg proj (Meas proj) where
  refl _ := ⟨Nat.le_refl _, Nat.le_refl _⟩
  trans h1 h2 := ⟨Nat.le_trans h1.1 h2.1, by have := h1.2; have := h2.2; omega⟩
  ensureNs st p := (sameSC_ensureNs st p).meas
  addFun _ _ _ _ _ _ := SameSC.meas ⟨rfl, rfl⟩
  addMethod st r n mi := (sameSC_addMethod st r n mi).meas
  addType _ _ _ _ _ := SameSC.meas ⟨rfl, rfl⟩
  imported _ _ _ _ _ h := (sameSC_insertImported h).meas
  placeholder a c p st := (sameSC_insertPlaceholder a c p st).meas
  variants _ _ _ := SameSC.meas ⟨rfl, rfl⟩
  unreadable st p _ _ := ⟨Nat.le_refl _, Nat.add_le_add_right (unseen_cons_le proj p st.seen) _⟩
  enter st p hs hl := by
    obtain ⟨items, hl⟩ := Option.isSome_iff_exists.mp hl
    have := unseen_cons_lt proj p st.seen items hl hs
    exact ⟨Nat.le_succ _, by show unseen proj (p :: st.seen) + (st.calls + 1) ≤ _; omega⟩

theorem loadFile_fuel (cfg : Cfg) (proj : Project) :
    ∀ (n : Nat) (q : String) (st : St), unseen proj st.seen < n → loadFile cfg proj n q st ≠ .outOfFuel
  | 0, _, _, h => by omega
  | n + 1, q, st, hn => by
    have items : ∀ (items : List Item) (st : St), unseen proj st.seen ≤ n →
        loadItems (stepItem cfg proj (loadFile cfg proj n) q) items st ≠ .outOfFuel := by
      intro items
      induction items with
      | nil => intro st _ h; cases h
      | cons it rest ih =>
        intro st hm h
        rw [loadItems] at h
        split at h
        · rename_i st1 h1
          have hmeas : Meas proj st st1 :=
            stepItem_preserves (meas_closed cfg proj) (loadFile_preserves (meas_closed cfg proj) n) h1
          exact ih st1 (Nat.le_trans hmeas.unseen_le hm) h
        · cases h
        · rename_i h1
          obtain ⟨path, its, hs, hl, hrec⟩ := stepItem_outOfFuel h1
          have := unseen_cons_lt proj path st.seen its hl hs
          exact loadFile_fuel cfg proj n path _ (by show unseen proj (path :: st.seen) < n; omega) hrec
    intro h
    rw [loadFile] at h
    split at h
    · cases h
    · cases h
    · exact items _ _ (by rw [(sameSC_ensureNs st q).1]; omega) ‹_›

/-! ## Visibility: `exported_syms(f)` after loading is exactly the public functions of `f`

`R` relates the state before and after a complete load of some file: for every namespace and
name, membership in `exported_syms` is either unchanged or already equal to what the property
demands (`Good`). It is closed under composition (`T.trans`; no proof needs that: `stepItem_T` composes the one
nested load by hand with `good_or_step`, `T` being false inside a nested load) and kept by the item loop
(`loopInv_T`), which is what makes re-entrant loads of the main file in a cycle harmless. -/

def mem (st : St) (p x : String) : Bool := (st.nsOf p).exported.contains x
def hasVal (st : St) (p x : String) : Bool := (alookup (st.nsOf p).values x).isSome

def Good (proj : Project) (st : St) (p x : String) : Prop := mem st p x = proj.publicFun p x

def R (proj : Project) (st st' : St) : Prop :=
  ∀ p x, mem st' p x = mem st p x ∨ Good proj st' p x

def NewSeenGood (proj : Project) (st st' : St) : Prop :=
  ∀ q, st'.seen.contains q = true → st.seen.contains q = false → (alookup proj q).isSome = true →
    ∀ x, Good proj st' q x

/-- What a complete load of a file guarantees. -/
def T (proj : Project) (st st' : St) : Prop := R proj st st' ∧ NewSeenGood proj st st' ∧
  ∀ q, st.seen.contains q = true → st'.seen.contains q = true

/-- `sub`: an exported name has a function definition in its file, so that the membership a pass
starts from (the default of `lastFlagOr`) is overridden whenever it is `true`; `val`: it is bound. -/
structure Inv (proj : Project) (st : St) : Prop where
  sub : ∀ p x, mem st p x = true → funFlags x (itemsOf proj p) ≠ []
  val : ∀ p x, mem st p x = true → hasVal st p x = true

theorem nsOf_setNs (st : St) (c : String) (ns : Ns) (p : String) :
    (st.setNs c ns).nsOf p = if c = p then ns else st.nsOf p := by
  simp only [St.nsOf, St.getNs, St.setNs, alookup, beq_iff_eq]
  split <;> rfl

theorem nsOf_ensureNs (st : St) (q p : String) : (st.ensureNs q).nsOf p = st.nsOf p := by
  unfold St.ensureNs
  split
  · rfl
  · rename_i hnone
    rw [nsOf_setNs]
    split
    · subst ‹q = p›; simp [St.nsOf, hnone]
    · rfl

theorem alookup_append {α : Type} (l1 l2 : List (String × α)) (x : String) :
    alookup (l1 ++ l2) x = (alookup l1 x).or (alookup l2 x) := by
  induction l1 with
  | nil => rfl
  | cons kv rest ih =>
    obtain ⟨k, v⟩ := kv
    simp only [List.cons_append, alookup]
    split
    · rfl
    · exact ih

def SameNs (st st' : St) : Prop :=
  ∀ p, (st'.nsOf p).values = (st.nsOf p).values ∧ (st'.nsOf p).exported = (st.nsOf p).exported

theorem sameNs_ensureNs (st : St) (q : String) : SameNs st (st.ensureNs q) :=
  fun p => by rw [nsOf_ensureNs]; exact ⟨rfl, rfl⟩

/-- `addType` is a `setNs` next to a change of the `types` table, which `nsOf` does not read. -/
theorem nsOf_addType (st : St) (c n : String) (k : TKind) (b : Bool) (p : String) :
    (st.addType c n k b).nsOf p =
      if c = p then { st.nsOf c with types := n :: (st.nsOf c).types } else st.nsOf p :=
  nsOf_setNs st c _ p

theorem sameNs_addType (st : St) (c n : String) (k : TKind) (b : Bool) : SameNs st (st.addType c n k b) := by
  intro p
  rw [nsOf_addType]
  split
  · subst ‹c = p›; exact ⟨rfl, rfl⟩
  · exact ⟨rfl, rfl⟩

theorem sameNs_addMethod (st : St) (r n : String) (mi : MInfo) : SameNs st (st.addMethod r n mi) := by
  unfold St.addMethod; split <;> exact fun p => ⟨rfl, rfl⟩

/-- Namespaces keep their `exported_syms` and only gain values. -/
def NsRel (st st' : St) : Prop :=
  ∀ p, (st'.nsOf p).exported = (st.nsOf p).exported ∧
    ∀ x, (alookup (st.nsOf p).values x).isSome = true → (alookup (st'.nsOf p).values x).isSome = true

theorem NsRel.refl (st : St) : NsRel st st := fun _ => ⟨rfl, fun _ h => h⟩

theorem NsRel.mem {st st' : St} (h : NsRel st st') (p x : String) : mem st' p x = mem st p x := by
  unfold Imports.mem; rw [(h p).1]

theorem SameNs.nsRel {st st' : St} (h : SameNs st st') : NsRel st st' :=
  fun p => ⟨(h p).2, fun x hx => by rw [(h p).1]; exact hx⟩

theorem nsRel_prepend (st : St) (c : String) (extra : List (String × Val)) :
    NsRel st (st.setNs c { st.nsOf c with values := extra ++ (st.nsOf c).values }) := by
  intro p
  rw [nsOf_setNs]
  split
  · subst ‹c = p›
    exact ⟨rfl, fun x hx => by rw [alookup_append, Option.isSome_or, hx, Bool.or_true]⟩
  · exact ⟨rfl, fun x hx => hx⟩

theorem nsRel_insertPlaceholder (a : Option String) (c p : String) (st : St) :
    NsRel st (insertPlaceholder a c p st) := by
  unfold insertPlaceholder
  split
  · exact nsRel_prepend st c [_]
  · exact NsRel.refl st

theorem nsRel_insertImported {cfg : Cfg} {a : Option String} {c p : String} {st st' : St}
    (h : insertImported cfg a c p st = .ok st') : NsRel st st' := by
  cases a <;> simp only [insertImported] at h
  · split at h <;> cases h
    exact nsRel_prepend st c _
  · cases h; exact nsRel_prepend st c [_]

theorem funFlags_append (x : String) (l1 l2 : List Item) :
    funFlags x (l1 ++ l2) = funFlags x l1 ++ funFlags x l2 := by
  induction l1 with
  | nil => rfl
  | cons it rest ih =>
    cases it <;> simp only [List.cons_append, funFlags, ih]
    split <;> simp

@[simp] theorem isType_imp (p : String) (a : Option String) : (Item.imp p a).isType = false := rfl
@[simp] theorem isType_fn (b : Bool) (n : String) (t : Nat) (bd : Option Probe) : (Item.fn b n t bd).isType = false := rfl
@[simp] theorem isType_struct (b : Bool) (n : String) : (Item.struct b n).isType = true := rfl
@[simp] theorem isType_enum (b : Bool) (n : String) (vs : List String) : (Item.enum b n vs).isType = true := rfl
@[simp] theorem isType_meth (b : Bool) (r n : String) (t : Nat) : (Item.meth b r n t).isType = false := rfl

theorem funFlags_sortItems (x : String) (items : List Item) :
    funFlags x (sortItems items) = funFlags x items := by
  have h : funFlags x (items.filter Item.isType) = [] ∧
      funFlags x (items.filter (fun i => !i.isType)) = funFlags x items := by
    induction items with
    | nil => exact ⟨rfl, rfl⟩
    | cons it rest ih => cases it <;> simp [List.filter, funFlags, ih.1, ih.2]
  rw [sortItems, funFlags_append, h.1, h.2]; rfl

theorem funFlags_of_mem (pub : Bool) (name : String) (tag : Nat) (body : Option Probe)
    (items : List Item) (h : Item.fn pub name tag body ∈ items) : funFlags name items ≠ [] := by
  obtain ⟨l1, l2, rfl⟩ := List.append_of_mem h
  simp [funFlags_append, funFlags]

theorem mem_of_mem_sortItems (it : Item) (items : List Item) (h : it ∈ sortItems items) : it ∈ items := by
  rcases List.mem_append.mp h with h | h <;> exact (List.mem_filter.mp h).1

def lastFlagOr (d : Bool) (pre : List Item) (x : String) : Bool := ((funFlags x pre).getLast?).getD d

theorem lastFlagOr_snoc_other (d : Bool) (pre : List Item) (it : Item) (x : String)
    (h : funFlags x [it] = []) : lastFlagOr d (pre ++ [it]) x = lastFlagOr d pre x := by
  unfold lastFlagOr; rw [funFlags_append, h, List.append_nil]

theorem lastFlagOr_snoc_fn (d : Bool) (pre : List Item) (pub : Bool) (name : String) (tag : Nat)
    (body : Option Probe) : lastFlagOr d (pre ++ [.fn pub name tag body]) name = pub := by
  unfold lastFlagOr; rw [funFlags_append]; simp [funFlags]

theorem publicFun_eq_lastFlagOr (d : Bool) (items : List Item) (x : String)
    (h : d = true → funFlags x items ≠ []) :
    lastFlagOr d (sortItems items) x = publicFun items x := by
  unfold lastFlagOr publicFun
  rw [funFlags_sortItems]
  cases hl : (funFlags x items).getLast? with
  | some b => rfl
  | none =>
    have : funFlags x items = [] := List.getLast?_eq_none_iff.mp hl
    cases d with
    | false => rfl
    | true => exact absurd this (h rfl)

theorem Good_congr {proj : Project} {st st' : St} {p x : String}
    (h : mem st' p x = mem st p x) (g : Good proj st p x) : Good proj st' p x := by
  unfold Good at *; rw [h]; exact g

theorem good_or_step {proj : Project} {st st' : St} {p x : String} {v : Bool}
    (h : mem st p x = v ∨ Good proj st p x) (e : mem st' p x = mem st p x ∨ Good proj st' p x) :
    mem st' p x = v ∨ Good proj st' p x := by
  rcases e with e | g
  · exact h.imp e.trans (Good_congr e)
  · exact Or.inr g

theorem Good.step {proj : Project} {st st' : St} {p x : String}
    (g : Good proj st p x) (e : mem st' p x = mem st p x ∨ Good proj st' p x) : Good proj st' p x :=
  e.elim (Good_congr · g) id

theorem T.trans {proj : Project} {a b c : St} (h1 : T proj a b) (h2 : T proj b c) : T proj a c := by
  obtain ⟨r1, n1, s1⟩ := h1
  obtain ⟨r2, n2, s2⟩ := h2
  refine ⟨fun p x => good_or_step (r1 p x) (r2 p x), ?_, fun q hq => s2 q (s1 q hq)⟩
  intro q hc ha hr x
  cases hb : b.seen.contains q with
  | true => exact (n1 q hb ha hr x).step (r2 q x)
  | false => exact n2 q hc hb hr x

theorem T_of_nsRel {proj : Project} {st st' : St} (h : NsRel st st')
    (hs : ∀ q, st.seen.contains q = true → st'.seen.contains q = true)
    (hn : ∀ q, st'.seen.contains q = true → st.seen.contains q = false → (alookup proj q).isSome = false) :
    T proj st st' := by
  refine ⟨fun p x => Or.inl (h.mem p x), ?_, hs⟩
  intro q hc ha hr x
  rw [hn q hc ha] at hr; cases hr

theorem Inv_of_nsRel {proj : Project} {st st' : St} (hi : Inv proj st) (h : NsRel st st') : Inv proj st' :=
  ⟨fun p x hm => hi.sub p x (by rw [← h.mem p x]; exact hm),
   fun p x hm => (h p).2 x (hi.val p x (by rw [← h.mem p x]; exact hm))⟩

/-- What the pass assumes of the loader for nested files, and `loadFile_T` proves of `loadFile`. -/
def RecSpec (proj : Project) (recLoad : String → St → Out St) : Prop :=
  ∀ q st st', recLoad q st = .ok st' → Inv proj st →
    T proj st st' ∧ Inv proj st' ∧ ∀ x, Good proj st' q x

theorem contains_cons_false {q p : String} {s : List String}
    (h : (p :: s).contains q = false) : q ≠ p ∧ s.contains q = false := by
  simp only [List.contains_cons, Bool.or_eq_false_iff] at h
  exact ⟨by intro e; subst e; simp at h, h.2⟩

/-- A `fun` item is excluded: it is the one item that changes an `exported_syms`, does not keep `T`, and
is followed through `LoopInv` (`addFun_pass`). -/
theorem stepItem_T (cfg : Cfg) (proj : Project) (recLoad : String → St → Out St)
    (hrec : RecSpec proj recLoad) (cur : String) (it : Item) (st st' : St)
    (hnf : ∀ b n t bd, it ≠ .fn b n t bd) (hinv : Inv proj st)
    (h : stepItem cfg proj recLoad cur it st = .ok st') : T proj st st' ∧ Inv proj st' := by
  have same : ∀ {s' : St}, NsRel st s' → s'.seen = st.seen → T proj st s' ∧ Inv proj s' := by
    intro s' hn hs
    refine ⟨T_of_nsRel hn (fun q hq => by rw [hs]; exact hq) ?_, Inv_of_nsRel hinv hn⟩
    intro q hc ha; rw [hs] at hc; rw [hc] at ha; cases ha
  cases it with
  | fn pub name tag body => exact absurd rfl (hnf pub name tag body)
  | meth => cases h; exact same (sameNs_addMethod _ _ _ _).nsRel (sameSC_addMethod ..).1
  | struct => cases h; exact same (sameNs_addType _ _ _ _ _).nsRel rfl
  | «enum» => cases h; exact same (sameNs_addType _ _ _ _ _).nsRel rfl
  | imp path alias =>
    rcases stepItem_imp_ok h with ⟨_, hi | rfl⟩ | ⟨hs, hl, rfl⟩ | ⟨hs, hl, st1, h1, hi⟩
    · exact same (nsRel_insertImported hi) (sameSC_insertImported hi).1
    · exact same (nsRel_insertPlaceholder _ _ _ _) (sameSC_insertPlaceholder ..).1
    · -- unreadable: the only new path in `paths_seen` is not a project file
      have hn : NsRel st (insertPlaceholder alias cur path
          { st with seen := path :: st.seen, diags := st.diags ++ [path] }) := nsRel_insertPlaceholder _ _ _ _
      have hseen : (insertPlaceholder alias cur path
          { st with seen := path :: st.seen, diags := st.diags ++ [path] }).seen = path :: st.seen :=
        (sameSC_insertPlaceholder ..).1
      refine ⟨T_of_nsRel hn ?_ ?_, Inv_of_nsRel hinv hn⟩
      · intro q hq; rw [hseen, List.contains_cons, hq, Bool.or_true]
      · intro q hc ha
        rw [hseen, List.contains_cons, ha, Bool.or_false] at hc
        rw [← (beq_iff_eq.mp hc : q = path)] at hl
        rw [hl]; rfl
    · -- the file is loaded: compose what the nested load guarantees with the two bracketing updates,
      -- neither of which touches an `exported_syms`
      -- `Inv` reads namespaces only, so it holds of `st` with `paths_seen` and the call counter updated
      obtain ⟨⟨r1, n1, s1⟩, i1, g1⟩ := hrec path _ st1 h1 (Inv_of_nsRel hinv (NsRel.refl st))
      have hn3 := nsRel_insertImported hi
      have hs3 : st'.seen = st1.seen := (sameSC_insertImported hi).1
      refine ⟨⟨fun p x => good_or_step (r1 p x) (Or.inl (hn3.mem p x)), ?_, ?_⟩, Inv_of_nsRel i1 hn3⟩
      · intro q hc ha hr x
        rw [hs3] at hc
        refine Good_congr (hn3.mem q x) ?_
        by_cases hq : q = path
        · subst hq; exact g1 x
        · exact n1 q hc (by rw [List.contains_cons, ha, Bool.or_false]; exact beq_eq_false_iff_ne.mpr hq) hr x
      · intro q hq
        rw [hs3]
        exact s1 q (by rw [List.contains_cons, hq, Bool.or_true])

/-- The state `st` after the items `pre` of file `cur`, started in `st0`: `a` other namespaces as `R`;
`b` in `cur` a name has the flag of its last definition in `pre` (or is already good); `c` the second
part of `T` for files other than `cur`; `d` its third part, `paths_seen` only grows. -/
structure LoopInv (proj : Project) (cur : String) (st0 : St) (pre : List Item) (st : St) : Prop where
  a : ∀ p x, p ≠ cur → mem st p x = mem st0 p x ∨ Good proj st p x
  b : ∀ x, mem st cur x = lastFlagOr (mem st0 cur x) pre x ∨ Good proj st cur x
  c : ∀ q, st.seen.contains q = true → st0.seen.contains q = false → q ≠ cur →
        (alookup proj q).isSome = true → ∀ x, Good proj st q x
  d : ∀ q, st0.seen.contains q = true → st.seen.contains q = true

theorem loopInv_T {proj : Project} {cur : String} {st0 st st' : St} {pre : List Item}
    (h : LoopInv proj cur st0 pre st) (ht : T proj st st') : LoopInv proj cur st0 pre st' := by
  obtain ⟨r, n, s⟩ := ht
  refine ⟨fun p x hp => good_or_step (h.a p x hp) (r p x), fun x => good_or_step (h.b x) (r cur x), ?_,
    fun q hq => s q (h.d q hq)⟩
  intro q hc h0 hq hr x
  cases hb : st.seen.contains q with
  | true => exact (h.c q hb h0 hq hr x).step (r q x)
  | false => exact n q hc hb hr x

theorem mem_addFun (st : St) (cur : String) (pub : Bool) (name : String) (tag : Nat)
    (body : Option Probe) (p x : String) :
    mem (st.addFun cur pub name tag body) p x =
      if p = cur ∧ x = name then pub else mem st p x := by
  unfold mem St.addFun
  rw [nsOf_setNs]
  by_cases hp : cur = p
  · subst hp
    by_cases hx : x = name
    · subst hx
      cases pub <;> simp [List.contains_eq_mem]
    · cases pub <;> simp [hx, List.contains_eq_mem]
  · simp [hp, Ne.symm hp]

theorem values_addFun (st : St) (cur : String) (pub : Bool) (name : String) (tag : Nat)
    (body : Option Probe) (p x : String) :
    alookup ((st.addFun cur pub name tag body).nsOf p).values x =
      if p = cur ∧ x = name then some (Val.fn cur tag pub body) else alookup (st.nsOf p).values x := by
  unfold St.addFun
  rw [nsOf_setNs]
  by_cases hp : cur = p
  · subst hp
    by_cases hx : name = x
    · subst hx; simp [alookup]
    · simp [alookup, hx, Ne.symm hx]
  · simp [hp, Ne.symm hp]

theorem hasVal_addFun (st : St) (cur : String) (pub : Bool) (name : String) (tag : Nat)
    (body : Option Probe) (p x : String) (h : hasVal st p x = true ∨ (p = cur ∧ x = name)) :
    hasVal (st.addFun cur pub name tag body) p x = true := by
  unfold hasVal at *
  rw [values_addFun]
  split
  · rfl
  · exact h.resolve_right ‹_›

/-- A `Fun` item: its own name gets the item's flag, every other membership stays. -/
theorem addFun_pass {proj : Project} {cur : String} {st0 st : St} {pre : List Item} {pub : Bool} {name : String}
    {tag : Nat} {body : Option Probe} (hdef : funFlags name (itemsOf proj cur) ≠ [])
    (hinv : Inv proj st) (hl : LoopInv proj cur st0 pre st) :
    Inv proj (st.addFun cur pub name tag body) ∧
      LoopInv proj cur st0 (pre ++ [.fn pub name tag body]) (st.addFun cur pub name tag body) := by
  have other : ∀ p x, ¬(p = cur ∧ x = name) → mem (st.addFun cur pub name tag body) p x = mem st p x :=
    fun p x hc => by rw [mem_addFun, if_neg hc]
  refine ⟨⟨?_, ?_⟩, ⟨?_, ?_, ?_, hl.d⟩⟩
  · intro p x hm
    by_cases hc : p = cur ∧ x = name
    · obtain ⟨rfl, rfl⟩ := hc; exact hdef
    · rw [other p x hc] at hm; exact hinv.sub p x hm
  · intro p x hm
    by_cases hc : p = cur ∧ x = name
    · exact hasVal_addFun _ _ _ _ _ _ _ _ (Or.inr hc)
    · rw [other p x hc] at hm
      exact hasVal_addFun _ _ _ _ _ _ _ _ (Or.inl (hinv.val p x hm))
  · exact fun p x hp => good_or_step (hl.a p x hp) (Or.inl (other p x fun hc => hp hc.1))
  · intro x
    by_cases hx : x = name
    · subst hx
      exact Or.inl (by rw [mem_addFun, if_pos ⟨rfl, rfl⟩, lastFlagOr_snoc_fn])
    · rw [lastFlagOr_snoc_other _ _ _ _ (by simp [funFlags, Ne.symm hx])]
      exact good_or_step (hl.b x) (Or.inl (other cur x fun hc => hx hc.2))
  · exact fun q hc h0 hq hr x => Good_congr (other q x fun hc => hq hc.1) (hl.c q hc h0 hq hr x)

theorem pass_spec (cfg : Cfg) (proj : Project) (recLoad : String → St → Out St)
    (hrec : RecSpec proj recLoad) (cur : String) (st0 : St) :
    ∀ (suf pre : List Item) (st st' : St), (∀ it, it ∈ suf → it ∈ itemsOf proj cur) →
      Inv proj st → LoopInv proj cur st0 pre st →
      loadItems (stepItem cfg proj recLoad cur) suf st = .ok st' →
      Inv proj st' ∧ LoopInv proj cur st0 (pre ++ suf) st'
  | [], pre, st, st', _, hinv, hl, h => by
    cases h
    rw [List.append_nil]; exact ⟨hinv, hl⟩
  | it :: rest, pre, st, st', hmem, hinv, hl, h => by
    obtain ⟨st1, h1, h2⟩ := loadItems_cons_ok h
    have key : Inv proj st1 ∧ LoopInv proj cur st0 (pre ++ [it]) st1 := by
      by_cases hf : ∃ b n t bd, it = .fn b n t bd
      · obtain ⟨pub, name, tag, body, rfl⟩ := hf
        cases h1
        exact addFun_pass (funFlags_of_mem pub name tag body _ (hmem _ (List.mem_cons_self ..))) hinv hl
      · have hnf : ∀ b n t bd, it ≠ .fn b n t bd := fun b n t bd e => hf ⟨b, n, t, bd, e⟩
        obtain ⟨ht, hi1⟩ := stepItem_T cfg proj recLoad hrec cur it st st1 hnf hinv h1
        have hl1 := loopInv_T hl ht
        refine ⟨hi1, ⟨hl1.a, fun x => ?_, hl1.c, hl1.d⟩⟩
        have : funFlags x [it] = [] := by
          cases it <;> first | rfl | exact absurd rfl (hnf _ _ _ _)
        rw [lastFlagOr_snoc_other _ _ _ _ this]
        exact hl1.b x
    have := pass_spec cfg proj recLoad hrec cur st0 rest (pre ++ [it]) st1 st'
      (fun i hi => hmem i (List.mem_cons_of_mem _ hi)) key.1 key.2 h2
    rwa [List.append_assoc] at this

/-- A complete load of `q` guarantees `T`, keeps `Inv`, and leaves `q` exporting exactly its public functions. -/
theorem loadFile_T (cfg : Cfg) (proj : Project) : ∀ n, RecSpec proj (loadFile cfg proj n)
  | 0, _, _, _, h, _ => by cases h
  | n + 1, q, st, st', h, hinv => by
    obtain ⟨st1, h1, rfl⟩ := loadFile_succ_ok h
    have hn0 := (sameNs_ensureNs st q).nsRel
    have hs0 : (st.ensureNs q).seen = st.seen := (sameSC_ensureNs st q).1
    have hinv0 := Inv_of_nsRel hinv hn0
    have hl0 : LoopInv proj q (st.ensureNs q) [] (st.ensureNs q) :=
      ⟨fun _ _ _ => Or.inl rfl, fun _ => Or.inl rfl,
       fun q' hc h0 => (by rw [hc] at h0; cases h0), fun _ hq => hq⟩
    obtain ⟨hinv1, hl1⟩ := pass_spec cfg proj _ (loadFile_T cfg proj n) q (st.ensureNs q)
      (sortItems (itemsOf proj q)) [] (st.ensureNs q) st1
      (fun it hit => mem_of_mem_sortItems it _ hit) hinv0 hl0 h1
    rw [List.nil_append] at hl1
    have hnv : NsRel st1 (insertVariants q (itemsOf proj q) st1) := nsRel_prepend st1 q _
    -- after all items `lastFlagOr` is `publicFun`, so the file's own names are good
    have good1 : ∀ x, Good proj st1 q x := by
      intro x
      rcases hl1.b x with e | g
      · unfold Good Project.publicFun
        rw [e]
        exact publicFun_eq_lastFlagOr _ _ x (fun hd => hinv0.sub q x hd)
      · exact g
    have good : ∀ x, Good proj (insertVariants q (itemsOf proj q) st1) q x :=
      fun x => Good_congr (hnv.mem q x) (good1 x)
    refine ⟨⟨?_, ?_, ?_⟩, Inv_of_nsRel hinv1 hnv, good⟩
    · intro p x
      by_cases hp : p = q
      · subst hp; exact Or.inr (good x)
      · exact good_or_step (good_or_step (Or.inl (hn0.mem p x)) (hl1.a p x hp)) (Or.inl (hnv.mem p x))
    · intro q' hc ha hr x
      by_cases hq : q' = q
      · subst hq; exact good x
      · exact Good_congr (hnv.mem q' x) (hl1.c q' hc (by rw [hs0]; exact ha) hq hr x)
    · exact fun q' hq => hl1.d q' (by rw [hs0]; exact hq)

theorem Inv_init (proj : Project) : Inv proj St.init := by
  refine ⟨?_, ?_⟩ <;> intro p x hm <;>
    simp [mem, St.init, St.nsOf, St.getNs, alookup, freshNs] at hm

/-! ## Soundness of what is in scope: nothing private crosses a file boundary (functions)

Unary invariant, so it holds through any import graph: a function value bound in namespace `p`
was defined in `p` itself or by a `public fun`; and an exported function value is public. -/

structure VisInv (st : St) : Prop where
  u : ∀ p x o t b body, alookup (st.nsOf p).values x = some (Val.fn o t b body) → o = p ∨ b = true
  e : ∀ p x o t b body, mem st p x = true →
        alookup (st.nsOf p).values x = some (Val.fn o t b body) → b = true

theorem SameNs.visInv {st st' : St} (h : SameNs st st') (hi : VisInv st) : VisInv st' := by
  refine ⟨?_, ?_⟩
  · intro p x o t b body hl
    rw [(h p).1] at hl; exact hi.u p x o t b body hl
  · intro p x o t b body hm hl
    rw [(h p).1] at hl
    unfold mem at hm; rw [(h p).2] at hm
    exact hi.e p x o t b body hm hl

theorem alookup_filter_key {α : Type} (f : String → Bool) (l : List (String × α)) (x : String) (v : α)
    (h : alookup (l.filter (fun kv => f kv.1)) x = some v) : f x = true ∧ alookup l x = some v := by
  induction l with
  | nil => cases h
  | cons kv rest ih =>
    obtain ⟨k, w⟩ := kv
    rw [List.filter_cons] at h
    simp only [alookup]
    by_cases hk : k = x
    · subst hk
      by_cases hf : f k = true
      · rw [if_pos hf] at h
        simpa [alookup, hf] using h
      · rw [if_neg hf] at h
        exact absurd (ih h).1 hf
    · have hk' : (k == x) = false := beq_eq_false_iff_ne.mpr hk
      rw [hk']
      split at h
      · simp only [alookup, hk'] at h; exact ih h
      · exact ih h

theorem visInv_prepend (st : St) (c : String) (extra : List (String × Val))
    (hex : ∀ x o t b body, alookup extra x = some (Val.fn o t b body) → b = true)
    (hi : VisInv st) :
    VisInv (st.setNs c { st.nsOf c with values := extra ++ (st.nsOf c).values }) := by
  have key : ∀ p x o t b body,
      alookup ((st.setNs c { st.nsOf c with values := extra ++ (st.nsOf c).values }).nsOf p).values x
        = some (Val.fn o t b body) →
      b = true ∨ alookup (st.nsOf p).values x = some (Val.fn o t b body) := by
    intro p x o t b body hl
    rw [nsOf_setNs] at hl
    split at hl
    · subst ‹c = p›
      rw [alookup_append] at hl
      cases he : alookup extra x with
      | some v => rw [he] at hl; cases hl; exact Or.inl (hex x o t b body he)
      | none => rw [he] at hl; exact Or.inr hl
    · exact Or.inr hl
  refine ⟨?_, ?_⟩
  · intro p x o t b body hl
    exact (key p x o t b body hl).elim Or.inr (hi.u p x o t b body)
  · intro p x o t b body hm hl
    rw [(nsRel_prepend st c extra).mem] at hm
    exact (key p x o t b body hl).elim id (hi.e p x o t b body hm)

theorem alookup_map_const (vs : List String) (c : Val) (x : String) (v : Val)
    (h : alookup (vs.map fun n => (n, c)) x = some v) : v = c := by
  induction vs with
  | nil => cases h
  | cons n rest ih =>
    simp only [List.map, alookup] at h
    split at h
    · cases h; rfl
    · exact ih h

theorem alookup_variantValues (cur : String) (items : List Item) (x : String) (v : Val)
    (h : alookup (variantValues cur items) x = some v) : ∃ e, v = Val.variant cur e := by
  induction items with
  | nil => cases h
  | cons it rest ih =>
    cases it with
    | «enum» pub name vs =>
      rw [variantValues, alookup_append] at h
      cases he : alookup (variantValues cur rest) x with
      | some w => rw [he] at h; cases h; exact ih he
      | none => rw [he] at h; exact ⟨name, alookup_map_const _ _ _ _ h⟩
    | _ => exact ih h

theorem visInv_addFun (st : St) (cur : String) (pub : Bool) (name : String) (tag : Nat)
    (body : Option Probe) (hi : VisInv st) : VisInv (st.addFun cur pub name tag body) := by
  refine ⟨?_, ?_⟩
  · intro p x o t b bd hl
    rw [values_addFun] at hl
    split at hl
    · cases hl; exact Or.inl (‹p = cur ∧ x = name›).1.symm
    · exact hi.u p x o t b bd hl
  · intro p x o t b bd hm hl
    rw [mem_addFun] at hm
    rw [values_addFun] at hl
    by_cases hc : p = cur ∧ x = name
    · rw [if_pos hc] at hm hl; cases hl; exact hm
    · rw [if_neg hc] at hm hl; exact hi.e p x o t b bd hm hl

theorem single_noPriv {k : String} {v : Val} (hv : ∀ o t b body, v ≠ .fn o t b body) :
    ∀ x o t b body, alookup [(k, v)] x = some (Val.fn o t b body) → b = true := by
  intro x o t b body hl
  simp only [alookup] at hl
  split at hl
  · cases hl; exact absurd rfl (hv o t b body)
  · cases hl

theorem visInv_insertImported {cfg : Cfg} {a : Option String} {c p : String} {st st' : St}
    (h : insertImported cfg a c p st = .ok st') (hi : VisInv st) : VisInv st' := by
  cases a <;> simp only [insertImported] at h
  · split at h <;> cases h
    refine visInv_prepend st c _ ?_ hi
    intro x o t b body hl
    obtain ⟨hm, hv⟩ := alookup_filter_key (fun k => (st.nsOf p).exported.contains k) _ x _ hl
    exact hi.e p x o t b body hm hv
  · cases h
    exact visInv_prepend st c [_] (single_noPriv fun _ _ _ _ => nofun) hi

theorem visInv_insertPlaceholder (a : Option String) (c p : String) (st : St) (hi : VisInv st) :
    VisInv (insertPlaceholder a c p st) := by
  unfold insertPlaceholder
  split
  · exact visInv_prepend st c [_] (single_noPriv fun _ _ _ _ => nofun) hi
  · exact hi

theorem visInv_closed (cfg : Cfg) (proj : Project) : Closed cfg proj fun st st' => VisInv st → VisInv st' where
  refl _ := id
  trans h1 h2 := h2 ∘ h1
  ensureNs st p := (sameNs_ensureNs st p).visInv
  addFun st c b n t bd := visInv_addFun st c b n t bd
  addMethod st r n mi := (sameNs_addMethod st r n mi).visInv
  addType st c n k b := (sameNs_addType st c n k b).visInv
  imported _ _ _ _ _ h := visInv_insertImported h
  placeholder a c p st := visInv_insertPlaceholder a c p st
  variants c items st := by
    refine visInv_prepend st c _ ?_
    intro x o t b body hl
    obtain ⟨e, he⟩ := alookup_variantValues c items x _ hl
    cases he
  unreadable _ _ _ _ := SameNs.visInv fun _ => ⟨rfl, rfl⟩
  enter _ _ _ _ := SameNs.visInv fun _ => ⟨rfl, rfl⟩

theorem visInv_init : VisInv St.init := by
  have hn : ∀ p x v, alookup (St.init.nsOf p).values x = some v → v = Val.builtin :=
    fun p x v h => alookup_map_const preludeNames Val.builtin x v h
  exact ⟨fun p x _ _ _ _ hl => (nomatch hn p x _ hl), fun p x _ _ _ _ _ hl => (nomatch hn p x _ hl)⟩

end Imports
