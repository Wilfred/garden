import GardenVerif.Model.ValueEq
import GardenVerif.Lemmas.Types
/-!
`valueEq` decides Lean equality of `LitValue`; of the pinned tree's `valueEqPinned` only the diagonal is stated
(`valueEqPinned a a = !a.hasFloatOrDict`).
-/

/- Recursion on the left value only (the right one is taken apart by `cases`), so that it is
structural. -/
mutual
theorem valueEq_iff : ∀ (a b : LitValue), valueEq a b = true ↔ a = b
  | .int a => fun b => by cases b <;> simp [valueEq]
  | .float a => fun b => by cases b <;> simp [valueEq]
  | .str a => fun b => by cases b <;> simp [valueEq]
  | .list a => fun b => by cases b <;> simp [valueEq, listEq_iff a]
  | .tuple a => fun b => by cases b <;> simp [valueEq, listEq_iff a]
  | .dict a => fun b => by cases b <;> simp [valueEq, fieldsEq_iff a]
  | .variant t i p => fun b => by
      cases b <;> simp [valueEq, optEq_iff p, Ty.beq_iff, and_assoc]
  | .struct t f => fun b => by cases b <;> simp [valueEq, fieldsEq_iff f, Ty.beq_iff]
theorem listEq_iff : ∀ (a b : List LitValue), listEq a b = true ↔ a = b
  | [] => fun b => by cases b <;> simp [listEq]
  | a :: as => fun b => by cases b <;> simp [listEq, valueEq_iff a, listEq_iff as]
theorem fieldsEq_iff : ∀ (a b : List (String × LitValue)), fieldsEq a b = true ↔ a = b
  | [] => fun b => by cases b <;> simp [fieldsEq]
  | a :: as => fun b => by cases b <;> simp [fieldsEq, pairEq_iff a, fieldsEq_iff as]
theorem pairEq_iff : ∀ (a b : String × LitValue), pairEq a b = true ↔ a = b
  | (k, v) => fun (k2, v2) => by simp [pairEq, valueEq_iff v]
theorem optEq_iff : ∀ (a b : Option LitValue), optEq a b = true ↔ a = b
  | none => fun b => by cases b <;> simp [optEq]
  | some a => fun b => by cases b <;> simp [optEq, valueEq_iff a]
end

mutual
/-- Where the pinned `eq` has no arm. -/
def LitValue.hasFloatOrDict : LitValue → Bool
  | .int _ => false
  | .float _ => true
  | .str _ => false
  | .list a => LitValue.anyFD a
  | .tuple a => LitValue.anyFD a
  | .dict _ => true
  | .variant _ _ p => LitValue.optFD p
  | .struct _ f => LitValue.fieldsFD f
def LitValue.anyFD : List LitValue → Bool
  | [] => false
  | a :: as => LitValue.hasFloatOrDict a || LitValue.anyFD as
def LitValue.fieldsFD : List (String × LitValue) → Bool
  | [] => false
  | a :: as => LitValue.pairFD a || LitValue.fieldsFD as
def LitValue.pairFD : String × LitValue → Bool
  | (_, v) => LitValue.hasFloatOrDict v
def LitValue.optFD : Option LitValue → Bool
  | none => false
  | some a => LitValue.hasFloatOrDict a
end

mutual
theorem valueEqPinned_self : ∀ (a : LitValue), valueEqPinned a a = !a.hasFloatOrDict
  | .int a => by simp [valueEqPinned, LitValue.hasFloatOrDict]
  | .float a => by simp [valueEqPinned, LitValue.hasFloatOrDict]
  | .str a => by simp [valueEqPinned, LitValue.hasFloatOrDict]
  | .list a => by simp [valueEqPinned, LitValue.hasFloatOrDict, listEqPinned_self a]
  | .tuple a => by simp [valueEqPinned, LitValue.hasFloatOrDict, listEqPinned_self a]
  | .dict a => by simp [valueEqPinned, LitValue.hasFloatOrDict]
  | .variant t i p => by
      simp [valueEqPinned, LitValue.hasFloatOrDict, optEqPinned_self p, Ty.beq_refl]
  | .struct t f => by
      simp [valueEqPinned, LitValue.hasFloatOrDict, fieldsEqPinned_self f, Ty.beq_refl]
theorem listEqPinned_self : ∀ (a : List LitValue), listEqPinned a a = !LitValue.anyFD a
  | [] => by simp [listEqPinned, LitValue.anyFD]
  | a :: as => by simp [listEqPinned, LitValue.anyFD, valueEqPinned_self a, listEqPinned_self as]
theorem fieldsEqPinned_self : ∀ (a : List (String × LitValue)), fieldsEqPinned a a = !LitValue.fieldsFD a
  | [] => by simp [fieldsEqPinned, LitValue.fieldsFD]
  | a :: as => by simp [fieldsEqPinned, LitValue.fieldsFD, pairEqPinned_self a, fieldsEqPinned_self as]
theorem pairEqPinned_self : ∀ (a : String × LitValue), pairEqPinned a a = !LitValue.pairFD a
  | (k, v) => by simp [pairEqPinned, LitValue.pairFD, valueEqPinned_self v]
theorem optEqPinned_self : ∀ (a : Option LitValue), optEqPinned a a = !LitValue.optFD a
  | none => by simp [optEqPinned, LitValue.optFD]
  | some a => by simp [optEqPinned, LitValue.optFD, valueEqPinned_self a]
end
