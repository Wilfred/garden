import GardenVerif.Lemmas.RefSem
import GardenVerif.Model.Extract
/-! For C20 – C22: the approximation relation `LeX` on outcomes of the fuel-based reference semantics; the
simulation between two `W`-transforms of a program (`SimW`) for any locally sound wrapper (`Local`), with fuel
monotonicity as the case of two identities; what a call-free pure expression does (`arith_agree`, `arithPure`). -/

namespace Extract
open Machine (Expr Case Dest BinOp Program FunDef EnumDef)
open RefSem Validators

def isTO : Res → Bool
  | .timeout => true
  | _ => false

def failedBy : Option EK → Res → Bool
  | some k, .err k' => k == k'
  | _, _ => false

/-- `a` approximates `b`: `a` ran out of fuel, or they are the same, or one of them is the
designated failure (`oa` for the left, `ob` for the right side). -/
def LeX (oa ob : Option EK) (a b : Res × RefSem.St) : Prop :=
  isTO a.1 = true ∨ a = b ∨ failedBy oa a.1 = true ∨ failedBy ob b.1 = true

theorem LeX.rfl {oa ob a} : LeX oa ob a a := Or.inr (Or.inl (Eq.refl a))

theorem LeX.of_eq {oa ob a b} (h : a = b) : LeX oa ob a b := Or.inr (Or.inl h)

theorem LeX.to {oa ob s b} : LeX oa ob (.timeout, s) b := Or.inl (Eq.refl true)

theorem failedBy_err {o r} (h : failedBy o r = true) : ∃ k, r = .err k := by
  cases o <;> cases r <;> simp [failedBy] at h ⊢

theorem isTO_eq {r} (h : isTO r = true) : r = .timeout := by
  cases r <;> simp [isTO] at h ⊢

theorem failedBy_some {fk : EK} {r : Res} (h : failedBy (some fk) r = true) : r = .err fk := by
  cases r <;> simp [failedBy] at h ⊢; exact h.symm

theorem isTO_of_outcome {r : Res} (h : r.outcome ≠ .timeout) : isTO r = false := by
  cases r <;> simp [Res.outcome, isTO] at h ⊢

/-- `bind`, `loopStep` and `funResult` pass a timeout or an error on unchanged; so `LeX` goes through
them once it does where the two outcomes are the same. -/
theorem LeX.lift {oa ob} {a b : Res × RefSem.St} {F G : Res × RefSem.St → Res × RefSem.St}
    (hF : ∀ s, F (.timeout, s) = (.timeout, s)) (hFe : ∀ k s, F (.err k, s) = (.err k, s))
    (hGe : ∀ k s, G (.err k, s) = (.err k, s)) (h : LeX oa ob a b) (hd : LeX oa ob (F a) (G a)) :
    LeX oa ob (F a) (G b) := by
  obtain ⟨r, s⟩ := a
  obtain ⟨r', s'⟩ := b
  rcases h with h | h | h | h
  · have := isTO_eq h; simp only at this; subst this
    rw [hF]; exact LeX.to
  · cases h; exact hd
  · obtain ⟨e, he⟩ := failedBy_err h
    simp only at he; subst he
    rw [hFe]; exact Or.inr (Or.inr (Or.inl h))
  · obtain ⟨e, he⟩ := failedBy_err h
    simp only at he; subst he
    rw [hGe]; exact Or.inr (Or.inr (Or.inr h))

def leRel (oa ob : Option EK) : EvalRel where
  toValRel := ValRel.eq
  C s s' := s = s'
  E _ _ s1 s1' := s1 = s1'
  Q _ _ a b := LeX oa ob a b
  start h := h
  trans _ h := h
  done h hr := by subst h; rw [hr.eq]; exact LeX.rfl
  emit _ h := by subst h; exact LeX.rfl
  mono _ h := h
  bind {_ _ a _ k k'} h hk :=
    LeX.lift (F := (RefSem.bind · k)) (G := (RefSem.bind · k')) (fun _ => rfl) (fun _ _ => rfl) (fun _ _ => rfl) h
      (by obtain ⟨r, s1⟩ := a; cases r <;> first | exact hk _ _ _ _ rfl rfl | exact LeX.rfl)
  loop {_ _ a _ k k'} h hk :=
    LeX.lift (F := (loopStep · k)) (G := (loopStep · k')) (fun _ => rfl) (fun _ _ => rfl) (fun _ _ => rfl) h
      (by obtain ⟨r, s1⟩ := a; cases r <;> first | exact hk _ _ rfl | exact LeX.rfl)
  funResult h := LeX.lift (F := funResult) (G := funResult) (fun _ => rfl) (fun _ _ => rfl) (fun _ _ => rfl) h LeX.rfl

theorem leRel_cells (oa ob : Option EK) : (leRel oa ob).Cells where
  get l h := by subst h; exact .of_eq rfl
  set l h hv := by subst h; subst hv; exact LeX.rfl

theorem leRel_bound {oa ob : Option EK} {s : RefSem.St} (x : Except EK (Env × RefSem.St))
    {P : Env → RefSem.St → Env → RefSem.St → Prop} (h : ∀ e1 s1, x = .ok (e1, s1) → P e1 s1 e1 s1) :
    (leRel oa ob).Bound s s x x P := by
  cases x with
  | error k => exact rfl
  | ok pr => exact ⟨rfl, h pr.1 pr.2 rfl⟩

theorem LeX.nn {a b : Res × RefSem.St} (h : LeX none none a b) : isTO a.1 = true ∨ a = b := by
  rcases h with h | h | h | h
  · exact Or.inl h
  · exact Or.inr h
  · simp [failedBy] at h
  · simp [failedBy] at h

theorem LeX.weaken {oa ob a b} (h : LeX none none a b) : LeX oa ob a b :=
  h.nn.elim Or.inl fun e => Or.inr (Or.inl e)

theorem LeX.eq_of_not_to {a b : Res × RefSem.St} (h : LeX none none a b) (hn : isTO a.1 = false) : a = b :=
  h.nn.resolve_left (by rw [hn]; exact Bool.false_ne_true)

def EnvOK (f : String → Bool) (env : Env) : Prop := ∀ kl ∈ env, f kl.1 = true

theorem EnvOK.nil {f} : EnvOK f [] := by intro kl h; cases h

theorem bindNames_ok {f : String → Bool} : ∀ (ns : List String) (vs : List Val) (env : Env) (s : RefSem.St),
    EnvOK f env → ns.all f = true → EnvOK f (bindNames ns vs env s).1
  | [], vs, env, s, h, _ => by cases vs <;> simpa [bindNames] using h
  | n :: ns, [], env, s, h, _ => by simpa [bindNames] using h
  | n :: ns, v :: vs, env, s, h, hn => by
      simp only [List.all_cons, Bool.and_eq_true] at hn
      simp only [bindNames]
      apply bindNames_ok ns vs _ _ _ hn.2
      split
      · exact h
      · intro kl hkl
        rcases List.mem_cons.mp hkl with rfl | hkl
        · exact hn.1
        · exact h kl hkl

theorem bindDest_ok {f : String → Bool} {dest v env s e' s'} (hE : EnvOK f env)
    (hd : bokDest f dest = true) (h : bindDest dest v env s = .ok (e', s')) : EnvOK f e' := by
  cases dest with
  | sym n =>
    simp only [bindDest, Except.ok.injEq] at h
    have := bindNames_ok [n] [v] env s hE (by simpa [bokDest] using hd)
    rw [h] at this; exact this
  | destr ns =>
    cases v with
    | tuple items =>
      simp only [bindDest] at h
      split at h
      · cases h
      · simp only [Except.ok.injEq] at h
        have := bindNames_ok ns items env s hE (by simpa [bokDest] using hd)
        rw [h] at this; exact this
    | _ => simp [bindDest] at h

theorem mapped_WP (c : WCfg) (p : Program) : Mapped (WFun c) p (WP c p) := ⟨rfl, rfl, fun _ => rfl⟩

theorem applyBuiltin_WP (c : WCfg) (p : Program) (name : String) (args : List Val) (s : RefSem.St) :
    applyBuiltin (WP c p) name args s = applyBuiltin p name args s := rfl

/-- The local hypothesis on the wrapper, relative to the transformed program. -/
structure Local (c : WCfg) (p : Program) : Prop where
  notLet : ∀ id x, c.sel id = true → isLet (c.wrap x) = false
  fwd : ∀ m env s x, EnvOK c.ok env →
    LeX none c.fk (eval false (WP c p) m env s x) (eval false (WP c p) (m + c.k) env s (c.wrap x))
  bwd : ∀ m env s x, EnvOK c.ok env →
    LeX c.fk none (eval false (WP c p) m env s (c.wrap x)) (eval false (WP c p) m env s x)
  funs : ∀ d ∈ p.funs, bokFun c.ok d = true

theorem isLet_fin {c : WCfg} (h : ∀ id x, c.sel id = true → isLet (c.wrap x) = false) (id : Nat) {e : Expr}
    (he : isLet e = false) : isLet (fin c id e) = false := by
  unfold fin; split
  · rename_i hs; exact h _ _ hs
  · exact he

theorem isLet_W {c : WCfg} (h : ∀ id x, c.sel id = true → isLet (c.wrap x) = false) {e : Expr} (he : isLet e = false) :
    isLet (W c e) = false := by
  cases e <;> first | exact Bool.noConfusion he | exact isLet_fin h _ rfl |
    (rename_i o; cases o <;> exact isLet_fin h _ rfl)

theorem WSeq_eq_nil (c : WCfg) (es : List Expr) : es = [] ↔ WSeq c es = [] := by
  cases es <;> simp [WSeq]

/-- Fuel with which one side follows `n` levels of the other when each level may cost `k` more: a wrapped node
(`c.k`), the deleted statements of one block (Lemmas/Fixes). -/
def thr (k n : Nat) : Nat := (k + 1) * n

theorem thr_succ (k n : Nat) : thr k (n + 1) = thr k n + k + 1 := by
  simp [thr, Nat.mul_succ, Nat.add_assoc]

theorem EnvOK.imp {f g : String → Bool} {env : Env} (h : ∀ x, f x = true → g x = true) (hE : EnvOK f env) :
    EnvOK g env :=
  fun kl hkl => h _ (hE kl hkl)

/-- `a`: a wrapped node evaluated on the left, `b`: its core. -/
theorem LeX.wrapL {oa ob a b c} (h1 : LeX oa none a b) (h2 : LeX oa ob b c) : LeX oa ob a c := by
  rcases h1 with h | h | h | h
  · exact Or.inl h
  · subst h; exact h2
  · exact Or.inr (Or.inr (Or.inl h))
  · simp [failedBy] at h

/-- `b`: a core evaluated on the right, `c`: the wrapped node. -/
theorem LeX.wrapR {oa ob a b c} (h1 : LeX oa ob a b) (h2 : LeX none ob b c) : LeX oa ob a c := by
  rcases h1 with h | h | h | h
  · exact Or.inl h
  · subst h
    rcases h2 with g | g | g | g
    · exact Or.inl g
    · exact Or.inr (Or.inl g)
    · simp [failedBy] at g
    · exact Or.inr (Or.inr (Or.inr g))
  · exact Or.inr (Or.inr (Or.inl h))
  · rcases h2 with g | g | g | g
    · have := isTO_eq g; obtain ⟨e, he⟩ := failedBy_err h; rw [this] at he; cases he
    · subst g; exact Or.inr (Or.inr (Or.inr h))
    · simp [failedBy] at g
    · exact Or.inr (Or.inr (Or.inr g))

/-- The program itself is the side with `idCfg`: `W idCfg` computes on constructors like any `W c`, so one
induction serves both directions, and `WP_id`, `W_id` are needed only where the result is used. `ok`: the binders
both wrappers tolerate. -/
structure SimW (cL cR : WCfg) (ok : String → Bool) (p : Program) (n m : Nat) : Prop where
  ev : ∀ env s e, EnvOK ok env → bok ok e = true →
    LeX cL.fk cR.fk (eval false (WP cL p) n env s (W cL e)) (eval false (WP cR p) m env s (W cR e))
  seq : ∀ env s es, EnvOK ok env → bokSeq ok es = true →
    LeX cL.fk cR.fk (evalSeq false (WP cL p) n env s (WSeq cL es)) (evalSeq false (WP cR p) m env s (WSeq cR es))
  lst : ∀ env s es, EnvOK ok env → bokSeq ok es = true →
    LeX cL.fk cR.fk (evalList false (WP cL p) n env s (WSeq cL es)) (evalList false (WP cR p) m env s (WSeq cR es))
  whl : ∀ env s cnd body, EnvOK ok env → bok ok cnd = true → bokSeq ok body = true →
    LeX cL.fk cR.fk (evalWhile false (WP cL p) n env s (W cL cnd) (WSeq cL body))
      (evalWhile false (WP cR p) m env s (W cR cnd) (WSeq cR body))
  for_ : ∀ env s dest items body, EnvOK ok env → bokDest ok dest = true → bokSeq ok body = true →
    LeX cL.fk cR.fk (evalFor false (WP cL p) n env s dest items (WSeq cL body))
      (evalFor false (WP cR p) m env s dest items (WSeq cR body))
  cases : ∀ env s ty idx pl cs, EnvOK ok env → bokCases ok cs = true →
    LeX cL.fk cR.fk (evalCases false (WP cL p) n env s ty idx pl (WCases cL cs))
      (evalCases false (WP cR p) m env s ty idx pl (WCases cR cs))
  app : ∀ s f args, LeX cL.fk cR.fk (applyVal false (WP cL p) n s f args) (applyVal false (WP cR p) m s f args)

structure Local2 (cL cR : WCfg) (ok : String → Bool) (p : Program) : Prop where
  left : Local cL p
  right : Local cR p
  okL : ∀ x, ok x = true → cL.ok x = true
  okR : ∀ x, ok x = true → cR.ok x = true
  funs : ∀ d ∈ p.funs, bokFun ok d = true

/-- Both nodes are `fin _ id core`: relate the cores at fuel `n + 1` and any `m0 + 1`, then wrap on either side. -/
theorem fin_both {cL cR : WCfg} {ok : String → Bool} {p : Program} (hc : Local2 cL cR ok p) {n m : Nat}
    (hm : thr cR.k (n + 1) ≤ m) (env : Env) (s : RefSem.St) (hE : EnvOK ok env) (id : Nat) (coreL coreR : Expr)
    (h : ∀ m0, thr cR.k n ≤ m0 → LeX cL.fk cR.fk (eval false (WP cL p) (n + 1) env s coreL)
      (eval false (WP cR p) (m0 + 1) env s coreR)) :
    LeX cL.fk cR.fk (eval false (WP cL p) (n + 1) env s (fin cL id coreL))
      (eval false (WP cR p) m env s (fin cR id coreR)) := by
  have hL : ∀ b, LeX cL.fk cR.fk (eval false (WP cL p) (n + 1) env s coreL) b →
      LeX cL.fk cR.fk (eval false (WP cL p) (n + 1) env s (fin cL id coreL)) b := fun b hb => by
    unfold fin; split
    · exact (hc.left.bwd (n + 1) env s coreL (hE.imp hc.okL)).wrapL hb
    · exact hb
  refine hL _ ?_
  rw [thr_succ] at hm
  unfold fin; split
  · have h1 := h (m - cR.k - 1) (by omega)
    have h2 := hc.right.fwd (m - cR.k - 1 + 1) env s coreR (hE.imp hc.okR)
    have e : m - cR.k - 1 + 1 + cR.k = m := by omega
    rw [e] at h2
    exact h1.wrapR h2
  · have h1 := h (m - 1) (by omega)
    have e : m - 1 + 1 = m := by omega
    rw [e] at h1
    exact h1

theorem simW_succ {cL cR : WCfg} {ok : String → Bool} {p : Program} (hc : Local2 cL cR ok p) (n : Nat)
    (ih : ∀ m0, thr cR.k n ≤ m0 → SimW cL cR ok p n m0) (m : Nat) (hm : thr cR.k (n + 1) ≤ m) :
    SimW cL cR ok p (n + 1) m := by
  have hm' := hm
  rw [thr_succ] at hm'
  obtain ⟨m1, rfl⟩ : ∃ m1, m = m1 + 1 := ⟨m - 1, by omega⟩
  have ih1 := ih m1 (by omega)
  let R := leRel cL.fk cR.fk
  have hpk : ∀ v, patKey (WP cR p) v = patKey (WP cL p) v := fun v =>
    ((mapped_WP cR p).patKey v).trans ((mapped_WP cL p).patKey v).symm
  refine ⟨?ev, ?seq, ?lst, ?whl, ?for_, ?cases, ?app⟩
  case ev =>
    intro env s e hE hb
    cases e <;> (try simp only [bok, Bool.and_eq_true] at hb)
    case int id u v => exact fin_both hc hm env s hE _ _ _ fun m0 hm0 => LeX.rfl
    case str id u v => exact fin_both hc hm env s hE _ _ _ fun m0 hm0 => LeX.rfl
    case var id u nm =>
      exact fin_both hc hm env s hE _ _ _ fun m0 hm0 =>
        R.var rfl (.of_eq (((mapped_WP cL p).lookupVar env s.store nm).trans
          ((mapped_WP cR p).lookupVar env s.store nm).symm))
    case binop id u op l r =>
      refine fin_both hc hm env s hE _ _ _ fun m0 hm0 => ?_
      exact R.binop ((ih m0 hm0).ev _ _ _ hE hb.1) fun _ _ h => h ▸ (ih m0 hm0).ev _ _ _ hE hb.2
    -- a `let` in expression position is unsupported on both sides (as is a `fun` literal at `cl = false`)
    case letE id u d r => exact LeX.rfl
    case assign id u nm rhs =>
      refine fin_both hc hm env s hE _ _ _ fun m0 hm0 => ?_
      exact R.assign (leRel_cells _ _) ((ih m0 hm0).ev _ _ _ hE hb) rfl
    case update id u a nm rhs =>
      refine fin_both hc hm env s hE _ _ _ fun m0 hm0 => ?_
      exact R.update (leRel_cells _ _) ((ih m0 hm0).ev _ _ _ hE hb) rfl
    case ifE id u cnd thn els =>
      refine fin_both hc hm env s hE _ _ _ fun m0 hm0 => ?_
      refine R.ifE ((ih m0 hm0).ev _ _ _ hE hb.1.1) (fun _ _ h => h ▸ (ih m0 hm0).seq _ _ _ hE hb.1.2)
        fun _ _ h => ?_
      cases els with
      | none => trivial
      | some eb => exact h ▸ (ih m0 hm0).seq _ _ _ hE (by simpa [bokOpt] using hb.2)
    case whileE id u cnd body =>
      exact fin_both hc hm env s hE _ _ _ fun m0 hm0 => (ih m0 hm0).whl _ _ _ _ hE hb.1 hb.2
    case forE id u dest iter body =>
      refine fin_both hc hm env s hE _ _ _ fun m0 hm0 => ?_
      exact R.forE ((ih m0 hm0).ev _ _ _ hE hb.1.2) fun _ _ _ _ hl h =>
        h ▸ hl.eq_of ▸ (ih m0 hm0).for_ _ _ _ _ _ hE hb.1.1 hb.2
    case matchE id u scrut cs =>
      refine fin_both hc hm env s hE _ _ _ fun m0 hm0 => ?_
      exact R.matchE ((ih m0 hm0).ev _ _ _ hE hb.1) fun _ _ _ _ _ _ hpl h =>
        h ▸ hpl.eq_of ▸ (ih m0 hm0).cases _ _ _ _ _ _ hE hb.2
    case ret id u o =>
      cases o with
      | none => exact fin_both hc hm env s hE _ _ _ fun m0 hm0 => LeX.rfl
      | some x => exact fin_both hc hm env s hE _ _ _ fun m0 hm0 => R.ret ((ih m0 hm0).ev _ _ _ hE hb)
    case brk id u => exact fin_both hc hm env s hE _ _ _ fun m0 hm0 => LeX.rfl
    case cont id u => exact fin_both hc hm env s hE _ _ _ fun m0 hm0 => LeX.rfl
    case list id u items => exact fin_both hc hm env s hE _ _ _ fun m0 hm0 => (ih m0 hm0).lst _ _ _ hE hb
    case tuple id u items =>
      exact fin_both hc hm env s hE _ _ _ fun m0 hm0 => R.tuple ((ih m0 hm0).lst _ _ _ hE hb)
    case call id u recv args =>
      refine fin_both hc hm env s hE _ _ _ fun m0 hm0 => ?_
      exact R.call ((ih m0 hm0).ev _ _ _ hE hb.1) (fun _ _ h => h ▸ (ih m0 hm0).lst _ _ _ hE hb.2)
        fun _ _ _ _ _ _ h hf hl => h ▸ hf ▸ hl.eq_of ▸ (ih m0 hm0).app _ _ _
    case lambda id u ps body => exact fin_both hc hm env s hE _ _ _ fun m0 hm0 => LeX.rfl
    case paren id u x => exact fin_both hc hm env s hE _ _ _ fun m0 hm0 => (ih m0 hm0).ev _ _ _ hE hb
    case invalid id u => exact fin_both hc hm env s hE _ _ _ fun m0 hm0 => LeX.rfl
    case unsup id u w => exact fin_both hc hm env s hE _ _ _ fun m0 hm0 => LeX.rfl
  case seq =>
    intro env s es hE hb
    cases es with
    | nil => exact LeX.rfl
    | cons e rest =>
      simp only [bokSeq, Bool.and_eq_true] at hb
      by_cases hl : isLet e = true
      · obtain ⟨id, u, d, r, rfl⟩ := isLet_iff.mp hl
        simp only [bok, Bool.and_eq_true] at hb
        exact R.seq_let (ih1.ev _ _ _ hE hb.1.2) fun v _ s1 _ hv h =>
          h ▸ hv ▸ leRel_bound _ fun _ _ hbd => ih1.seq _ _ _ (bindDest_ok hE hb.1.1 hbd) hb.2
      · have hl' : isLet e = false := by simpa using hl
        exact R.seq_cons (isLet_W hc.left.notLet hl') (isLet_W hc.right.notLet hl')
          ((WSeq_eq_nil cL rest).symm.trans (WSeq_eq_nil cR rest)) (ih1.ev _ _ _ hE hb.1)
          fun _ _ h => h ▸ ih1.seq _ _ _ hE hb.2
  case lst =>
    intro env s es hE hb
    cases es with
    | nil => exact LeX.rfl
    | cons e rest =>
      simp only [bokSeq, Bool.and_eq_true] at hb
      exact R.list_cons (ih1.ev _ _ _ hE hb.1) fun _ _ h => h ▸ ih1.lst _ _ _ hE hb.2
  case whl =>
    intro env s cnd body hE hb1 hb2
    exact R.while_ (ih1.ev _ _ _ hE hb1) (fun _ _ h => h ▸ ih1.seq _ _ _ hE hb2)
      fun _ _ h => h ▸ ih1.whl _ _ _ _ hE hb1 hb2
  case for_ =>
    intro env s dest items body hE hb1 hb2
    cases items with
    | nil => exact LeX.rfl
    | cons it rest =>
      exact R.for_cons rfl (leRel_bound _ fun _ _ hbd => ih1.seq _ _ _ (bindDest_ok hE hb1 hbd) hb2)
        fun _ _ h => h ▸ ih1.for_ _ _ _ _ _ hE hb1 hb2
  case cases =>
    intro env s ty idx pl cs hE hb
    cases cs with
    | nil => exact LeX.rfl
    | cons cs0 rest =>
      simp only [bokCases, Bool.and_eq_true] at hb
      have h3 := ih1.cases env s ty idx pl rest hE hb.2
      obtain ⟨variant, dest, body⟩ := cs0
      cases dest with
      | none => exact R.cases_plain rfl (.of_eq rfl) (hpk variant) (ih1.seq env s body hE hb.1) h3
      | some d =>
        simp only [bokCase, Bool.and_eq_true] at hb
        exact R.cases_dest rfl (.of_eq rfl) (hpk variant)
          (fun _ _ hv => hv ▸ leRel_bound _ fun _ _ hbd => ih1.seq _ _ _ (bindDest_ok hE hb.1.1 hbd) hb.1.2) h3
  case app =>
    intro s f args
    by_cases hf : ∃ name, f = .fn name
    · obtain ⟨name, rfl⟩ := hf
      cases hfind : p.funs.find? (fun d => d.name == name) with
      | none =>
        simp only [applyVal, (mapped_WP cL p).find, (mapped_WP cR p).find, hfind, Option.map_none]; exact LeX.rfl
      | some d =>
        have hfr := hc.funs d (List.mem_of_find?_eq_some hfind)
        simp only [bokFun, Bool.and_eq_true] at hfr
        exact R.apply_fn (d := WFun cL d) (d' := WFun cR d) rfl (LRel.eq_refl _) (by rw [(mapped_WP cL p).find, hfind]; rfl)
          (by rw [(mapped_WP cR p).find, hfind]; rfl) rfl
          fun _ => ⟨rfl, ih1.seq _ _ _ (bindNames_ok _ _ _ _ EnvOK.nil hfr.1) hfr.2⟩
    · exact R.apply_other rfl rfl (LRel.eq_refl _) rfl (fun name h => hf ⟨name, h⟩) (.inl rfl)

theorem simW_all {cL cR : WCfg} {ok : String → Bool} {p : Program} (hc : Local2 cL cR ok p) :
    ∀ n m, thr cR.k n ≤ m → SimW cL cR ok p n m
  | 0, m, _ => by
    refine ⟨?_, ?_, ?_, ?_, ?_, ?_, ?_⟩ <;> intros <;> exact LeX.to
  | n + 1, m, hm => simW_succ hc n (fun m0 h0 => simW_all hc n m0 h0) m hm

theorem bokDest_true (d : Dest) : bokDest (fun _ => true) d = true := by
  cases d <;> simp [bokDest]

mutual
theorem bok_true : ∀ e : Expr, bok (fun _ => true) e = true
  | .int .. | .str .. | .var .. | .ret _ _ none | .brk .. | .cont .. | .invalid .. | .unsup .. => rfl
  | .binop _ _ _ l r => by simp [bok, bok_true l, bok_true r]
  | .letE _ _ _ r | .assign _ _ _ r | .update _ _ _ _ r | .ret _ _ (some r) | .paren _ _ r => by
      simp [bok, bokDest_true, bok_true r]
  | .ifE _ _ c t e => by simp [bok, bok_true c, bokSeq_true t, bokOpt_true e]
  | .whileE _ _ c b | .forE _ _ _ c b | .call _ _ c b => by simp [bok, bokDest_true, bok_true c, bokSeq_true b]
  | .matchE _ _ s cs => by simp [bok, bok_true s, bokCases_true cs]
  | .list _ _ es | .tuple _ _ es | .lambda _ _ _ es => by simp [bok, bokSeq_true es]
theorem bokSeq_true : ∀ es : List Expr, bokSeq (fun _ => true) es = true
  | [] => rfl
  | e :: rest => by simp [bokSeq, bok_true e, bokSeq_true rest]
theorem bokOpt_true : ∀ o : Option (List Expr), bokOpt (fun _ => true) o = true
  | none => rfl
  | some b => by simp [bokOpt, bokSeq_true b]
theorem bokCase_true : ∀ c : Case, bokCase (fun _ => true) c = true
  | .mk _ none b => by simp [bokCase, bokSeq_true b]
  | .mk _ (some d) b => by simp [bokCase, bokDest_true, bokSeq_true b]
theorem bokCases_true : ∀ cs : List Case, bokCases (fun _ => true) cs = true
  | [] => rfl
  | c :: rest => by simp [bokCases, bokCase_true c, bokCases_true rest]
end

theorem bokFun_true (d : FunDef) : bokFun (fun _ => true) d = true := by
  simp [bokFun, bokSeq_true]

mutual
theorem W_id : ∀ e : Expr, W idCfg e = e
  | .int .. | .str .. | .var .. | .ret _ _ none | .brk .. | .cont .. | .invalid .. | .unsup .. => rfl
  | .binop _ _ _ l r => by simp [W, fin, idCfg, WCfg.i, WCfg.u]; exact ⟨by simpa [idCfg] using W_id l, by simpa [idCfg] using W_id r⟩
  | .letE _ _ _ r | .assign _ _ _ r | .update _ _ _ _ r | .ret _ _ (some r) | .paren _ _ r => by
      simp [W, fin, idCfg, WCfg.i, WCfg.u]; simpa [idCfg] using W_id r
  | .ifE _ _ c t e => by
      simp [W, fin, idCfg, WCfg.i, WCfg.u]
      exact ⟨by simpa [idCfg] using W_id c, by simpa [idCfg] using WSeq_id t, by simpa [idCfg] using WOpt_id e⟩
  | .whileE _ _ c b | .forE _ _ _ c b | .call _ _ c b => by
      simp [W, fin, idCfg, WCfg.i, WCfg.u]
      exact ⟨by simpa [idCfg] using W_id c, by simpa [idCfg] using WSeq_id b⟩
  | .matchE _ _ s cs => by
      simp [W, fin, idCfg, WCfg.i, WCfg.u]
      exact ⟨by simpa [idCfg] using W_id s, by simpa [idCfg] using WCases_id cs⟩
  | .list _ _ es | .tuple _ _ es | .lambda _ _ _ es => by simp [W, fin, idCfg, WCfg.i, WCfg.u]; simpa [idCfg] using WSeq_id es
theorem WSeq_id : ∀ es : List Expr, WSeq idCfg es = es
  | [] => rfl
  | e :: rest => by simp [WSeq, W_id e, WSeq_id rest]
theorem WOpt_id : ∀ o : Option (List Expr), WOpt idCfg o = o
  | none => rfl
  | some b => by simp [WOpt, WSeq_id b]
theorem WCase_id : ∀ c : Case, WCase idCfg c = c
  | .mk _ _ b => by simp [WCase, WSeq_id b]
theorem WCases_id : ∀ cs : List Case, WCases idCfg cs = cs
  | [] => rfl
  | c :: rest => by simp [WCases, WCase_id c, WCases_id rest]
end

theorem WP_id (p : Program) : WP idCfg p = p := by
  have : p.funs.map (WFun idCfg) = p.funs := by
    have h : ∀ d : FunDef, WFun idCfg d = d := fun d => by simp [WFun, WSeq_id]
    rw [List.map_congr_left (g := id) (fun d _ => h d), List.map_id]
  simp [WP, WSeq_id, this]

theorem local_id (p : Program) : Local idCfg p where
  notLet := fun id x h => by simp [idCfg] at h
  fwd := fun m env s x _ => LeX.rfl
  bwd := fun m env s x _ => LeX.rfl
  funs := fun d _ => bokFun_true d

theorem envOK_true (env : Env) : EnvOK (fun _ => true) env := fun _ _ => rfl

/-- Backward: `WP c p` on the left, `p` itself on the right. -/
theorem simB_all {c : WCfg} {p : Program} (hc : Local c p) {n m : Nat} (hm : n ≤ m) : SimW c idCfg c.ok p n m :=
  simW_all ⟨hc, local_id p, fun _ h => h, fun _ _ => rfl, hc.funs⟩ n m (by simpa [thr, idCfg] using hm)

/-- Forward: `p` on the left; what `C21.eval_congr_partial` (1) takes. -/
theorem simF_seq {c : WCfg} {p : Program} (hc : Local c p) {n m : Nat} (hm : thr c.k n ≤ m) (env : Env) (s : RefSem.St)
    (es : List Expr) (hE : EnvOK c.ok env) (hb : bokSeq c.ok es = true) :
    LeX none c.fk (evalSeq false p n env s es) (evalSeq false (WP c p) m env s (WSeq c es)) := by
  have := (simW_all ⟨local_id p, hc, fun _ _ => rfl, fun _ h => h, hc.funs⟩ n m hm).seq env s es hE hb
  rwa [WP_id, WSeq_id] at this

/-- What `C21.eval_congr_partial` (2) takes. -/
theorem simB_seq {c : WCfg} {p : Program} (hc : Local c p) {n m : Nat} (hm : n ≤ m) (env : Env) (s : RefSem.St)
    (es : List Expr) (hE : EnvOK c.ok env) (hb : bokSeq c.ok es = true) :
    LeX c.fk none (evalSeq false (WP c p) n env s (WSeq c es)) (evalSeq false p m env s es) := by
  have := (simB_all hc hm).seq env s es hE hb
  rwa [WP_id, WSeq_id] at this

theorem eval_mono (p : Program) {n m : Nat} (h : n ≤ m) (env : Env) (s : RefSem.St) (e : Expr) :
    LeX none none (eval false p n env s e) (eval false p m env s e) := by
  have := (simB_all (local_id p) h).ev env s e (envOK_true env) (bok_true e)
  rwa [WP_id, W_id] at this

theorem evalSeq_mono (p : Program) {n m : Nat} (h : n ≤ m) (env : Env) (s : RefSem.St) (es : List Expr) :
    LeX none none (evalSeq false p n env s es) (evalSeq false p m env s es) := by
  have := simB_seq (local_id p) h env s es (envOK_true env) (bokSeq_true es)
  rwa [WP_id, WSeq_id] at this

theorem lookup_mem {env : Env} {x : String} {l : Nat} (hl : lookup env x = some l) : (x, l) ∈ env := by
  induction env with
  | nil => cases hl
  | cons kl rest ih =>
    obtain ⟨k, l0⟩ := kl
    simp only [lookup] at hl
    split at hl
    · rename_i hk; cases hl; rw [beq_iff_eq.mp hk]; exact List.mem_cons_self ..
    · exact List.mem_cons_of_mem _ (ih hl)

theorem lookup_none_of_f {f : String → Bool} {env : Env} (h : EnvOK f env) {y : String} (hy : f y = false) :
    lookup env y = none := by
  cases hl : lookup env y with
  | none => rfl
  | some l => have := h _ (lookup_mem hl); rw [hy] at this; cases this

theorem dbg_lookup {p : Program} (hp : dbgFree p = true) (c : WCfg) {env : Env}
    (hE : EnvOK (fun n => n != "dbg") env) (st : List Val) :
    lookupVar (WP c p) env st "dbg" = some (.builtin "dbg") := by
  simp only [dbgFree, Bool.and_eq_true, Bool.not_eq_true', Option.isNone_iff_eq_none] at hp
  rw [(mapped_WP c p).lookupVar]
  simp only [lookupVar, lookup_none_of_f hE (y := "dbg") rfl, nsLookup, hp.1.2, Bool.false_eq_true, if_false, hp.2]
  rfl

theorem dbg_eval {q : Program} {env : Env} {s : RefSem.St}
    (hl : lookupVar q env s.store "dbg" = some (.builtin "dbg")) (m : Nat) (x : Expr) :
    eval false q (m + 2) env s (dbgCall x) = eval false q m env s x := by
  simp only [dbgCall, eval, hl, evalList, RefSem.bind]
  cases m with
  | zero => simp [eval]
  | succ m' =>
    simp only [evalList]
    cases h : eval false q (m' + 1) env s x with
    | mk r s1 =>
      -- `applyBuiltin … "dbg" [a]` is `a`, the state unchanged
      cases r <;> simp [applyVal, applyBuiltin]

theorem local_dbg {p : Program} (hp : dbgFree p = true) (t : Nat) : Local (dbgCfg t) p where
  notLet := fun id x _ => rfl
  fwd := fun m env s x hE => by
    have hl := dbg_lookup hp (dbgCfg t) hE s.store
    show LeX none none _ (eval false _ (m + 2) env s (dbgCall x))
    rw [dbg_eval hl]
    exact LeX.rfl
  bwd := fun m env s x hE => by
    have hl := dbg_lookup hp (dbgCfg t) hE s.store
    show LeX none none (eval false _ m env s (dbgCall x)) _
    match m with
    | 0 => simp only [eval]; exact LeX.to
    | 1 => simp only [dbgCall, eval, RefSem.bind]; exact LeX.to
    | m' + 2 =>
      rw [dbg_eval hl]
      exact eval_mono _ (by omega) env s x
  funs := fun d hd => by
    simp only [dbgFree, bokProg, Bool.and_eq_true, List.all_eq_true] at hp
    exact hp.1.1.1 d hd

theorem local_strip (p : Program) : Local stripCfg p where
  notLet := fun id x h => by simp [stripCfg] at h
  fwd := fun m env s x _ => LeX.rfl
  bwd := fun m env s x _ => LeX.rfl
  funs := fun d _ => bokFun_true d

theorem strip_run (p : Program) (m : Nat)
    (h : isTO (run false p m).1 = false ∨ isTO (run false (WP stripCfg p) m).1 = false) :
    run false (WP stripCfg p) m = run false p m := by
  have hF : LeX none none (run false p m) (run false (WP stripCfg p) m) :=
    simF_seq (local_strip p) (by simp [thr, stripCfg]) [] St.init p.toplevel EnvOK.nil (bokSeq_true _)
  have hB : LeX none none (run false (WP stripCfg p) m) (run false p m) :=
    simB_seq (local_strip p) (Nat.le_refl _) [] St.init p.toplevel EnvOK.nil (bokSeq_true _)
  rcases h with h | h
  · exact (hF.eq_of_not_to h).symm
  · exact hB.eq_of_not_to h

theorem strip_eq_run {p p' : Program} (h : WP stripCfg p' = WP stripCfg p) (n : Nat)
    (hn : isTO (run false p n).1 = false ∨ isTO (run false p' n).1 = false) :
    run false p' n = run false p n := by
  rcases hn with hn | hn
  · have h1 := strip_run p n (Or.inl hn)
    have h2 := strip_run p' n (Or.inr (by rw [h, h1]; exact hn))
    rw [← h2, h, h1]
  · have h2 := strip_run p' n (Or.inl hn)
    have h1 := strip_run p n (Or.inr (by rw [← h, h2]; exact hn))
    rw [← h2, h, h1]

/-- What a runtime type check does to a result: values accepted by `ok` pass, others fail with `fk`. -/
def hintCheck (ok : Val → Bool) (fk : EK) : Res × RefSem.St → Res × RefSem.St
  | (.val v, s) => if ok v then (.val v, s) else (.err fk, s)
  | r => r

/-- `chk` is an expression context that implements such a check, in every program and state. -/
def PartialId (chk : Expr → Expr) (ok : Val → Bool) (fk : EK) : Prop :=
  (∀ x, isLet (chk x) = false) ∧
  ∀ (q : Program) (m : Nat) (env : Env) (s : RefSem.St) (x : Expr),
    eval false q (m + 1) env s (chk x) = hintCheck ok fk (eval false q m env s x)

theorem hintCheck_le_right {ok fk a} : LeX none (some fk) a (hintCheck ok fk a) := by
  obtain ⟨r, s⟩ := a
  cases r <;> try exact LeX.rfl
  rename_i v
  simp only [hintCheck]
  split
  · exact LeX.rfl
  · exact Or.inr (Or.inr (Or.inr (by simp [failedBy])))

theorem hintCheck_le_left {ok fk a} : LeX (some fk) none (hintCheck ok fk a) a := by
  obtain ⟨r, s⟩ := a
  cases r <;> try exact LeX.rfl
  rename_i v
  simp only [hintCheck]
  split
  · exact LeX.rfl
  · exact Or.inr (Or.inr (Or.inl (by simp [failedBy])))

theorem local_chk {chk ok fk} (h : PartialId chk ok fk) (sel : Nat → Bool) (p : Program) :
    Local (chkCfg sel chk fk) p where
  notLet := fun id x _ => h.1 x
  fwd := fun m env s x _ => by
    show LeX none (some fk) _ (eval false _ (m + 1 + 1) env s (chk x))
    rw [h.2]
    exact (eval_mono _ (Nat.le_succ m) env s x).weaken.wrapR hintCheck_le_right
  bwd := fun m env s x _ => by
    show LeX (some fk) none (eval false _ m env s (chk x)) _
    match m with
    | 0 => simp only [eval]; exact LeX.to
    | m' + 1 =>
      rw [h.2]
      exact hintCheck_le_left.wrapL (eval_mono _ (Nat.le_succ m') env s x).weaken
  funs := fun d _ => bokFun_true d

theorem eval_int (cl q n env s i u v) : eval cl q (n + 1) env s (.int i u v) = (.val (.int v), s) := rfl
theorem eval_str (cl q n env s i u v) : eval cl q (n + 1) env s (.str i u v) = (.val (.str v), s) := rfl

def isIntV : Val → Bool
  | .int _ => true
  | _ => false

def isStrV : Val → Bool
  | .str _ => true
  | _ => false

theorem partialId_int : PartialId chkInt isIntV .typeError := by
  refine ⟨fun x => rfl, fun q m env s x => ?_⟩
  simp only [chkInt, eval, RefSem.bind]
  cases m with
  | zero => simp [eval, hintCheck]
  | succ m' =>
    simp only [eval_int]
    cases h : eval false q (m' + 1) env s x with
    | mk r s1 =>
      cases r <;> try (simp [hintCheck]; done)
      rename_i v
      cases v <;> simp [hintCheck, isIntV, binop, Machine.intBinop, ofSimple]

theorem partialId_str : PartialId chkStr isStrV .typeError := by
  refine ⟨fun x => rfl, fun q m env s x => ?_⟩
  simp only [chkStr, eval, RefSem.bind]
  cases m with
  | zero => simp [eval, hintCheck]
  | succ m' =>
    simp only [eval_str]
    cases h : eval false q (m' + 1) env s x with
    | mk r s1 =>
      cases r <;> try (simp [hintCheck]; done)
      rename_i v
      cases v <;> simp [hintCheck, isStrV, binop]


/-- Results about which nothing is claimed: out of fuel, a Garden error, outside the fragment. -/
def bad : Res → Bool
  | .timeout => true
  | .err _ => true
  | .unsup _ => true
  | _ => false

theorem isTO_of_not_bad {r : Res} (h : bad r = false) : isTO r = false := by
  cases r <;> simp [bad, isTO] at h ⊢

theorem not_bad_of_finished {r : Res} (h : r.outcome = .finished) : bad r = false := by
  cases r <;> simp [Res.outcome] at h <;> rfl

def vb : Res → Bool
  | .val _ => true
  | r => bad r

theorem binop_vb (op : BinOp) (a b : Val) : vb (binop op a b) = true := by
  unfold binop
  repeat' split
  all_goals simp [vb, bad]

theorem vb_cases {r : Res} (h : vb r = true) : (∃ v, r = .val v) ∨ bad r = true := by
  cases r <;> first | exact Or.inl ⟨_, rfl⟩ | exact Or.inr h

def PureIn (s : RefSem.St) (a : Res × RefSem.St) : Prop := a.2 = s ∧ vb a.1 = true

def Same2 (s s2 : RefSem.St) (a b : Res × RefSem.St) : Prop := b = (a.1, s2) ∧ PureIn s a

theorem bindS {s s2 : RefSem.St} {a b : Res × RefSem.St} {k k' : Val → RefSem.St → Res × RefSem.St}
    (h : Same2 s s2 a b) (hk : ∀ v, Same2 s s2 (k v s) (k' v s2)) : Same2 s s2 (RefSem.bind a k) (RefSem.bind b k') := by
  obtain ⟨r, s1⟩ := a
  obtain ⟨h1, h2, hv⟩ := h
  simp only at h1 h2; subst h1; subst h2
  cases r <;> first | exact hk _ | exact ⟨rfl, rfl, hv⟩

structure AAgree (cl : Bool) (p q : Program) (j : Nat) : Prop where
  ev : ∀ env s env2 s2 e, arithE e = true →
    (∀ y, y ∈ varsE e → lookupVar p env s.store y = lookupVar q env2 s2.store y) →
    Same2 s s2 (eval cl p j env s e) (eval cl q j env2 s2 (W stripCfg e))
  lst : ∀ env s env2 s2 es, arithL es = true →
    (∀ y, y ∈ varsL es → lookupVar p env s.store y = lookupVar q env2 s2.store y) →
    Same2 s s2 (evalList cl p j env s es) (evalList cl q j env2 s2 (WSeq stripCfg es))

theorem arith_agree (cl : Bool) (p q : Program) : ∀ j, AAgree cl p q j
  | 0 => ⟨fun _ _ _ _ _ _ _ => ⟨rfl, rfl, rfl⟩, fun _ _ _ _ _ _ _ => ⟨rfl, rfl, rfl⟩⟩
  | j + 1 => by
    have ih := arith_agree cl p q j
    constructor
    · intro env s env2 s2 e he hv
      cases e <;> simp only [arithE, Bool.and_eq_true, Bool.false_eq_true] at he
      case int id u v => simp only [W, fin, stripCfg, Bool.false_eq_true, if_false, eval]; exact ⟨rfl, rfl, rfl⟩
      case str id u v => simp only [W, fin, stripCfg, Bool.false_eq_true, if_false, eval]; exact ⟨rfl, rfl, rfl⟩
      case var id u y =>
        have := hv y (by simp [varsE])
        simp only [W, fin, stripCfg, Bool.false_eq_true, if_false, eval, this]
        cases lookupVar q env2 s2.store y <;> exact ⟨rfl, rfl, rfl⟩
      case binop id u op l r =>
        simp only [W, fin, stripCfg, Bool.false_eq_true, if_false, eval]
        refine bindS (ih.ev _ _ _ _ _ he.1 fun y hy => hv y (by simp [varsE, hy])) fun lv => ?_
        refine bindS (ih.ev _ _ _ _ _ he.2 fun y hy => hv y (by simp [varsE, hy])) fun rv => ?_
        exact ⟨rfl, rfl, binop_vb op lv rv⟩
      case paren id u y =>
        simp only [W, fin, stripCfg, Bool.false_eq_true, if_false, eval]
        exact ih.ev _ _ _ _ _ he fun z hz => hv z (by simpa [varsE] using hz)
      case list id u es =>
        simp only [W, fin, stripCfg, Bool.false_eq_true, if_false, eval]
        exact ih.lst _ _ _ _ _ he fun z hz => hv z (by simpa [varsE] using hz)
      case tuple id u es =>
        simp only [W, fin, stripCfg, Bool.false_eq_true, if_false, eval]
        refine bindS (ih.lst _ _ _ _ _ he fun z hz => hv z (by simpa [varsE] using hz)) fun vs => ?_
        cases vs <;> exact ⟨rfl, rfl, rfl⟩
    · intro env s env2 s2 es he hv
      cases es with
      | nil => exact ⟨rfl, rfl, rfl⟩
      | cons e rest =>
        simp only [arithL, Bool.and_eq_true] at he
        simp only [WSeq, evalList]
        refine bindS (ih.ev _ _ _ _ _ he.1 fun y hy => hv y (by simp [varsL, hy])) fun v => ?_
        refine bindS (ih.lst _ _ _ _ _ he.2 fun y hy => hv y (by simp [varsL, hy])) fun vs => ?_
        cases vs <;> exact ⟨rfl, rfl, rfl⟩

structure ArithPure (cl : Bool) (p : Program) (n : Nat) : Prop where
  ev : ∀ env s e, arithE e = true → PureIn s (eval cl p n env s e)
  lst : ∀ env s es, arithL es = true → PureIn s (evalList cl p n env s es)

theorem arithPure (cl : Bool) (p : Program) (n : Nat) : ArithPure cl p n :=
  ⟨fun env s e h => ((arith_agree cl p p n).ev env s env s e h fun _ _ => rfl).2,
    fun env s es h => ((arith_agree cl p p n).lst env s env s es h fun _ _ => rfl).2⟩

end Extract
