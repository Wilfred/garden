import GardenVerif.Model.Types
/-!
`Ty.sub` read through its head shapes (`sub_*_left`, `sub_*_right`, the value on equal heads), from which
reflexivity and transitivity; `Ty.unify` through the induction principle `Ty.unify_ind` over its graph.
-/

theorem Ty.subAll_nil_left (bs : List Ty) : Ty.subAll [] bs = true := by
  rw [Ty.subAll]; intro l ls r rs h; cases h

theorem Ty.subAll_nil_right (as : List Ty) : Ty.subAll as [] = true := by
  rw [Ty.subAll]; intro l ls r rs _ h; cases h

theorem Ty.subAll_cons (a : Ty) (as : List Ty) (b : Ty) (bs : List Ty) :
    Ty.subAll (a :: as) (b :: bs) = (Ty.sub a b && Ty.subAll as bs) := by
  rw [Ty.subAll]

/-- Also on lists of different length: both zips truncate to the shorter one. -/
theorem Ty.subAllFlip_eq : ∀ (as bs : List Ty), Ty.subAllFlip as bs = Ty.subAll bs as
  | [], bs => by
    rw [Ty.subAllFlip, Ty.subAll_nil_right]; intro l ls r rs h; cases h
  | a :: as, [] => by
    rw [Ty.subAllFlip, Ty.subAll_nil_left]; intro l ls r rs _ h; cases h
  | a :: as, b :: bs => by
    rw [Ty.subAllFlip, Ty.subAll_cons, Ty.subAllFlip_eq as bs]

theorem Ty.sub_any (a : Ty) : Ty.sub a .any = true := by
  cases a <;> simp [Ty.sub]

theorem Ty.sub_of_isNoValue (a c : Ty) (h : a.isNoValue = true) : Ty.sub a c = true := by
  cases a <;> simp [Ty.isNoValue] at h
  subst h
  cases c <;> simp [Ty.sub]

theorem Ty.sub_of_isErr (a c : Ty) (h : a.isErr = true) : Ty.sub a c = true := by
  cases a <;> simp [Ty.isErr] at h
  cases c <;> simp [Ty.sub]

theorem Ty.sub_err (a : Ty) : Ty.sub a .err = true := by
  cases a <;> simp [Ty.sub]

theorem Ty.sub_tuple_tuple (as bs : List Ty) :
    Ty.sub (.tuple as) (.tuple bs) = (as.length == bs.length && Ty.subAll as bs) := by
  rw [Ty.sub]; cases as.length == bs.length <;> rfl

theorem Ty.sub_fn_fn (n1 n2 : Option String) (tp1 tp2 : List String) (ps qs : List Ty) (r s : Ty) :
    Ty.sub (.fn n1 tp1 ps r) (.fn n2 tp2 qs s) =
      (ps.length == qs.length && Ty.subAll qs ps && Ty.sub r s) := by
  rw [Ty.sub, Ty.subAllFlip_eq]
  by_cases h : ps.length = qs.length
  · cases Ty.subAll qs ps <;> simp [h]
  · simp [h]

theorem Ty.sub_user_user (k1 k2 : Kind) (n1 n2 : String) (as bs : List Ty) :
    Ty.sub (.user k1 n1 as) (.user k2 n2 bs) =
      (n1 == "NoValue" || (n1 == n2 && Ty.subAll as bs)) := by
  rw [Ty.sub]
  cases h1 : n1 == "NoValue" <;> cases h2 : n1 == n2 <;> simp [bne, h2]

theorem Ty.sub_param_param (p q : String) : Ty.sub (.param p) (.param q) = (p == q) := by
  rw [Ty.sub]

theorem Ty.sub_any_left (b : Ty) (h : Ty.sub .any b = true) : b = .any ∨ b = .err := by
  cases b with
  | any => exact Or.inl rfl
  | err => exact Or.inr rfl
  | _ => simp [Ty.sub] at h

theorem Ty.sub_tuple_left (as : List Ty) (b : Ty) (h : Ty.sub (.tuple as) b = true) :
    b = .any ∨ b = .err ∨
      ∃ bs, b = .tuple bs ∧ as.length = bs.length ∧ Ty.subAll as bs = true := by
  cases b with
  | any => exact Or.inl rfl
  | err => exact Or.inr (Or.inl rfl)
  | tuple bs =>
    simp [Ty.sub_tuple_tuple] at h
    exact Or.inr (Or.inr ⟨bs, rfl, h⟩)
  | _ => simp [Ty.sub] at h

theorem Ty.sub_fn_left (n : Option String) (tp : List String) (ps : List Ty) (r b : Ty)
    (h : Ty.sub (.fn n tp ps r) b = true) :
    b = .any ∨ b = .err ∨ ∃ n' tp' qs s, b = .fn n' tp' qs s ∧ ps.length = qs.length ∧
      Ty.subAll qs ps = true ∧ Ty.sub r s = true := by
  cases b with
  | any => exact Or.inl rfl
  | err => exact Or.inr (Or.inl rfl)
  | fn n' tp' qs s =>
    simp [Ty.sub_fn_fn] at h
    exact Or.inr (Or.inr ⟨n', tp', qs, s, rfl, h.1.1, h.1.2, h.2⟩)
  | _ => simp [Ty.sub] at h

theorem Ty.sub_user_left (k : Kind) (n : String) (as : List Ty) (b : Ty) (hn : n ≠ "NoValue")
    (h : Ty.sub (.user k n as) b = true) :
    b = .any ∨ b = .err ∨ ∃ k' bs, b = .user k' n bs ∧ Ty.subAll as bs = true := by
  cases b with
  | any => exact Or.inl rfl
  | err => exact Or.inr (Or.inl rfl)
  | user k' n' bs =>
    simp [Ty.sub_user_user, hn] at h
    obtain ⟨rfl, h⟩ := h
    exact Or.inr (Or.inr ⟨k', bs, rfl, h⟩)
  | _ => simp [Ty.sub, hn] at h

theorem Ty.sub_param_left (p : String) (b : Ty) (h : Ty.sub (.param p) b = true) :
    b = .any ∨ b = .err ∨ b = .param p := by
  cases b with
  | any => exact Or.inl rfl
  | err => exact Or.inr (Or.inl rfl)
  | param q =>
    simp [Ty.sub_param_param] at h
    exact Or.inr (Or.inr (by rw [h]))
  | _ => simp [Ty.sub] at h

theorem Ty.sub_tuple_right (a : Ty) (bs : List Ty) (h : Ty.sub a (.tuple bs) = true) :
    a.isNoValue = true ∨ a = .err ∨
      ∃ as, a = .tuple as ∧ as.length = bs.length ∧ Ty.subAll as bs = true := by
  cases a with
  | err => exact Or.inr (Or.inl rfl)
  | tuple as => exact Or.inr (Or.inr ⟨as, rfl, by simpa [Ty.sub_tuple_tuple] using h⟩)
  | user k n as => exact Or.inl (by simpa [Ty.sub, Ty.isNoValue] using h)
  | _ => simp [Ty.sub] at h

theorem Ty.sub_fn_right (a : Ty) (n : Option String) (tp : List String) (qs : List Ty) (s : Ty)
    (h : Ty.sub a (.fn n tp qs s) = true) :
    a.isNoValue = true ∨ a = .err ∨ ∃ n' tp' ps r, a = .fn n' tp' ps r ∧ ps.length = qs.length ∧
      Ty.subAll qs ps = true ∧ Ty.sub r s = true := by
  cases a with
  | err => exact Or.inr (Or.inl rfl)
  | fn n' tp' ps r =>
    simp [Ty.sub_fn_fn] at h
    exact Or.inr (Or.inr ⟨n', tp', ps, r, rfl, h.1.1, h.1.2, h.2⟩)
  | user k n as => exact Or.inl (by simpa [Ty.sub, Ty.isNoValue] using h)
  | _ => simp [Ty.sub] at h

theorem Ty.sub_user_right (a : Ty) (k : Kind) (n : String) (bs : List Ty)
    (h : Ty.sub a (.user k n bs) = true) :
    a.isNoValue = true ∨ a = .err ∨ ∃ k' as, a = .user k' n as ∧ Ty.subAll as bs = true := by
  cases a with
  | err => exact Or.inr (Or.inl rfl)
  | user k' n' as =>
    simp [Ty.sub_user_user] at h
    rcases h with h | ⟨rfl, h⟩
    · exact Or.inl (by simp [Ty.isNoValue, h])
    · exact Or.inr (Or.inr ⟨k', as, rfl, h⟩)
  | _ => simp [Ty.sub] at h

theorem Ty.sub_param_right (a : Ty) (q : String) (h : Ty.sub a (.param q) = true) :
    a.isNoValue = true ∨ a = .err ∨ a = .param q := by
  cases a with
  | err => exact Or.inr (Or.inl rfl)
  | param p =>
    simp [Ty.sub_param_param] at h
    exact Or.inr (Or.inr (by rw [h]))
  | user k n as => exact Or.inl (by simpa [Ty.sub, Ty.isNoValue] using h)
  | _ => simp [Ty.sub] at h

mutual
theorem Ty.sub_refl : ∀ t : Ty, Ty.sub t t = true
  | .any => Ty.sub_any _
  | .tuple items => by simp [Ty.sub_tuple_tuple, Ty.subAll_refl items]
  | .fn n tp ps r => by simp [Ty.sub_fn_fn, Ty.subAll_refl ps, Ty.sub_refl r]
  | .user k n as => by simp [Ty.sub_user_user, Ty.subAll_refl as]
  | .param a => by simp [Ty.sub_param_param]
  | .err => Ty.sub_err _
theorem Ty.subAll_refl : ∀ ts : List Ty, Ty.subAll ts ts = true
  | [] => Ty.subAll_nil_left _
  | t :: ts => by simp [Ty.subAll_cons, Ty.sub_refl t, Ty.subAll_refl ts]
end

theorem Ty.subAllFlip_refl : ∀ ts : List Ty, Ty.subAllFlip ts ts = true :=
  fun ts => by rw [Ty.subAllFlip_eq]; exact Ty.subAll_refl ts

/- Recursion is on the MIDDLE type: its head fixes the head of the upper type (`sub_*_left`) and
of the lower one (`sub_*_right`), up to the bottom and top cases. Arity well-formedness is what
makes the zipped argument lists of a named type equally long. -/
mutual
theorem Ty.sub_trans (sig : String → Nat) : ∀ (b a c : Ty),
    Ty.wf sig a = true → Ty.wf sig b = true → Ty.wf sig c = true →
    Ty.noErr a = true → Ty.noErr b = true → Ty.noErr c = true →
    Ty.sub a b = true → Ty.sub b c = true → Ty.sub a c = true
  | .any, a, c, wa, wb, wc, na, nb, nc, hab, hbc => by
      rcases Ty.sub_any_left c hbc with rfl | rfl
      · exact Ty.sub_any a
      · cases nc
  | .tuple bs, a, c, wa, wb, wc, na, nb, nc, hab, hbc => by
      rcases Ty.sub_tuple_left bs c hbc with rfl | rfl | ⟨cs, rfl, l2, h2⟩
      · exact Ty.sub_any a
      · cases nc
      rcases Ty.sub_tuple_right a bs hab with hnv | rfl | ⟨as, rfl, l1, h1⟩
      · exact Ty.sub_of_isNoValue a _ hnv
      · cases na
      simp only [Ty.wf, Ty.noErr] at wa wb wc na nb nc
      simp [Ty.sub_tuple_tuple, l1.trans l2, Ty.subAll_trans sig bs as cs l1 l2 wa wb wc na nb nc h1 h2]
  | .fn n tp qs s, a, c, wa, wb, wc, na, nb, nc, hab, hbc => by
      rcases Ty.sub_fn_left n tp qs s c hbc with rfl | rfl | ⟨n3, tp3, rs, t, rfl, l2, h2, h2'⟩
      · exact Ty.sub_any a
      · cases nc
      rcases Ty.sub_fn_right a n tp qs s hab with hnv | rfl | ⟨n1, tp1, ps, r, rfl, l1, h1, h1'⟩
      · exact Ty.sub_of_isNoValue a _ hnv
      · cases na
      simp only [Ty.wf, Ty.noErr, Bool.and_eq_true] at wa wb wc na nb nc
      simp [Ty.sub_fn_fn, l1.trans l2,
        Ty.subAll_trans sig qs rs ps l2.symm l1.symm wc.1 wb.1 wa.1 nc.1 nb.1 na.1 h2 h1,
        Ty.sub_trans sig s r t wa.2 wb.2 wc.2 na.2 nb.2 nc.2 h1' h2']
  | .user k n bs, a, c, wa, wb, wc, na, nb, nc, hab, hbc => by
      rcases Ty.sub_user_right a k n bs hab with hnv | rfl | ⟨k1, as, rfl, h1⟩
      · exact Ty.sub_of_isNoValue a _ hnv
      · cases na
      by_cases hn : n = "NoValue"
      · exact Ty.sub_of_isNoValue _ c (by simp [Ty.isNoValue, hn])
      rcases Ty.sub_user_left k n bs c hn hbc with rfl | rfl | ⟨k3, cs, rfl, h2⟩
      · exact Ty.sub_any _
      · cases nc
      simp only [Ty.wf, Ty.noErr, Bool.and_eq_true, beq_iff_eq] at wa wb wc na nb nc
      simp [Ty.sub_user_user, Ty.subAll_trans sig bs as cs (wa.1.trans wb.1.symm)
        (wb.1.trans wc.1.symm) wa.2 wb.2 wc.2 na nb nc h1 h2]
  | .param p, a, c, wa, wb, wc, na, nb, nc, hab, hbc => by
      rcases Ty.sub_param_left p c hbc with rfl | rfl | rfl
      · exact Ty.sub_any a
      · cases nc
      · exact hab
  | .err, a, c, wa, wb, wc, na, nb, nc, hab, hbc => by cases nb
theorem Ty.subAll_trans (sig : String → Nat) : ∀ (bs as cs : List Ty),
    as.length = bs.length → bs.length = cs.length →
    Ty.wfList sig as = true → Ty.wfList sig bs = true → Ty.wfList sig cs = true →
    Ty.noErrList as = true → Ty.noErrList bs = true → Ty.noErrList cs = true →
    Ty.subAll as bs = true → Ty.subAll bs cs = true → Ty.subAll as cs = true
  | [], as, cs, h1, h2, wa, wb, wc, na, nb, nc, hab, hbc => by
      cases as
      · exact Ty.subAll_nil_left cs
      · cases h1
  | b :: bs, [], cs, h1, h2, wa, wb, wc, na, nb, nc, hab, hbc => by cases h1
  | b :: bs, a :: as, [], h1, h2, wa, wb, wc, na, nb, nc, hab, hbc => by cases h2
  | b :: bs, a :: as, c :: cs, h1, h2, wa, wb, wc, na, nb, nc, hab, hbc => by
      simp only [Ty.subAll_cons, Ty.wfList, Ty.noErrList, Bool.and_eq_true, List.length_cons,
        Nat.add_right_cancel_iff] at *
      exact ⟨Ty.sub_trans sig b a c wa.1 wb.1 wc.1 na.1 nb.1 nc.1 hab.1 hbc.1,
             Ty.subAll_trans sig bs as cs h1 h2 wa.2 wb.2 wc.2 na.2 nb.2 nc.2 hab.2 hbc.2⟩
end

theorem Ty.subAllFlip_trans (sig : String → Nat) : ∀ (bs as cs : List Ty),
    as.length = bs.length → bs.length = cs.length →
    Ty.wfList sig as = true → Ty.wfList sig bs = true → Ty.wfList sig cs = true →
    Ty.noErrList as = true → Ty.noErrList bs = true → Ty.noErrList cs = true →
    Ty.subAllFlip as bs = true → Ty.subAllFlip bs cs = true → Ty.subAllFlip as cs = true := by
  intro bs as cs h1 h2 wa wb wc na nb nc hab hbc
  rw [Ty.subAllFlip_eq] at hab hbc ⊢
  exact Ty.subAll_trans sig bs cs as h2.symm h1.symm wc wb wa nc nb na hbc hab

mutual
theorem Ty.beq_iff : ∀ (a b : Ty), Ty.beq a b = true ↔ a = b
  | .any => fun b => by cases b <;> simp [Ty.beq]
  | .tuple as => fun b => by cases b <;> simp [Ty.beq, Ty.beqList_iff as]
  | .fn n tp ps r => fun b => by cases b <;> simp [Ty.beq, Ty.beqList_iff ps, Ty.beq_iff r, and_assoc]
  | .user k n as => fun b => by cases b <;> simp [Ty.beq, Ty.beqList_iff as, and_assoc]
  | .param p => fun b => by cases b <;> simp [Ty.beq]
  | .err => fun b => by cases b <;> simp [Ty.beq]
theorem Ty.beqList_iff : ∀ (as bs : List Ty), Ty.beqList as bs = true ↔ as = bs
  | [] => fun bs => by cases bs <;> simp [Ty.beqList]
  | a :: as => fun bs => by cases bs <;> simp [Ty.beqList, Ty.beq_iff a, Ty.beqList_iff as]
end

theorem Ty.eq_of_beq (a b : Ty) : Ty.beq a b = true → a = b := (Ty.beq_iff a b).mp

theorem Ty.eq_of_beqList : ∀ (as bs : List Ty), Ty.beqList as bs = true → as = bs :=
  fun as bs => (Ty.beqList_iff as bs).mp

theorem Ty.beq_refl (a : Ty) : Ty.beq a a = true := (Ty.beq_iff a a).mpr rfl

theorem Ty.beqList_refl : ∀ (as : List Ty), Ty.beqList as as = true :=
  fun as => (Ty.beqList_iff as as).mpr rfl

theorem Ty.unify_cases (a b c : Ty) (h : Ty.unify a b = some c) :
    ((a.isAny || b.isAny) = true ∧ c = .any) ∨
    ((a.isNoValue || a.isErr) = true ∧ c = b) ∨
    ((b.isNoValue || b.isErr) = true ∧ c = a) ∨
    (a = b ∧ c = a) ∨
    ∃ k n as bs cs, a = .user k n as ∧ b = .user k n bs ∧ as.length = bs.length ∧
      Ty.unifyArgs as bs = some cs ∧ c = .user k n cs := by
  unfold Ty.unify at h
  by_cases h1 : (a.isAny || b.isAny) = true
  · rw [if_pos h1] at h; cases h; exact Or.inl ⟨h1, rfl⟩
  rw [if_neg h1] at h
  by_cases h2 : (a.isNoValue || a.isErr) = true
  · rw [if_pos h2] at h; cases h; exact Or.inr (Or.inl ⟨h2, rfl⟩)
  rw [if_neg h2] at h
  by_cases h3 : (b.isNoValue || b.isErr) = true
  · rw [if_pos h3] at h; cases h; exact Or.inr (Or.inr (Or.inl ⟨h3, rfl⟩))
  rw [if_neg h3] at h
  by_cases h4 : Ty.beq a b = true
  · rw [if_pos h4] at h; cases h; exact Or.inr (Or.inr (Or.inr (Or.inl ⟨Ty.eq_of_beq a b h4, rfl⟩)))
  rw [if_neg h4] at h
  refine Or.inr (Or.inr (Or.inr (Or.inr ?_)))
  split at h
  · rename_i k1 n1 as k2 n2 bs
    by_cases h5 : (k1 != k2 || n1 != n2 || as.length != bs.length) = true
    · rw [if_pos h5] at h; cases h
    rw [if_neg h5] at h
    simp only [Bool.or_eq_true, bne_iff_ne, ne_eq, not_or, Decidable.not_not] at h5
    obtain ⟨⟨rfl, rfl⟩, hl⟩ := h5
    cases hargs : Ty.unifyArgs as bs with
    | none => rw [hargs] at h; cases h
    | some cs => rw [hargs] at h; cases h; exact ⟨k1, n1, as, bs, cs, rfl, rfl, hl, hargs, rfl⟩
  · cases h

theorem Ty.unifyArgs_cons (a : Ty) (as : List Ty) (b : Ty) (bs cs : List Ty)
    (h : Ty.unifyArgs (a :: as) (b :: bs) = some cs) :
    ∃ c cs', Ty.unify a b = some c ∧ Ty.unifyArgs as bs = some cs' ∧ cs = c :: cs' := by
  rw [Ty.unifyArgs] at h
  cases hc : Ty.unify a b with
  | none => rw [hc] at h; cases h
  | some c =>
    cases hcs : Ty.unifyArgs as bs with
    | none => rw [hc, hcs] at h; cases h
    | some cs' => rw [hc, hcs] at h; cases h; exact ⟨c, cs', rfl, rfl, rfl⟩

theorem Ty.unifyArgs_nil (cs : List Ty) (h : Ty.unifyArgs [] [] = some cs) : cs = [] := by
  rw [Ty.unifyArgs] at h
  · cases h; rfl
  · intro a as b bs h; cases h

/-- `unifyArgs` only on lists of equal length, which is how `unify` calls it. -/
theorem Ty.unify_ind {P : Ty → Ty → Ty → Prop} {Q : List Ty → List Ty → List Ty → Prop}
    (top : ∀ a b, (a.isAny || b.isAny) = true → P a b .any)
    (left : ∀ a b, (a.isNoValue || a.isErr) = true → P a b b)
    (right : ∀ a b, (b.isNoValue || b.isErr) = true → P a b a)
    (same : ∀ a, P a a a)
    (user : ∀ k n as bs cs, as.length = bs.length → Ty.unifyArgs as bs = some cs → Q as bs cs →
      P (.user k n as) (.user k n bs) (.user k n cs))
    (nil : Q [] [] [])
    (cons : ∀ a b c as bs cs, P a b c → Q as bs cs → Q (a :: as) (b :: bs) (c :: cs)) :
    (∀ a b c, Ty.unify a b = some c → P a b c) ∧
    (∀ as bs cs, as.length = bs.length → Ty.unifyArgs as bs = some cs → Q as bs cs) := by
  suffices H : ∀ n,
      (∀ a b c, sizeOf a < n → Ty.unify a b = some c → P a b c) ∧
      (∀ as bs cs, sizeOf as < n → as.length = bs.length → Ty.unifyArgs as bs = some cs → Q as bs cs) from
    ⟨fun a b c h => (H _).1 a b c (Nat.lt_succ_self _) h,
     fun as bs cs hl h => (H _).2 as bs cs (Nat.lt_succ_self _) hl h⟩
  intro n
  induction n with
  | zero => exact ⟨fun _ _ _ h => absurd h (Nat.not_lt_zero _), fun _ _ _ h => absurd h (Nat.not_lt_zero _)⟩
  | succ n ih =>
    refine ⟨fun a b c hn h => ?_, fun as bs cs hn hl h => ?_⟩
    · rcases Ty.unify_cases a b c h with ⟨h1, rfl⟩ | ⟨h1, rfl⟩ | ⟨h1, rfl⟩ | ⟨rfl, rfl⟩ |
        ⟨k, m, as, bs, cs, rfl, rfl, hl, hargs, rfl⟩
      · exact top a b h1
      · exact left a c h1
      · exact right c b h1
      · exact same c
      · refine user k m as bs cs hl hargs (ih.2 as bs cs ?_ hl hargs)
        simp only [Ty.user.sizeOf_spec] at hn
        omega
    · match as, bs, hl with
      | [], [], _ => rw [Ty.unifyArgs_nil cs h]; exact nil
      | a :: as, b :: bs, hl =>
        obtain ⟨c, cs', hc, hcs, rfl⟩ := Ty.unifyArgs_cons a as b bs cs h
        simp only [List.cons.sizeOf_spec] at hn
        exact cons a b c as bs cs' (ih.1 a b c (by omega) hc)
          (ih.2 as bs cs' (by omega) (by simpa using hl) hcs)

theorem Ty.unifyArgs_length : ∀ (as bs cs : List Ty), as.length = bs.length →
    Ty.unifyArgs as bs = some cs → cs.length = as.length
  | [], [], cs, _, h => by rw [Ty.unifyArgs_nil cs h]
  | a :: as, b :: bs, cs, hl, h => by
    obtain ⟨c, cs', _, hcs, rfl⟩ := Ty.unifyArgs_cons a as b bs cs h
    simp [Ty.unifyArgs_length as bs cs' (by simpa using hl) hcs]

theorem Ty.unify_upper_both :
    (∀ a b c, Ty.unify a b = some c → Ty.sub a c = true ∧ Ty.sub b c = true) ∧
    (∀ as bs cs, as.length = bs.length → Ty.unifyArgs as bs = some cs →
      Ty.subAll as cs = true ∧ Ty.subAll bs cs = true) := by
  apply Ty.unify_ind
  · intro a b _; exact ⟨Ty.sub_any a, Ty.sub_any b⟩
  · intro a b h
    refine ⟨?_, Ty.sub_refl b⟩
    rcases Bool.or_eq_true _ _ |>.mp h with h | h
    · exact Ty.sub_of_isNoValue a b h
    · exact Ty.sub_of_isErr a b h
  · intro a b h
    refine ⟨Ty.sub_refl a, ?_⟩
    rcases Bool.or_eq_true _ _ |>.mp h with h | h
    · exact Ty.sub_of_isNoValue b a h
    · exact Ty.sub_of_isErr b a h
  · intro a; exact ⟨Ty.sub_refl a, Ty.sub_refl a⟩
  · intro k n as bs cs _ _ h
    simp [Ty.sub_user_user, h.1, h.2]
  · exact ⟨Ty.subAll_nil_left _, Ty.subAll_nil_left _⟩
  · intro a b c as bs cs h1 h2
    simp [Ty.subAll_cons, h1.1, h1.2, h2.1, h2.2]

theorem Ty.unify_upper : ∀ (a b c : Ty), Ty.unify a b = some c →
    Ty.sub a c = true ∧ Ty.sub b c = true :=
  Ty.unify_upper_both.1

theorem Ty.unifyArgs_upper : ∀ (as bs cs : List Ty), Ty.unifyArgs as bs = some cs →
    as.length = bs.length →
    Ty.subAll as cs = true ∧ Ty.subAll bs cs = true ∧ cs.length = as.length :=
  fun as bs cs h hl =>
    ⟨(Ty.unify_upper_both.2 as bs cs hl h).1, (Ty.unify_upper_both.2 as bs cs hl h).2,
      Ty.unifyArgs_length as bs cs hl h⟩

theorem Ty.unify_ok_both (sig : String → Nat) :
    (∀ a b c, Ty.unify a b = some c →
      Ty.wf sig a = true → Ty.wf sig b = true → Ty.noErr a = true → Ty.noErr b = true →
      Ty.wf sig c = true ∧ Ty.noErr c = true) ∧
    (∀ as bs cs, as.length = bs.length → Ty.unifyArgs as bs = some cs →
      Ty.wfList sig as = true → Ty.wfList sig bs = true →
      Ty.noErrList as = true → Ty.noErrList bs = true →
      Ty.wfList sig cs = true ∧ Ty.noErrList cs = true) := by
  apply Ty.unify_ind
  · intro a b _ _ _ _ _; exact ⟨rfl, rfl⟩
  · intro a b _ _ wb _ nb; exact ⟨wb, nb⟩
  · intro a b _ wa _ na _; exact ⟨wa, na⟩
  · intro a wa _ na _; exact ⟨wa, na⟩
  · intro k n as bs cs hl hargs ih wa wb na nb
    simp only [Ty.wf, Ty.noErr, Bool.and_eq_true, beq_iff_eq] at wa wb na nb ⊢
    obtain ⟨h1, h2⟩ := ih wa.2 wb.2 na nb
    exact ⟨⟨(Ty.unifyArgs_length as bs cs hl hargs).trans wa.1, h1⟩, h2⟩
  · intro _ _ _ _; exact ⟨rfl, rfl⟩
  · intro a b c as bs cs h1 h2 wa wb na nb
    simp only [Ty.wfList, Ty.noErrList, Bool.and_eq_true] at wa wb na nb ⊢
    obtain ⟨h3, h4⟩ := h2 wa.2 wb.2 na.2 nb.2
    obtain ⟨h6, h7⟩ := h1 wa.1 wb.1 na.1 nb.1
    exact ⟨⟨h6, h3⟩, ⟨h7, h4⟩⟩

theorem Ty.unify_ok (sig : String → Nat) : ∀ (a b c : Ty), Ty.unify a b = some c →
    Ty.wf sig a = true → Ty.wf sig b = true → Ty.noErr a = true → Ty.noErr b = true →
    Ty.wf sig c = true ∧ Ty.noErr c = true :=
  (Ty.unify_ok_both sig).1

theorem Ty.unifyArgs_ok (sig : String → Nat) : ∀ (as bs cs : List Ty), Ty.unifyArgs as bs = some cs →
    as.length = bs.length →
    Ty.wfList sig as = true → Ty.wfList sig bs = true →
    Ty.noErrList as = true → Ty.noErrList bs = true →
    Ty.wfList sig cs = true ∧ Ty.noErrList cs = true ∧ cs.length = as.length :=
  fun as bs cs h hl wa wb na nb =>
    ⟨((Ty.unify_ok_both sig).2 as bs cs hl h wa wb na nb).1,
      ((Ty.unify_ok_both sig).2 as bs cs hl h wa wb na nb).2, Ty.unifyArgs_length as bs cs hl h⟩

theorem Ty.unify_self (a : Ty) : Ty.unify a a = some a := by
  unfold Ty.unify
  cases a <;> simp [Ty.isAny, Ty.isNoValue, Ty.isErr, Ty.beq_refl]

theorem Ty.unifyAllFrom_upper (sig : String → Nat) : ∀ (ts : List Ty) (acc c : Ty) (idx : Nat),
    Ty.unifyAllFrom acc idx ts = .ok c →
    Ty.wf sig acc = true → Ty.noErr acc = true →
    (∀ t ∈ ts, Ty.wf sig t = true ∧ Ty.noErr t = true) →
    Ty.sub acc c = true ∧ (∀ t ∈ ts, Ty.sub t c = true) ∧ Ty.wf sig c = true ∧ Ty.noErr c = true
  | [], acc, c, idx, h, wa, na, hts => by
      simp [Ty.unifyAllFrom] at h
      subst h
      exact ⟨Ty.sub_refl _, by simp, wa, na⟩
  | t :: ts, acc, c, idx, h, wa, na, hts => by
      simp [Ty.unifyAllFrom] at h
      split at h
      · cases h
      · rename_i u hu
        have ht := hts t (by simp)
        have up := Ty.unify_upper acc t u hu
        have ok := Ty.unify_ok sig acc t u hu wa ht.1 na ht.2
        have ih := Ty.unifyAllFrom_upper sig ts u c (idx + 1) h ok.1 ok.2
          (fun t' ht' => hts t' (by simp [ht']))
        refine ⟨?_, ?_, ih.2.2.1, ih.2.2.2⟩
        · exact Ty.sub_trans sig u acc c wa ok.1 ih.2.2.1 na ok.2 ih.2.2.2 up.1 ih.1
        · intro t' ht'
          simp at ht'
          rcases ht' with rfl | ht'
          · exact Ty.sub_trans sig u t' c ht.1 ok.1 ih.2.2.1 ht.2 ok.2 ih.2.2.2 up.2 ih.1
          · exact ih.2.1 t' ht'

theorem Ty.unifyAllFrom_replicate (a : Ty) : ∀ (n idx : Nat),
    Ty.unifyAllFrom a idx (List.replicate n a) = .ok a
  | 0, idx => by simp [Ty.unifyAllFrom]
  | n + 1, idx => by
      simp [List.replicate, Ty.unifyAllFrom, Ty.unify_self, Ty.unifyAllFrom_replicate a n]
