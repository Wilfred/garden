import GardenVerif.Props.C33
/-!
C03 — Operator chains are left-associative with uniform precedence.

Model: `Parse.parseExpression` (M2) of the REPAIRED parser (`pn = false`): the infix arm of the
trailing loop parses its right operand without infix operators and the loop folds left
(/verif/patches/parser-fix-left-assoc.diff). On the pinned tree the property is violated
(`10 - 1 - 1 - 1` is parsed as `(10 - (1 - 1)) - 1`): `pinned_chain_wrong` below.

Operands ("atoms") are the expressions `e` with `ParseLemmas.WF true e`: integer literals (every
i64 value: `ParseLemmas.intTok_of_i64` proves that the decimal text of every i64 is read back by the
parser as that value, so there is no hypothesis about integer tokens), variables,
calls `f(a, …)` whose arguments are arbitrary chains, and parenthesised chains, nested to any depth.
`ParseLemmas.WF.opd` proves the operand invariant (`RT.Opd`: from the first token of the operand the
parser gets back into the trailing loop holding exactly `e`) for all of them, on the node lemmas of the
round trip (Lemmas/RoundTrip.lean).
Operators: any member of `Parse.gardenBinaryOps` (the table of `token_as_binary_op`; the proofs use
only that a member is none of `( . :: = += -= {` and not `else`, checked by `decide` over the table).

`chain_left_assoc_all` (end of the file) is the same statement for operands of EVERY closed kind
(`RT.WT .closed` of Props/C33.lean: also strings, floats, method calls, dot / `::` access, lists,
tuples, dictionaries, struct literals, lambdas, `assert`, `if` / `while` / `for` / `match` / `try`).
-/

namespace C03
open Parse Print ParseLemmas

/-- `((x₀ op₁ x₁) op₂ x₂) … opₙ xₙ`. -/
def chainExpr (x₀ : Expr) (rest : List (String × Expr)) : Expr :=
  rest.foldl (fun acc p => .binop acc p.1 p.2) x₀

/-- The tokens of `x₀ op₁ x₁ … opₙ xₙ` (all on line `ln`; operators surrounded by spaces). -/
def tokensOf (ln : Nat) (first : Bool) (x₀ : Expr) (rest : List (String × Expr)) : List Tok :=
  T ln first x₀ ++ rest.flatMap (fun p => ⟨p.1, false, ln, ln⟩ :: T ln false p.2)

def OpsOk (rest : List (String × Expr)) : Prop :=
  ∀ p ∈ rest, gardenBinaryOps.contains p.1 = true ∧ WF true p.2

theorem chain_ind {P : Expr → Prop} {Q : String × Expr → Prop} (hs : ∀ l p, P l → Q p → P (.binop l p.1 p.2))
    (l : Expr) (rest : List (String × Expr)) (hl : P l) (hr : ∀ p ∈ rest, Q p) : P (chainExpr l rest) := by
  induction rest generalizing l with
  | nil => exact hl
  | cons p rest ih =>
    exact ih _ (hs l p hl (hr p (List.mem_cons_self ..))) fun q hq => hr q (List.mem_cons_of_mem _ hq)

theorem chain_tokens_aux (ln : Nat) (first : Bool) (l : Expr) (rest : List (String × Expr))
    (hl : WF false l) (hr : OpsOk rest) :
    T ln first (chainExpr l rest) = T ln first l ++ rest.flatMap (fun p => ⟨p.1, false, ln, ln⟩ :: T ln false p.2) := by
  induction rest generalizing l with
  | nil => simp [chainExpr]
  | cons p rest ih =>
    have hp := hr p (List.mem_cons_self ..)
    have := ih (.binop l p.1 p.2) (WF.binop hl hp.1 hp.2) (fun q hq => hr q (List.mem_cons_of_mem _ hq))
    simp only [chainExpr, List.foldl_cons] at this ⊢
    rw [this, T_binop ln first l p.2 p.1 (hl.flat first)]
    simp [List.append_assoc]

/-- **C03, main theorem.** For every operand `x₀`, every list of (operator, operand) pairs — any
length, any mix of the 21 operators — and every context (`pre` before, `post` after, where `post`
does not start with something that continues an expression), the parser returns the LEFT-nested
tree `((x₀ op₁ x₁) op₂ x₂) …`, consumes exactly the chain's tokens and reports no diagnostic, for
every fuel above a bound that depends only on the chain. -/
theorem chain_left_assoc (x₀ : Expr) (rest : List (String × Expr)) (h0 : WF true x₀) (hr : OpsOk rest) :
    ∃ n, ∀ (fuel ln : Nat) (first : Bool) (pre post : List Tok) (d : List DiagKind),
      n ≤ fuel → Follow post → ChainStop post →
      ∃ ln', parseExpression (pre ++ tokensOf ln first x₀ rest ++ post) false fuel ⟨pre.length, d⟩ =
        .ok ⟨rest.foldl (fun acc p => .binop acc p.1 p.2) x₀,
             ⟨ln', pre.length + (tokensOf ln first x₀ rest).length⟩⟩
            ⟨pre.length + (tokensOf ln first x₀ rest).length, d⟩ := by
  obtain ⟨n, hn⟩ := parse_print_fragment (chain_ind (fun _ _ hl hp => .binop hl hp.1 hp.2) x₀ rest (.closed h0) hr)
  refine ⟨n, ?_⟩
  intro fuel ln first pre post d hf hfo hc
  have ht := chain_tokens_aux ln first x₀ rest (.closed h0) hr
  have := hn fuel ln first pre post d hf hfo hc
  simp only [chainExpr] at ht this
  rw [ht] at this
  exact this

/-- A whole source text that is one chain: `parse_toplevel_items`' expression parser at index 0 with
nothing after it. -/
theorem chain_left_assoc_whole (x₀ : Expr) (rest : List (String × Expr)) (h0 : WF true x₀) (hr : OpsOk rest) :
    ∃ n, ∀ fuel, n ≤ fuel →
      ∃ ln', parseExpression (tokensOf 0 true x₀ rest) false fuel ⟨0, []⟩ =
        .ok ⟨rest.foldl (fun acc p => .binop acc p.1 p.2) x₀, ⟨ln', (tokensOf 0 true x₀ rest).length⟩⟩
            ⟨(tokensOf 0 true x₀ rest).length, []⟩ := by
  obtain ⟨n, hn⟩ := chain_left_assoc x₀ rest h0 hr
  refine ⟨n, fun fuel hf => ?_⟩
  have := hn fuel 0 true [] [] [] hf (by intro t h; simp at h) (by intro t h; simp at h)
  simpa using this

/-- **Explicit parentheses override the grouping** (right operand): `a op ( chain )` is the tree
`binop a op (paren chain)` — the parenthesised chain stays one operand (a `Parentheses` node), it is
not re-associated into the outer chain. -/
theorem paren_overrides_right (a inner : Expr) (op : String) (ha : WF false a) (hi : WF false inner)
    (hop : gardenBinaryOps.contains op = true) :
    ∃ n, ∀ (fuel ln : Nat) (first : Bool) (pre post : List Tok) (d : List DiagKind),
      n ≤ fuel → Follow post → ChainStop post →
      ∃ ln', parseExpression (pre ++ T ln first (.binop a op (.paren inner)) ++ post) false fuel ⟨pre.length, d⟩ =
        .ok ⟨.binop a op (.paren inner), ⟨ln', pre.length + (T ln first (.binop a op (.paren inner))).length⟩⟩
            ⟨pre.length + (T ln first (.binop a op (.paren inner))).length, d⟩ :=
  parse_print_fragment (.binop ha hop (.paren hi))

/-- **Explicit parentheses override the grouping** (left operand): `( chain ) op c` is
`binop (paren chain) op c`. -/
theorem paren_overrides_left (inner c : Expr) (op : String) (hi : WF false inner) (hc : WF true c)
    (hop : gardenBinaryOps.contains op = true) :
    ∃ n, ∀ (fuel ln : Nat) (first : Bool) (pre post : List Tok) (d : List DiagKind),
      n ≤ fuel → Follow post → ChainStop post →
      ∃ ln', parseExpression (pre ++ T ln first (.binop (.paren inner) op c) ++ post) false fuel ⟨pre.length, d⟩ =
        .ok ⟨.binop (.paren inner) op c, ⟨ln', pre.length + (T ln first (.binop (.paren inner) op c)).length⟩⟩
            ⟨pre.length + (T ln first (.binop (.paren inner) op c)).length, d⟩ :=
  parse_print_fragment (.binop (.closed (.paren hi)) hop hc)

theorem paren_tokens (ln : Nat) (first : Bool) (a inner : Expr) (op : String) (ha : WF false a) (hi : WF false inner) :
    T ln first (.binop a op (.paren inner)) =
      T ln first a ++ ⟨op, false, ln, ln⟩ :: ⟨"(", false, ln, ln⟩ :: (T ln true inner ++ [⟨")", true, ln, ln⟩]) := by
  rw [T_binop ln first a _ op (ha.flat first), T_paren ln false inner (hi.flat true)]

theorem intTok_10 : I64 10 := ⟨by decide, by decide⟩
theorem intTok_1 : I64 1 := ⟨by decide, by decide⟩
theorem validName_f : ValidName "f" := ⟨by decide, by decide, by decide, by decide⟩

/-- `10 - 1 - f(1 * 10) - (1 - 1)` satisfies the hypotheses of `chain_left_assoc`. -/
example : WF true (.intLit 10) ∧
    OpsOk [("-", .intLit 1), ("-", .call (.var "f") [.binop (.intLit 1) "*" (.intLit 10)]),
           ("-", .paren (.binop (.intLit 1) "-" (.intLit 1)))] := by
  refine ⟨.int intTok_10, ?_⟩
  intro p hp
  simp at hp
  rcases hp with rfl | rfl | rfl
  · exact ⟨by decide, .int intTok_1⟩
  · exact ⟨by decide, .call (.var validName_f) (by
      intro a ha; simp at ha; subst ha
      exact .binop (.closed (.int intTok_1)) (by decide) (.int intTok_10))⟩
  · exact ⟨by decide, .paren (.binop (.closed (.int intTok_1)) (by decide) (.int intTok_1))⟩

def witnessToks : List Tok :=
  [⟨"10", true, 0, 0⟩, ⟨"-", false, 0, 0⟩, ⟨"1", false, 0, 0⟩, ⟨"-", false, 0, 0⟩, ⟨"1", false, 0, 0⟩,
   ⟨"-", false, 0, 0⟩, ⟨"1", false, 0, 0⟩]

def resExpr : Res PExpr → Option Expr
  | .ok v _ => some v.e
  | _ => none

/-- Fully parenthesised rendering of integer operator trees (to state the witnesses). -/
def shapeOf : Expr → String
  | .binop l op r => "(" ++ shapeOf l ++ op ++ shapeOf r ++ ")"
  | .intLit i => toString i
  | _ => "?"

/-- The PINNED parser (`pn = true`: right-recursive call + one rotation, parser.rs:1321-1357) groups
`10 - 1 - 1 - 1` as `(10 - (1 - 1)) - 1`, which evaluates to 9: the property fails on the pinned tree. -/
theorem pinned_chain_wrong :
    (resExpr (parseExpressionT witnessToks true true 40 ⟨0, []⟩)).map shapeOf = some "((10-(1-1))-1)" := by
  decide

/-- The repaired parser on the same tokens (an instance of `chain_left_assoc`, evaluated). -/
theorem fixed_chain_witness :
    (resExpr (parseExpressionT witnessToks false true 40 ⟨0, []⟩)).map shapeOf = some "(((10-1)-1)-1)" := by
  decide

theorem chain_print (first : Bool) (x₀ : Expr) (rest : List (String × Expr)) :
    printExpr first (chainExpr x₀ rest) =
      printExpr first x₀ ++ rest.flatMap (fun p => w p.1 :: printExpr false p.2) := by
  induction rest generalizing x₀ with
  | nil => simp [chainExpr]
  | cons p r ih =>
    have := ih (.binop x₀ p.1 p.2)
    simp only [chainExpr, List.foldl_cons] at this ⊢
    rw [this]
    simp [printExpr]

/-- **C03 for every operand kind.** For every closed operand `x₀` and every list of (operator, closed
operand) pairs, in every token context whose remainder does not continue the expression (`RT.Stop`):
on the tokens of `x₀ op₁ x₁ … opₙ xₙ` the parser returns the LEFT fold `((x₀ op₁ x₁) op₂ x₂) …`,
consumes exactly those tokens and reports no diagnostic, for every fuel above a bound depending only
on the chain. -/
theorem chain_left_assoc_all (x₀ : Expr) (rest : List (String × Expr)) (h0 : RT.WT .closed x₀)
    (hr : ∀ p ∈ rest, gardenBinaryOps.contains p.1 = true ∧ RT.WT .closed p.2) :
    ∃ n, ∀ (fuel ln : Nat) (first : Bool) (i : Nat) (post : List Tok) (d : List DiagKind) (toks : Toks),
      n ≤ fuel →
      toks.drop i = lexAux false ln (printExpr first x₀ ++ rest.flatMap (fun p => w p.1 :: printExpr false p.2)) ++ post →
      RT.Stop (chainExpr x₀ rest) ln post →
      ∃ r, parseExpression toks false fuel ⟨i, d⟩ =
          .ok r ⟨i + (lexAux false ln (printExpr first x₀ ++
            rest.flatMap (fun p => w p.1 :: printExpr false p.2))).length, d⟩ ∧
        r.e = chainExpr x₀ rest := by
  obtain ⟨n, hn⟩ := C33.parse_print_stmt (.ofChain (chain_ind (fun _ _ hl hp => .binop hl hp.1 hp.2) x₀ rest (.ofClosed h0) hr))
  refine ⟨n, ?_⟩
  intro fuel ln first i post d toks hf hD hs
  have := hn fuel ln first i post d toks hf (by rw [chain_print]; exact hD) hs
  rw [chain_print] at this
  exact this

end C03

