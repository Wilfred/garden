import GardenVerif.Lemmas.Incremental
import GardenVerif.Lemmas.IncrementalMono
/-!
Helper lemmas for C11 (incremental = batch): the frame parametricity of `dispatch`
(Lemmas/Incremental.lean) lifted to `step` and to whole requests.

`LF T R sb c` = the machine state `c` with the toplevel frame extended by `fx T R` and
`stop_at_expr_id = sb`; `step_diff` / `step_same` are one step, `seg_diff` / `seg_same` whole requests
of the checked reference evaluation `evalC`.
-/


namespace Incr
open Machine Resume

variable (T : List (St × Expr)) (R : List Value)

/-- Apply `g` to the LAST (bottom = toplevel) frame of the call stack. -/
def mapLast (g : Frame → Frame) : List Frame → List Frame
  | [] => []
  | [f] => [g f]
  | f :: f2 :: rest => f :: mapLast g (f2 :: rest)

/-- the frame transformer for the top frame: the bottom frame is extended, the others are not -/
def gsel (rest : List Frame) : Frame → Frame := if rest = [] then fx T R else id

theorem mapLast_cons (f : Frame) (rest : List Frame) :
    mapLast (fx T R) (f :: rest) = gsel T R rest f :: mapLast (fx T R) rest := by
  cases rest <;> simp [mapLast, gsel]

theorem mapLast_length (g : Frame → Frame) : ∀ l : List Frame, (mapLast g l).length = l.length
  | [] => rfl
  | [f] => rfl
  | f :: f2 :: rest => by simp [mapLast, mapLast_length g (f2 :: rest)]

theorem mapLast_blocks (T : List (St × Expr)) (R : List Value) : ∀ (l : List Frame),
    (mapLast (fx T R) l).map (·.blocks) = l.map (·.blocks)
  | [] => rfl
  | [f] => rfl
  | f :: f2 :: rest => by simp [mapLast, mapLast_blocks T R (f2 :: rest)]

theorem mapF_id (d : Disp) : mapF id d = d := by cases d <;> rfl

def LF (sb : Option Nat) (c : State) : State :=
  { c with stopAt := sb, frames := mapLast (fx T R) c.frames }

def hasEntry (c : State) : Bool :=
  match c.frames with
  | f :: _ => !f.exprs.isEmpty
  | [] => false

/-- the node id the step's stop test looks at: the popped entry's, or at a frame return the call
expression that created the frame (`callerId`, as in `step`) -/
def hitId (c : State) : Option Nat :=
  match c.frames with
  | f :: callers =>
    match f.exprs with
    | (_, e) :: _ => some e.id
    | [] => match callers with
      | [] => none
      | _ => f.callerId
  | [] => none

/-- `escapes`, for the toplevel frame -/
def escStep (c : State) : Bool :=
  match c.frames with
  | [f] => match f.exprs with
    | (st, e) :: rest => escapes { f with exprs := rest } st e
    | [] => false
  | _ => false

/-- What the concatenated run needs from a step of an earlier input: it does not drop the later
inputs' entries and does not touch the node the concatenated run stops at. -/
def guard (b : Nat) (c : State) : Bool := !escStep c && (hitId c != some b)

theorem gsel_pushV (rest : List Frame) (f : Frame) (v : Value) :
    (gsel T R rest f).pushV v = gsel T R rest (f.pushV v) := by
  unfold gsel; split <;> simp [fx_pushV]

theorem gsel_exprs_cons (rest : List Frame) (f : Frame) (x : St × Expr) (xs : List (St × Expr))
    (h : f.exprs = x :: xs) : (gsel T R rest f).exprs = x :: (gsel T R rest { f with exprs := xs }).exprs := by
  unfold gsel; split <;> simp [h]

theorem gsel_setExprs (rest : List Frame) (f : Frame) (xs : List (St × Expr)) :
    ({ gsel T R rest f with exprs := (gsel T R rest { f with exprs := xs }).exprs } : Frame) =
      gsel T R rest { f with exprs := xs } := by
  unfold gsel; split <;> simp [fx]

theorem gsel_values_nil (rest : List Frame) (f : Frame) (h : (gsel T R rest f).values = []) : f.values = [] := by
  unfold gsel at h; split at h <;> simp_all

theorem dispatch_gsel (p : Program) (rest : List Frame) (f : Frame) (st : St) (e : Expr)
    (hp : isPanic (dispatch p f st e) = false) (hesc : rest = [] → (T = [] ∨ escapes f st e = false)) :
    dispatch p (gsel T R rest f) st e = mapF (gsel T R rest) (dispatch p f st e) := by
  unfold gsel
  split
  · rename_i h; exact dispatch_fx T R p f st e hp (hesc h)
  · simp [mapF_id]

theorem LF_frames (sb : Option Nat) (a : State) (f' : Frame) (callers : List Frame) :
    LF T R sb { a with frames := f' :: callers } =
      { LF T R sb a with frames := gsel T R callers f' :: mapLast (fx T R) callers } := by
  simp only [LF, mapLast_cons]

/-- A step on an entry that is not refused, does not crash and does not drop the rest of the toplevel
frame's entries: the lifted state does the same dispatch, lifted. -/
theorem step_LF (sb : Option Nat) {c : State} {f : Frame} {callers : List Frame} {st : St} {e : Expr}
    {restE : List (St × Expr)} (hf : c.frames = f :: callers) (he : f.exprs = (st, e) :: restE)
    (hr : refusal c = none)
    (hnp : isPanic (dispatch c.prog { f with exprs := restE } st e) = false)
    (hesc : callers = [] → (T = [] ∨ escapes { f with exprs := restE } st e = false)) :
    step (LF T R sb c) = post (ticked (LF T R sb c)) (mapLast (fx T R) callers) st e
      (mapF (gsel T R callers) (dispatch c.prog { f with exprs := restE } st e)) := by
  have hf' : (LF T R sb c).frames = gsel T R callers f :: mapLast (fx T R) callers := by
    simp only [LF, hf, mapLast_cons]
  have hr' : refusal (LF T R sb c) = none := by
    rw [← hr]; simp only [refusal, LF, mapLast_length]
  rw [step_popped hf' (gsel_exprs_cons T R callers f (st, e) restE he), hr', gsel_setExprs]
  exact congrArg (post _ _ st e) (dispatch_gsel T R c.prog callers _ st e hnp hesc)

/-- The callee's return does not complete the node `b`: the stop test of a frame return fails. -/
theorem callerId_ne {f : Frame} {b : Nat} (h : f.callerId ≠ some b) :
    (f.callerId.isSome && (some b == f.callerId)) = false := by
  cases hc : f.callerId with
  | none => rfl
  | some x =>
    have hx : x ≠ b := fun hxb => h (by rw [hc, hxb])
    simpa using fun hbx : b = x => hx hbx.symm

theorem step_LF_return (sb : Option Nat) {c : State} {f caller : Frame} {rest : List Frame}
    (hf : c.frames = f :: caller :: rest) (he : f.exprs = []) :
    step (LF T R sb c) =
      match f.values with
      | [] => .panic "Should have a value"
      | rv :: _ =>
        if f.callerId.isSome && sb == f.callerId then .done (LF T R sb { c with frames := caller :: rest }) rv
        else .cont (LF T R sb { c with frames := (if f.callerUses then caller.pushV rv else caller) :: rest }) := by
  have hf' : (LF T R sb c).frames = f :: gsel T R rest caller :: mapLast (fx T R) rest := by
    simp only [LF, hf, mapLast]; rw [mapLast_cons]
  rw [step_return hf' he]
  rcases f.values with _ | ⟨rv, vs⟩
  · rfl
  · cases f.callerUses <;> simp only [LF, mapLast_cons, gsel_pushV] <;> rfl

/-- **One step of an earlier input, seen from the concatenated run** (different stop id): whether
the step continues or is the one at which the incremental request stops, the concatenated run
continues, and stays the lift of the incremental state. -/
theorem step_diff (b : Nat) (c c' : State) (hg : guard b c = true)
    (h : step c = .cont c' ∨ (∃ v, step c = .done c' v ∧ hasEntry c = true)) :
    step (LF T R (some b) c) = .cont (LF T R (some b) c') := by
  simp only [guard, Bool.and_eq_true, Bool.not_eq_true', bne_iff_ne, ne_eq] at hg
  obtain ⟨hesc, hhit⟩ := hg
  match hf : c.frames with
  | [] =>
    rcases h with h | ⟨v, h, _⟩ <;> rw [step_nil hf] at h <;> cases h
  | f :: callers =>
    match he : f.exprs with
    | [] =>
      have hnoentry : hasEntry c = false := by simp [hasEntry, hf, he]
      have h : step c = .cont c' := by
        rcases h with h | ⟨v, _, hen⟩
        · exact h
        · rw [hnoentry] at hen; cases hen
      match callers with
      | [] => rw [step_finish hf he] at h; split at h <;> cases h
      | caller :: rest =>
        have hcid := callerId_ne (f := f) (b := b) (by simpa [hitId, hf, he] using hhit)
        rw [step_LF_return T R (some b) hf he]
        rw [step_return hf he] at h
        revert h
        rcases f.values with _ | ⟨rv, vs⟩
        · intro h; cases h
        · intro h
          dsimp only at h ⊢
          rw [hcid]
          by_cases hstop : (f.callerId.isSome && c.stopAt == f.callerId) = true
          · rw [if_pos hstop] at h; cases h
          · rw [if_neg hstop] at h; cases h; rfl
    | (st, e) :: restE =>
      have hid : some b ≠ some e.id := by
        have : hitId c = some e.id := by simp [hitId, hf, he]
        rw [this] at hhit; exact fun h => hhit h.symm
      have hesc' : callers = [] → (T = [] ∨ escapes { f with exprs := restE } st e = false) := by
        intro hc; subst hc; right; simpa [escStep, hf, he] using hesc
      have h' : step c = .cont c' ∨ ∃ v, step c = .done c' v := h.imp id fun ⟨v, hv, _⟩ => ⟨v, hv⟩
      have hne : ∀ s' er, step c ≠ .error s' er := by
        intro s' er he'; rcases h' with h1 | ⟨v, h1⟩ <;> rw [h1] at he' <;> cases he'
      have hr : refusal c = none := refusal_none_of_not_error hf he hne
      rw [step_popped hf he, hr] at h'
      have hnp : isPanic (dispatch c.prog { f with exprs := restE } st e) = false := by
        cases hd : dispatch c.prog { f with exprs := restE } st e <;>
          first | rfl | (rw [hd] at h'; rcases h' with h1 | ⟨v, h1⟩ <;> cases h1)
      rw [step_LF T R (some b) hf he hr hnp hesc']
      -- a successful dispatch: the earlier input's step stops or goes on in the state `a`; the
      -- concatenated run, which stops elsewhere, goes on in its lift
      have key : ∀ (a : State) (f' : Frame),
          (stopCheck { a with frames := f' :: callers } f' st e = .cont c' ∨
            ∃ v, stopCheck { a with frames := f' :: callers } f' st e = .done c' v) →
          stopCheck { LF T R (some b) a with frames := gsel T R callers f' :: mapLast (fx T R) callers }
            (gsel T R callers f') st e = .cont (LF T R (some b) c') := by
        intro a f' ha
        have hc' : c' = { a with frames := f' :: callers } := by
          rw [stopCheck_eq] at ha
          split at ha <;> rcases ha with ha | ⟨v, ha⟩ <;> cases ha <;> rfl
        rw [stopCheck_ne (a := { LF T R (some b) a with frames := _ }) hid, hc', LF_frames]
      cases hd : dispatch c.prog { f with exprs := restE } st e with
      | ok f' => rw [hd] at h'; exact key (ticked c) f' h'
      | okOut f' o => rw [hd] at h'; exact key { ticked c with out := (ticked c).out ++ o } f' h'
      | newFrame f' callee =>
        rw [hd] at h'
        rcases h' with h1 | ⟨v, h1⟩ <;> cases h1
        -- the callee goes on top, so it is not the bottom frame and `mapLast` leaves it alone
        simp only [mapF, post, LF, mapLast, mapLast_cons, ticked]
      | err f' st' vals er => rw [hd] at hnp h'; rcases h' with h1 | ⟨v, h1⟩ <;> cases h1
      | panic site => rw [hd] at hnp; cases hnp
      | unsupported w => rw [hd] at h'; rcases h' with h1 | ⟨v, h1⟩ <;> cases h1

end Incr

namespace Incr
open Machine Resume

variable (R : List Value)

/-- The stop test sees the frame only through the top of its value stack. -/
theorem stopValue_lift (sa : Option Nat) (f' f2 : Frame) (st : St) (e : Expr)
    (hv : (sa == some e.id) = true → doneSub st e = true →
      f2.values = f'.values ∨ ∃ v vs vs2, f'.values = v :: vs ∧ f2.values = v :: vs2) :
    stopValue sa f2 st e = stopValue sa f' st e := by
  unfold stopValue
  by_cases h1 : (sa == some e.id) = true
  · rw [if_pos h1, if_pos h1]
    by_cases h2 : doneSub st e = true
    · rw [if_pos h2, if_pos h2]
      rcases hv h1 h2 with h | ⟨v, vs, vs2, h3, h4⟩
      · rw [h]
      · rw [h3, h4]
    · rw [if_neg h2, if_neg h2]
  · rw [if_neg h1, if_neg h1]

/-- **One step, seen from a state whose toplevel frame has further values below** (same stop id,
no further entries): exactly the same step. -/
theorem step_same (sb : Option Nat) (c : State) (hsb : c.stopAt = sb) (hok : C11.okStep (step c) = true)
    (hval : ∀ s' v f', step c = .done s' v → hasEntry c = true → s'.frames = [f'] → f'.values ≠ []) :
    step (LF [] R sb c) = C08.mapState (LF [] R sb) (step c) := by
  subst hsb
  match hf : c.frames with
  | [] => rw [step_nil hf] at hok; cases hok
  | f :: callers =>
    match he : f.exprs with
    | [] =>
      match callers with
      | [] =>
        have hf' : (LF [] R c.stopAt c).frames = [fx [] R f] := by simp only [LF, hf, mapLast]
        rw [step_finish hf he] at hok ⊢
        rw [step_finish hf' (by rw [fx_exprs, he]; rfl)]
        revert hok
        rcases hv : f.values with _ | ⟨v, vals⟩
        · intro hok; cases hok
        · intro _; simp only [hv, List.cons_append, C08.mapState, LF, mapLast, fx]
      | caller :: rest =>
        rw [step_LF_return [] R c.stopAt hf he, step_return hf he]
        rcases f.values with _ | ⟨rv, vs⟩
        · rfl
        · show (if (f.callerId.isSome && c.stopAt == f.callerId) = true then _ else _) =
            C08.mapState (LF [] R c.stopAt) (if (f.callerId.isSome && c.stopAt == f.callerId) = true then _ else _)
          split <;> rfl
    | (st, e) :: restE =>
      have hr : refusal c = none := refusal_none_of_not_error hf he (C11.okStep_not_error hok)
      rw [step_popped hf he, hr] at hok hval ⊢
      have hnp : isPanic (dispatch c.prog { f with exprs := restE } st e) = false := by
        cases hd : dispatch c.prog { f with exprs := restE } st e <;> first | rfl | (rw [hd] at hok; cases hok)
      rw [step_LF [] R c.stopAt hf he hr hnp (fun _ => Or.inl rfl)]
      -- a successful dispatch that leaves the state `a` with `f'` on top: the stop test gives the same
      -- verdict on the lifted frame, whose top value (there is one when it is asked for) is the same
      have key : ∀ (a : State) (f' : Frame), a.stopAt = c.stopAt →
          (∀ v, stopCheck { a with frames := f' :: callers } f' st e = .done { a with frames := f' :: callers } v →
            callers = [] → f'.values ≠ []) →
          stopCheck { LF [] R c.stopAt a with frames := gsel [] R callers f' :: mapLast (fx [] R) callers }
              (gsel [] R callers f') st e =
            C08.mapState (LF [] R c.stopAt) (stopCheck { a with frames := f' :: callers } f' st e) := by
        intro a f' hsa hv'
        have hsv : stopValue c.stopAt (gsel [] R callers f') st e = stopValue c.stopAt f' st e := by
          apply stopValue_lift
          intro h1 h2
          cases callers with
          | cons x xs => left; rfl
          | nil =>
            right
            cases hv : f'.values with
            | cons w ws => exact ⟨w, ws, ws ++ R, rfl, by simp [gsel, hv]⟩
            | nil =>
              have hstop : stopValue a.stopAt f' st e =
                  some (.str "__ERROR: no expressions evaluated. This is a bug.") := by
                unfold stopValue; rw [hsa, if_pos h1, if_pos h2, hv]
              exact absurd hv (hv' _ (stopCheck_of_some (a := { a with frames := [f'] }) hstop) rfl)
        have hsa' : stopValue a.stopAt f' st e = stopValue c.stopAt f' st e := by rw [hsa]
        cases hstop : stopValue c.stopAt f' st e with
        | none =>
          rw [stopCheck_of_none (a := { LF [] R c.stopAt a with frames := _ }) (hsv.trans hstop),
            stopCheck_of_none (a := { a with frames := f' :: callers }) (hsa'.trans hstop)]
          exact congrArg StepResult.cont (LF_frames [] R _ a f' callers).symm
        | some v =>
          rw [stopCheck_of_some (a := { LF [] R c.stopAt a with frames := _ }) (hsv.trans hstop),
            stopCheck_of_some (a := { a with frames := f' :: callers }) (hsa'.trans hstop)]
          exact congrArg (StepResult.done · v) (LF_frames [] R _ a f' callers).symm
      have hentry : hasEntry c = true := by simp [hasEntry, hf, he]
      cases hd : dispatch c.prog { f with exprs := restE } st e with
      | ok f' =>
        rw [hd] at hval
        exact key (ticked c) f' rfl fun v hv hcs => hval _ v f' hv hentry (by rw [hcs])
      | okOut f' o =>
        rw [hd] at hval
        exact key { ticked c with out := (ticked c).out ++ o } f' rfl fun v hv hcs => hval _ v f' hv hentry (by rw [hcs])
      | newFrame f' callee => simp only [mapF, post, C08.mapState, LF, mapLast, mapLast_cons, ticked]
      | err f' st' vals er => rw [hd] at hok; cases hok
      | panic site => rw [hd] at hok; cases hok
      | unsupported w => rw [hd] at hok; cases hok

end Incr


namespace Incr
open Machine Resume

def settled (c : State) : Bool :=
  match c.frames with
  | [f] => f.exprs.isEmpty
  | _ => false

theorem settled_rest (s : State) (h : settled s = true) : ∃ f, s.frames = [f] ∧ f.exprs = [] := by
  unfold settled at h
  match hf : s.frames, h with
  | [f], h => exact ⟨f, rfl, by simpa using h⟩
  | [], h => simp at h
  | _ :: _ :: _, h => simp at h

def topValuesNonempty (c : State) : Bool :=
  match c.frames with
  | f :: _ => !f.values.isEmpty
  | [] => false

def guardO (ob : Option Nat) (c : State) : Bool :=
  match ob with
  | some b => guard b c
  | none => true

def endOK (c c' : State) : Bool := settled c' && (!hasEntry c || topValuesNonempty c')

/-- **The checked reference evaluation of one request** (`eval` of src/eval.rs with the side
conditions of C11 tested on the way): every step continues or finishes (no error, no crash, within
the fuel); when it finishes the stack is back at the toplevel frame with nothing pending (this
excludes the eval-up-to special case that leaves a `for` loop pending, and a stop inside a call) and
a value stopped at by `stop_at_expr_id` is really there. With `ob = some b` (the request is not the
last one; `b` = the node the concatenated run stops at) additionally `guard b` at every step. -/
def evalC (ob : Option Nat) : Nat → State → Option (State × Value)
  | 0, _ => none
  | n + 1, c =>
    if guardO ob c then
      match step c with
      | .cont c' => evalC ob n c'
      | .done c' v =>
        if endOK c c' then some (c', v) else none
      | _ => none
    else none

theorem evalC_succ {ob : Option Nat} {n : Nat} {c c' : State} {v : Value} :
    evalC ob (n + 1) c = some (c', v) ↔
      guardO ob c = true ∧ ((∃ c1, step c = .cont c1 ∧ evalC ob n c1 = some (c', v)) ∨
        (step c = .done c' v ∧ endOK c c' = true)) := by
  rw [evalC]
  by_cases hg : guardO ob c = true
  · rw [if_pos hg]
    cases step c with
    | cont c1 => simp [hg]
    | done c1 v1 =>
      by_cases he : endOK c c1 = true
      · simp [hg, he]
        rintro rfl _; exact he
      · simp [hg, he]
        rintro rfl _; simpa using he
    | _ => simp [hg]
  · simp [hg]

theorem seg_same (R : List Value) (ob : Option Nat) : ∀ (n : Nat) (c c' : State) (v : Value) (sb : Option Nat),
    c.stopAt = sb → evalC ob n c = some (c', v) →
    Resume.eval n (LF [] R sb c) = .done (LF [] R sb c') v := by
  intro n
  induction n with
  | zero => intro c c' v sb _ h; simp [evalC] at h
  | succ n ih =>
    intro c c' v sb hsb h
    obtain ⟨_, ⟨c1, hs, h⟩ | ⟨hs, hend⟩⟩ := evalC_succ.mp h
    · have := step_same R sb c hsb (by rw [hs]; rfl) (by intro s' v f' hd; rw [hs] at hd; cases hd)
      rw [Resume.eval, this, hs]
      exact ih c1 c' v sb ((ResumeL.step_stopAt (by rw [hs]; rfl)).trans hsb) h
    · have := step_same R sb c hsb (by rw [hs]; rfl) (by
        intro s' v f' hd hen hfr
        rw [hs] at hd; cases hd
        simp only [endOK, Bool.and_eq_true, Bool.or_eq_true, Bool.not_eq_true'] at hend
        rcases hend.2 with h0 | h0
        · rw [hen] at h0; cases h0
        · simpa [topValuesNonempty, hfr] using h0)
      rw [Resume.eval, this, hs]; rfl

/-- A state that has come to rest (one frame) with `T` pending and `R'` as values in that frame. -/
def LFend (T : List (St × Expr)) (R' : List Value) (sb : Option Nat) (c : State) : State :=
  { c with stopAt := sb, frames := c.frames.map (fun f => { f with exprs := T, values := R' }) }

/-- **A whole request that is not the last one, seen from the concatenated run**: after some
number `m` of steps the concatenated run is where the next input starts — the same state, the next inputs'
entries pending, some values on the value stack. -/
theorem seg_diff (T : List (St × Expr)) (b : Nat) : ∀ (n : Nat) (c c' : State) (v : Value) (R : List Value),
    evalC (some b) n c = some (c', v) →
    ∃ (m : Nat) (R' : List Value), ∀ k,
      Resume.eval (m + k) (LF T R (some b) c) = Resume.eval k (LFend T R' (some b) c') := by
  intro n
  induction n with
  | zero => intro c c' v R h; simp [evalC] at h
  | succ n ih =>
    intro c c' v R h
    obtain ⟨hg, ⟨c1, hs, h⟩ | ⟨hs, hend⟩⟩ := evalC_succ.mp h
    · obtain ⟨m, R', hm⟩ := ih c1 c' v R h
      have hd := step_diff T R b c c1 hg (Or.inl hs)
      refine ⟨m + 1, R', fun k => ?_⟩
      rw [show m + 1 + k = (m + k) + 1 by omega, eval_cont _ _ hd]
      exact hm k
    · -- the request is over: `c'` has one frame `f1` with nothing pending
      obtain ⟨f1, hfr, hf1⟩ := settled_rest c' (Bool.and_eq_true _ _ ▸ hend).1
      have hrest : ∀ x : Frame, x.exprs = [] → ∀ a : State, a.frames = [x] →
          LF T R (some b) a = LFend T (x.values ++ R) (some b) a := by
        intro x hx a ha; simp [LF, LFend, ha, mapLast, fx, hx]
      by_cases hen : hasEntry c = true
      · -- it stopped at its last expression: the concatenated run continues
        have hd := step_diff T R b c c' hg (Or.inr ⟨v, hs, hen⟩)
        refine ⟨1, f1.values ++ R, fun k => ?_⟩
        rw [show 1 + k = k + 1 by omega, eval_cont _ _ hd, hrest f1 hf1 c' hfr]
      · -- a frame came to its end
        match hf : c.frames with
        | [] => rw [step_nil hf] at hs; cases hs
        | f :: callers =>
          have he : f.exprs = [] := by
            cases hx : f.exprs with
            | nil => rfl
            | cons x xs => simp [hasEntry, hf, hx] at hen
          match callers, hf with
          | [], hf =>
            -- the toplevel frame itself: the concatenated run is already there
            rw [step_finish hf he] at hs
            refine ⟨0, f.values ++ R, fun k => ?_⟩
            rw [Nat.zero_add, hrest f he c hf]
            split at hs <;> cases hs
            simp [LFend, hf]
          | caller :: rest, hf =>
            -- a call returns where the request stops: the concatenated run hands the value on
            have hcid := callerId_ne (f := f) (b := b) (by
              simp only [guardO, guard, Bool.and_eq_true, Bool.not_eq_true', bne_iff_ne, ne_eq] at hg
              simpa [hitId, hf, he] using hg.2)
            have hstep := step_LF_return T R (some b) hf he
            rw [step_return hf he] at hs
            revert hs hstep
            rcases f.values with _ | ⟨rv, vs⟩
            · intro hs; cases hs
            · intro hs hstep
              dsimp only at hs hstep
              rw [hcid] at hstep
              by_cases hstop : (f.callerId.isSome && c.stopAt == f.callerId) = true
              · rw [if_pos hstop] at hs
                cases hs
                obtain ⟨rfl, rfl⟩ : caller = f1 ∧ rest = [] := by simpa using hfr
                refine ⟨1, (if f.callerUses then caller.pushV v else caller).values ++ R, fun k => ?_⟩
                rw [show 1 + k = k + 1 by omega, eval_cont _ _ hstep,
                  hrest _ (by cases f.callerUses <;> exact hf1) _ rfl]
                cases f.callerUses <;> rfl
              · rw [if_neg hstop] at hs; cases hs

end Incr
