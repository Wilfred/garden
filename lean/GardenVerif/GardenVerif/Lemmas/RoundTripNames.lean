import GardenVerif.Lemmas.Reads
/-!
The round trip of the parts of the syntax that hold no expression: type hints, optional hints, type parameters,
parameters, destinations, patterns, and what follows `fun` up to the body. The trees of these kinds that the grammar
can express (`WTH`, `WTHO`, `WTP`, `WTD`, `WTPat`, `WTF`, with `dupFree`), on which `WT` and `WTI` of Props/C33.lean are
built, and one `Rd` statement per parser function (`hint_rd` … `pattern_rd`; `funHead_rd` is a rule).
-/

namespace RT
open Parse Print ParseLemmas

/-- Type hints the grammar can express. -/
inductive WTH : TypeHint → Prop
  | named {name : String} {args : List TypeHint} : ValidName name → name ≠ "Tuple" → (∀ a ∈ args, WTH a) →
      WTH (.mk name args)
  | tuple {args : List TypeHint} : (∀ a ∈ args, WTH a) → WTH (.mk "Tuple" args)

def WTHO : Option TypeHint → Prop
  | none => True
  | some h => WTH h

/-- no repeated names (as `dupDiags` sees them: `_` may repeat) -/
def dupFree : List String → List String → Bool
  | [], _ => true
  | x :: xs, seen => if x == "_" then dupFree xs seen else if seen.contains x then false else dupFree xs (x :: seen)

theorem dupDiags_ok (xs seen : List String) (h : dupFree xs seen = true) (s : St) : dupDiags xs seen s = .ok () s := by
  induction xs generalizing seen with
  | nil => rfl
  | cons x xs ih =>
    unfold dupFree at h
    unfold dupDiags
    by_cases h1 : (x == "_") = true
    · simp only [h1, ↓reduceIte] at h ⊢; exact ih seen h
    · simp only [h1, Bool.false_eq_true, ↓reduceIte] at h ⊢
      by_cases h2 : seen.contains x = true
      · exfalso; simp at h2; simp [h2] at h
      · simp only [h2, Bool.false_eq_true, ↓reduceIte] at h ⊢; exact ih _ h

theorem Rd.dupDiags {toks : Toks} {β : Type} {N : Nat} {C : Cur} {A : List PTok} {F : Fw} {Q : β → Nat → Prop}
    {xs seen : List String} {f : Nat → Unit → P β} (h : dupFree xs seen = true)
    (hr : Rd toks N C (fun k => f k ()) A F Q) : Rd toks N C (fun k => Parse.dupDiags xs seen >>= f k) A F Q := by
  intro fuel rest d hf hD hfo hl
  rw [ok_bind, ok_det (dupDiags_ok xs seen h _)]
  exact hr fuel rest d hf hD hfo hl

structure WTP (p : Param) : Prop where
  name : ValidName p.name
  hint : WTHO p.hint

inductive WTD : LetDest → Prop
  | sym {x : String} : ValidName x → WTD (.sym x)
  | destr {xs : List String} : (∀ x ∈ xs, ValidName x) → dupFree xs [] = true → WTD (.destr xs)

structure WTPat (p : Pattern) : Prop where
  variant : ValidName p.variant
  payload : ∀ dst, p.payload = some dst → WTD dst

structure WTF (tps : List String) (ps : List Param) (r : Option TypeHint) : Prop where
  tpsOk : ∀ x ∈ tps, ValidName x
  psOk : ∀ p ∈ ps, WTP p
  dup : dupFree (List.map (fun p : Param => p.name) ps) [] = true
  ret : WTHO r

def HRd (h : TypeHint) (n : Nat) : Prop :=
  ∀ toks C, Rd toks n C (parseTypeHint toks false) (printHint h) (NotTok "<") fun r _ => r = h

theorem first?_hint {h : TypeHint} (wh : WTH h) : ∃ s, first? (printHint h) = some s ∧ s ≠ ">" ∧ s ≠ ")" := by
  cases wh with
  | @named name args hn hnt _ =>
    refine ⟨name, ?_, ne_of_class hn.sym (by decide), ne_of_class hn.sym (by decide)⟩
    cases args <;> simp [printHint, hnt, first?, w]
  | @tuple args _ => exact ⟨"(", by simp [printHint, first?, w], by decide, by decide⟩

theorem printHints_one (a : TypeHint) : printHints [a] = printHint a ++ [] := by simp [printHints]
theorem printHints_two (a b : TypeHint) (r : List TypeHint) :
    printHints (a :: b :: r) = printHint a ++ (.t "," true :: printHints (b :: r)) := by simp [printHints, g]

/-- `hok` is the induction hypothesis of `hint_rd`, passed in because the recursion of hints is nested in a list. -/
theorem typeArgsLoop_rd (args : List TypeHint) (hw : ∀ a ∈ args, WTH a) (hok : ∀ a ∈ args, ∃ n, HRd a n) :
    ∃ N, ∀ toks C acc, Rd toks N C (fun k => typeArgsLoop toks false k acc) (printHints args) (Closes ">")
      fun r _ => r = acc ++ args := by
  induction args with
  | nil =>
    apply Exists.intro; intro toks C acc
    apply Rd.succ (typeArgsLoop.eq_2 toks false acc)
    exact .peekIs (.nil fun _ h => h) (.pure (by simp))
  | cons a r ih =>
    obtain ⟨na, hna⟩ := hok a (List.mem_cons_self ..)
    obtain ⟨N, hN⟩ := ih (fun x hx => hw x (List.mem_cons_of_mem _ hx)) (fun x hx => hok x (List.mem_cons_of_mem _ hx))
    obtain ⟨s0, hs0, hst⟩ := first?_hint (hw a (List.mem_cons_self ..))
    have hs : ∀ X, first? (printHint a ++ X) = some s0 := fun X => by rw [first?_append, hs0]; rfl
    cases r with
    | nil =>
      rw [printHints_one]
      apply Exists.intro; intro toks C acc
      apply Rd.succ (typeArgsLoop.eq_2 toks false acc)
      apply Rd.peekIs (v := false) (.first (hs _) fun t ht => by simpa [isTok_of_text ht] using hst.1)
      apply Rd.peekT (.text (hs _)); intro t _
      apply Rd.bind (hna toks C)
      · exact fun o h => isTok_ne h (by decide)
      intro arg harg
      apply Rd.peekT .closes; intro t ht
      simp only [TokI.text, ht, show ((">" : String) == ",") = false by decide, beq_self_eq_true, Bool.false_eq_true,
        ↓reduceIte]
      exact .pure (by simp [harg])
    | cons a2 r2 =>
      rw [printHints_two]
      apply Exists.intro; intro toks C acc
      apply Rd.succ (typeArgsLoop.eq_2 toks false acc)
      apply Rd.peekIs (v := false) (.first (hs _) fun t ht => by simpa [isTok_of_text ht] using hst.1)
      apply Rd.peekT (.text (hs _)); intro t _
      apply Rd.bind (hna toks C)
      · exact fun _ _ => rfl
      intro arg harg
      apply Rd.peekTok
      simp only [TokI.text, tk_text, beq_self_eq_true, ↓reduceIte]
      apply Rd.pop
      exact (hN toks _ _).conseq (by simp [harg])

theorem tupleHintLoop_rd (args : List TypeHint) (hw : ∀ a ∈ args, WTH a) (hok : ∀ a ∈ args, ∃ n, HRd a n) :
    ∃ N, ∀ toks C acc, Rd toks N C (fun k => tupleHintLoop toks false k acc) (printHints args) (Closes ")")
      fun r _ => r = acc ++ args := by
  induction args with
  | nil =>
    apply Exists.intro; intro toks C acc
    apply Rd.succ (tupleHintLoop.eq_2 toks false acc)
    exact .getIdx (.peekIs (.nil fun _ h => h) (.pure (by simp)))
  | cons a r ih =>
    obtain ⟨na, hna⟩ := hok a (List.mem_cons_self ..)
    obtain ⟨N, hN⟩ := ih (fun x hx => hw x (List.mem_cons_of_mem _ hx)) (fun x hx => hok x (List.mem_cons_of_mem _ hx))
    obtain ⟨s0, hs0, hst⟩ := first?_hint (hw a (List.mem_cons_self ..))
    have hs : ∀ X, first? (printHint a ++ X) = some s0 := fun X => by rw [first?_append, hs0]; rfl
    cases r with
    | nil =>
      rw [printHints_one]
      apply Exists.intro; intro toks C acc
      apply Rd.succ (tupleHintLoop.eq_2 toks false acc)
      apply Rd.getIdx
      apply Rd.peekIs (v := false) (.first (hs _) fun t ht => by simpa [isTok_of_text ht] using hst.2)
      apply Rd.bind (hna toks C)
      · exact fun o h => isTok_ne h (by decide)
      intro arg harg
      apply Rd.peekT .closes; intro t ht
      simp only [TokI.text, ht, beq_self_eq_true, ↓reduceIte]
      exact .pure (by simp [harg])
    | cons a2 r2 =>
      rw [printHints_two]
      apply Exists.intro; intro toks C acc
      apply Rd.succ (tupleHintLoop.eq_2 toks false acc)
      apply Rd.getIdx
      apply Rd.peekIs (v := false) (.first (hs _) fun t ht => by simpa [isTok_of_text ht] using hst.2)
      apply Rd.bind (hna toks C)
      · exact fun _ _ => rfl
      intro arg harg
      apply Rd.peekTok
      simp only [TokI.text, tk_text, show (("," : String) == ")") = false by decide, beq_self_eq_true, Bool.false_eq_true,
        ↓reduceIte]
      apply Rd.pop; apply Rd.getIdx
      simp only [gt_iff_lt, Cur.lt_adv_tok, ↓reduceIte]
      exact (hN toks _ _).conseq (by simp [harg])

def printTArgs : List TypeHint → List PTok
  | [] => []
  | args => .t "<" true :: (printHints args ++ [.t ">" true])

theorem printHint_named {name : String} (hne : name ≠ "Tuple") (args : List TypeHint) :
    printHint (.mk name args) = .t name false :: (printTArgs args ++ []) := by
  cases args <;> simp [printHint, hne, printTArgs, w, g]

theorem typeArgs_rd (args : List TypeHint) (hw : ∀ a ∈ args, WTH a) (hok : ∀ a ∈ args, ∃ n, HRd a n) :
    ∃ N, ∀ toks C, Rd toks N C (parseTypeArguments toks false) (printTArgs args) (NotTok "<") fun r _ => r = args := by
  cases args with
  | nil =>
    apply Exists.intro; intro toks C
    apply Rd.succ (parseTypeArguments.eq_2 toks false)
    exact .peekIs (.nil fun _ h => h) (.pure rfl)
  | cons a r =>
    obtain ⟨N, hN⟩ := typeArgsLoop_rd (a :: r) hw hok
    apply Exists.intro; intro toks C
    apply Rd.succ (parseTypeArguments.eq_2 toks false)
    apply Rd.peekIs (.t rfl)
    apply Rd.req
    apply Rd.bind (hN toks _ [])
    · exact fun _ _ => rfl
    intro args' ha
    apply Rd.req
    exact .pure (by simpa using ha)

theorem hint_rd {h : TypeHint} (wh : WTH h) : ∃ N, HRd h N := by
  induction wh with
  | @named name args hn hnt hw ih =>
    obtain ⟨N, hN⟩ := typeArgs_rd args hw ih
    apply Exists.intro; intro toks C
    rw [printHint_named hnt]
    apply Rd.succ (parseTypeHint.eq_2 toks false)
    apply Rd.peekIs (v := false) (.t (hn.beq_nonsym (by decide)))
    apply Rd.sym hn
    apply Rd.bind (hN toks _)
    · exact fun _ h => h
    intro args' ha
    simp only [show (name == "Tuple") = false by simpa using hnt, Bool.false_eq_true, ↓reduceIte]
    exact .pure (by rw [ha])
  | @tuple args hw ih =>
    obtain ⟨N, hN⟩ := tupleHintLoop_rd args hw ih
    apply Exists.intro; intro toks C
    rw [show printHint (.mk "Tuple" args) = .t "(" false :: (printHints args ++ [.t ")" true]) by simp [printHint, w, g]]
    apply Rd.succ (parseTypeHint.eq_2 toks false)
    apply Rd.peekIs (.t rfl)
    apply Rd.succ (parseTupleTypeHint.eq_2 toks false)
    apply Rd.req
    apply Rd.bind (hN toks _ [])
    · exact fun _ _ => rfl
    intro args' ha
    apply Rd.req
    exact .pure (by simpa using ha)

theorem colonAnd_rd {h : TypeHint} {n : Nat} (hh : HRd h n) (toks : Toks) (C : Cur) :
    Rd toks n C (parseColonAnd toks false) (.t ":" true :: printHint h) (NotTok "<") fun r _ => r = h := by
  unfold parseColonAnd
  apply Rd.req
  exact hh toks _

/-- What may follow an optional hint: not `<`, and neither `:` nor a plain symbol, which `parse_colon_and_hint_opt`
takes for the start of a hint. -/
def NoHintT : Fw := fun o =>
  isTok "<" o = false ∧ ∀ t, o = some t → (t.text == ":") = false ∧ (isSymbolTok t.text && !keywords.contains t.text) = false

theorem NoHintT.of_text {t : Tok} (h : t.text = "=" ∨ t.text = "," ∨ t.text = ")" ∨ t.text = "{") : NoHintT (some t) := by
  have : (t.text == "<") = false ∧ (t.text == ":") = false ∧ (isSymbolTok t.text && !keywords.contains t.text) = false := by
    rcases h with h | h | h | h <;> rw [h] <;> decide
  exact ⟨this.1, fun _ ht => Option.some.inj ht ▸ this.2⟩

def HintOptRd (ho : Option TypeHint) (n : Nat) : Prop :=
  ∀ toks C, Rd toks n C (parseColonAndHintOpt toks false) (printHintOpt ho) NoHintT fun r _ => r = ho

theorem hintOpt_rd_none : HintOptRd none 0 := by
  intro toks C
  unfold parseColonAndHintOpt
  refine .peek (.nil fun _ h => h) fun o ho => ?_
  cases o with
  | none => exact .pure rfl
  | some t =>
    obtain ⟨h2, h3⟩ := ho.2 t rfl
    simp only [Option.map_some, TokI.text, h2, h3, Bool.false_eq_true, ↓reduceIte]
    exact .pure rfl

theorem hintOpt_rd {ho : Option TypeHint} (wh : WTHO ho) : ∃ N, HintOptRd ho N := by
  cases ho with
  | none => exact ⟨0, hintOpt_rd_none⟩
  | some h =>
    obtain ⟨n, hn⟩ := hint_rd wh
    apply Exists.intro; intro toks C
    unfold parseColonAndHintOpt
    rw [show printHintOpt (some h) = (.t ":" true :: printHint h) ++ [] by simp [printHintOpt, g]]
    apply Rd.peekTok
    simp only [TokI.text, tk_text, beq_self_eq_true, ↓reduceIte]
    apply Rd.bind (colonAnd_rd hn toks C)
    · exact fun _ h => h.1
    intro r hr
    exact .pure (by rw [hr])

theorem commaJoin_one (x : List PTok) : commaJoin [x] = x ++ [] := by simp [commaJoin]
theorem commaJoin_two (x y : List PTok) (r : List (List PTok)) :
    commaJoin (x :: y :: r) = x ++ (.t "," true :: commaJoin (y :: r)) := by simp [commaJoin, g]

theorem typeParamsLoop_rd (xs : List String) (hv : ∀ x ∈ xs, ValidName x) :
    ∃ N, ∀ toks C acc, Rd toks N C (fun k => typeParamsLoop toks false k acc) (commaJoin (xs.map fun x => [g x]))
      (Closes ">") fun r _ => r = acc ++ xs := by
  induction xs with
  | nil =>
    apply Exists.intro; intro toks C acc
    apply Rd.succ (typeParamsLoop.eq_2 toks false acc)
    exact .peekIs (.nil fun _ h => h) (.pure (by simp))
  | cons x r ih =>
    have vx := hv x (List.mem_cons_self ..)
    obtain ⟨N, hN⟩ := ih fun y hy => hv y (List.mem_cons_of_mem _ hy)
    cases r with
    | nil =>
      apply Exists.intro; intro toks C acc
      apply Rd.succ (typeParamsLoop.eq_2 toks false acc)
      apply Rd.peekIs (v := false) (.t (vx.beq_nonsym (by decide)))
      apply Rd.getIdx
      apply Rd.sym vx
      apply Rd.peekT .closes; intro t ht
      simp only [TokI.text, ht, show ((">" : String) == ",") = false by decide, beq_self_eq_true, Bool.false_eq_true,
        ↓reduceIte]
      exact .pure rfl
    | cons y r2 =>
      rw [List.map_cons, List.map_cons, commaJoin_two]
      apply Exists.intro; intro toks C acc
      apply Rd.succ (typeParamsLoop.eq_2 toks false acc)
      apply Rd.peekIs (v := false) (.t (vx.beq_nonsym (by decide)))
      apply Rd.getIdx
      apply Rd.sym vx
      apply Rd.peekTok
      simp only [TokI.text, tk_text, beq_self_eq_true, ↓reduceIte]
      apply Rd.pop; apply Rd.getIdx
      simp only [Cur.tok_i, show ¬ C.i + 1 + 1 ≤ C.i by omega, decide_false, Bool.and_false, Bool.false_eq_true, ↓reduceIte]
      exact (hN toks _ _).conseq (by simp)

theorem tparams_rd (ts : List String) (hv : ∀ x ∈ ts, ValidName x) :
    ∃ N, ∀ toks C, Rd toks N C (parseTypeParams toks false) (printTParams ts) (NotTok "<") fun r _ => r = ts := by
  cases ts with
  | nil =>
    apply Exists.intro; intro toks C
    unfold parseTypeParams
    exact .peekIs (.nil fun _ h => h) (.pure rfl)
  | cons x r =>
    obtain ⟨N, hN⟩ := typeParamsLoop_rd (x :: r) hv
    apply Exists.intro; intro toks C
    unfold parseTypeParams
    rw [show printTParams (x :: r) = .t "<" true :: (commaJoin ((x :: r).map fun x => [g x]) ++ [.t ">" true]) by
      simp [printTParams, g]]
    apply Rd.peekIs (.t rfl)
    apply Rd.req
    apply Rd.bind (hN toks _ [])
    · exact fun _ _ => rfl
    intro ps hps
    apply Rd.req
    exact .pure (by simpa using hps)

theorem param_rd {p : Param} (wp : WTP p) :
    ∃ N, ∀ toks C, Rd toks N C (parseParameter toks false) (printParam p) NoHintT fun r _ => r = p := by
  obtain ⟨N, hN⟩ := hintOpt_rd wp.hint
  apply Exists.intro; intro toks C
  unfold parseParameter
  rw [show printParam p = .t p.name true :: (printHintOpt p.hint ++ []) by simp [printParam, g]]
  apply Rd.sym wp.name
  apply Rd.bind (hN toks _)
  · exact fun _ h => h
  intro h hh
  exact .pure (by rw [hh])

theorem paramsLoop_rd (ps : List Param) (hw : ∀ p ∈ ps, WTP p) :
    ∃ N, ∀ toks C acc, Rd toks N C (fun k => paramsLoop toks false k acc) (commaJoin (ps.map printParam)) (Closes ")")
      fun r _ => r = acc ++ ps := by
  induction ps with
  | nil =>
    apply Exists.intro; intro toks C acc
    apply Rd.succ (paramsLoop.eq_2 toks false acc)
    exact .getIdx (.peekIs (.nil fun _ h => h) (.pure (by simp)))
  | cons p r ih =>
    have wp := hw p (List.mem_cons_self ..)
    obtain ⟨np, hnp⟩ := param_rd wp
    obtain ⟨N, hN⟩ := ih fun q hq => hw q (List.mem_cons_of_mem _ hq)
    have hs : ∀ {C F} X, Nx C (printParam p ++ X) F (isTok ")" · = false) := fun X =>
      .first (s := p.name) rfl fun t ht => by rw [isTok_of_text ht]; exact wp.name.beq_nonsym (by decide)
    cases r with
    | nil =>
      rw [List.map_cons, List.map_nil, commaJoin_one]
      apply Exists.intro; intro toks C acc
      apply Rd.succ (paramsLoop.eq_2 toks false acc)
      apply Rd.getIdx
      apply Rd.peekIs (hs _)
      apply Rd.bind (hnp toks C)
      · exact fun _ h => by obtain ⟨t, rfl, ht⟩ := isTok_iff.mp h; exact .of_text (.inr (.inr (.inl ht)))
      intro q hq
      apply Rd.peekT .closes; intro t ht
      simp only [TokI.text, ht, show ((")" : String) == ",") = false by decide, beq_self_eq_true, Bool.false_eq_true,
        ↓reduceIte]
      exact .pure (by rw [hq])
    | cons p2 r2 =>
      rw [List.map_cons, List.map_cons, commaJoin_two]
      apply Exists.intro; intro toks C acc
      apply Rd.succ (paramsLoop.eq_2 toks false acc)
      apply Rd.getIdx
      apply Rd.peekIs (hs _)
      apply Rd.bind (hnp toks C)
      · exact fun _ _ => .of_text (.inr (.inl rfl))
      intro q hq
      apply Rd.peekTok
      simp only [TokI.text, tk_text, beq_self_eq_true, ↓reduceIte]
      apply Rd.pop; apply Rd.getIdx
      simp only [gt_iff_lt, Cur.lt_adv_tok, ↓reduceIte]
      exact (hN toks _ _).conseq (by simp [hq])

theorem params_rd (ps : List Param) (hw : ∀ p ∈ ps, WTP p) (hdup : dupFree (ps.map (·.name)) [] = true) :
    ∃ N, ∀ toks C, Rd toks N C (parseParameters toks false) (printParams ps) (fun _ => True) fun r _ => r = ps := by
  obtain ⟨N, hN⟩ := paramsLoop_rd ps hw
  apply Exists.intro; intro toks C
  unfold parseParameters
  rw [show printParams ps = .t "(" true :: (commaJoin (ps.map printParam) ++ [.t ")" true]) by simp [printParams, g]]
  apply Rd.chk
  simp only [Bool.not_true, Bool.false_eq_true, ↓reduceIte]
  apply Rd.bind (hN toks _ [])
  · exact fun _ _ => rfl
  intro r hr
  obtain rfl : r = ps := by simpa using hr
  apply Rd.req
  apply Rd.dupDiags hdup
  exact .pure rfl

theorem destLoop_rd (xs : List String) (hv : ∀ x ∈ xs, ValidName x) :
    ∃ N, ∀ toks C acc, Rd toks N C (fun k => destLoop toks false k acc)
      (commaJoin (xs.map fun x => [g x]) ++ [.t ")" true]) (fun _ => True) fun r _ => r = acc ++ xs := by
  induction xs with
  | nil =>
    apply Exists.intro; intro toks C acc
    apply Rd.succ (destLoop.eq_2 toks false acc)
    apply Rd.peekIs (v := true) (.t rfl)
    apply Rd.pop
    exact .pure (by simp)
  | cons x r ih =>
    have vx := hv x (List.mem_cons_self ..)
    obtain ⟨N, hN⟩ := ih fun y hy => hv y (List.mem_cons_of_mem _ hy)
    cases r with
    | nil =>
      apply Exists.intro; intro toks C acc
      apply Rd.succ (destLoop.eq_2 toks false acc)
      apply Rd.peekIs (v := false) (.t (vx.beq_nonsym (by decide)))
      apply Rd.getIdx
      apply Rd.sym vx
      apply Rd.peekIs (v := false) (.t rfl)
      simp only [PSym.isPlaceholder, vx.notPh, Bool.false_and, Bool.false_eq_true, ↓reduceIte]
      apply Rd.peekIs (v := true) (.t rfl)
      simp only [Bool.not_true, Bool.false_eq_true, ↓reduceIte]
      apply Rd.getIdx
      simp only [gt_iff_lt, Cur.tok_i, Nat.lt_add_one, ↓reduceIte]
      exact (hN toks _ _).conseq (by simp)
    | cons y r2 =>
      rw [List.map_cons, List.map_cons, commaJoin_two]
      apply Exists.intro; intro toks C acc
      apply Rd.succ (destLoop.eq_2 toks false acc)
      apply Rd.peekIs (v := false) (.t (vx.beq_nonsym (by decide)))
      apply Rd.getIdx
      apply Rd.sym vx
      apply Rd.peekIs (v := true) (.t rfl)
      simp only [PSym.isPlaceholder, vx.notPh, Bool.false_and, Bool.false_eq_true, ↓reduceIte]
      apply Rd.peekIs (v := false) (.t rfl)
      simp only [Bool.not_false, ↓reduceIte]
      apply Rd.req
      apply Rd.getIdx
      simp only [gt_iff_lt, Cur.tok_i, show C.i < C.i + 1 + 1 by omega, ↓reduceIte]
      exact (hN toks _ _).conseq (by simp)

def DestRd (d : LetDest) (n : Nat) : Prop :=
  ∀ toks C, Rd toks n C (parseLetDestination toks false) (printDest d) (fun _ => True) fun r _ => r = d

theorem dest_rd_sym {x : String} (vx : ValidName x) : DestRd (.sym x) 0 := by
  intro toks C
  unfold parseLetDestination
  refine .peekIs (v := false) (.t (vx.beq_nonsym (by decide))) ?_
  simp only [Bool.false_eq_true, ↓reduceIte]
  exact .sym vx (.pure rfl)

theorem dest_rd {d : LetDest} (wd : WTD d) : ∃ N, DestRd d N := by
  cases wd with
  | @sym x vx => exact ⟨0, dest_rd_sym vx⟩
  | @destr xs hv hdup =>
    obtain ⟨N, hN⟩ := destLoop_rd xs hv
    apply Exists.intro; intro toks C
    unfold parseLetDestination
    rw [show printDest (.destr xs) = .t "(" false :: ((commaJoin (xs.map fun x => [g x]) ++ [.t ")" true]) ++ []) by
      simp [printDest, w, g]]
    apply Rd.peekIs (v := true) (.t rfl)
    simp only [↓reduceIte]
    apply Rd.pop
    apply Rd.bind (hN toks _ [])
    · exact fun _ _ => trivial
    intro r hr
    obtain rfl : r = xs := by simpa using hr
    apply Rd.dupDiags hdup
    exact .pure rfl

/-- `let` and `for` are told from assignments to a variable of that name by their second token. -/
theorem first?_dest {d : LetDest} (wd : WTD d) :
    ∃ s, first? (printDest d) = some s ∧ s ≠ "=" ∧ s ≠ "+=" ∧ s ≠ "-=" := by
  cases wd with
  | @sym x vx =>
    exact ⟨x, rfl, ne_of_class vx.sym (by decide), ne_of_class vx.sym (by decide),
      ne_of_class vx.sym (by decide)⟩
  | @destr xs _ _ => exact ⟨"(", rfl, by decide, by decide, by decide⟩

theorem first?_pattern (p : Pattern) : first? (printPattern p) = some p.variant := by
  unfold printPattern; cases p.payload <;> rfl

theorem pattern_rd {p : Pattern} (wp : WTPat p) :
    ∃ N, ∀ toks C, Rd toks N C (parsePattern toks false) (printPattern p) (NotTok "(") fun r _ => r = p := by
  obtain ⟨v, pl⟩ := p
  cases pl with
  | none =>
    apply Exists.intro; intro toks C
    unfold parsePattern
    rw [show printPattern ⟨v, none⟩ = [.t v false] from rfl]
    apply Rd.sym wp.variant
    exact .peekIs (v := false) (.nil fun _ h => h) (.pure rfl)
  | some d =>
    obtain ⟨N, hN⟩ := dest_rd (wp.payload d rfl)
    apply Exists.intro; intro toks C
    unfold parsePattern
    rw [show printPattern ⟨v, some d⟩ = .t v false :: .t "(" true :: (printDest d ++ [.t ")" true]) by
      simp [printPattern, w, g]]
    apply Rd.sym wp.variant
    apply Rd.peekIs (v := true) (.t rfl)
    simp only [↓reduceIte]
    apply Rd.req
    apply Rd.bind (hN toks _)
    · exact fun _ _ => trivial
    intro r hr
    apply Rd.req
    exact .pure (by rw [hr])

/-- As a rule: `f` is what the caller does with the three (read the body, build the node), `A` the text that `f` reads. -/
theorem funHead_rd {tps : List String} {ps : List Param} {r : Option TypeHint} (wf : WTF tps ps r) :
    ∃ n, ∀ {β : Type} {toks : Toks} {N : Nat} {C : Cur} {A : List PTok} {F : Fw} {Q : β → Nat → Prop}
      {f : Nat → List String → List Param → Option TypeHint → P β},
      (∀ o, F o → NoHintT ((((C.adv (printTParams tps)).adv (printParams ps)).adv (printHintOpt r)).nx A o)) →
      Rd toks N (((C.adv (printTParams tps)).adv (printParams ps)).adv (printHintOpt r)) (fun k => f k tps ps r) A F Q →
      Rd toks (n + N) C (fun k => parseTypeParams toks false k >>= fun a => parseParameters toks false k >>= fun b =>
          parseColonAndHintOpt toks false k >>= fun c => f k a b c)
        (printTParams tps ++ (printParams ps ++ (printHintOpt r ++ A))) F Q := by
  obtain ⟨n1, h1⟩ := tparams_rd tps wf.tpsOk
  obtain ⟨n2, h2⟩ := params_rd ps wf.psOk wf.dup
  obtain ⟨n3, h3⟩ := hintOpt_rd wf.ret
  refine ⟨n1 + n2 + n3, fun {β toks N C A F Q f} hF hr => Rd.mono ?_ (?_ : max n1 (max n2 (max n3 N)) ≤ _)⟩
  · apply Rd.bind (h1 toks C)
    · exact fun _ _ => rfl
    intro a ha
    apply Rd.bind (h2 toks _)
    · exact fun _ _ => trivial
    intro b hb
    apply Rd.bind (h3 toks _) hF
    intro c hc
    rw [ha, hb, hc]; exact hr
  · omega

end RT
