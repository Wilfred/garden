import GardenVerif.Lemmas.ExtractHoist
/-! The simulation between `p` and its let-hoisted version (`H` / `HSeq` / `HR`), closure-free, and its
run-level form `hoistProg_run`. -/

namespace Extract
open Machine (Expr Case Dest BinOp Program FunDef EnumDef)
open RefSem Validators

def pushSt (s' : RefSem.St) (v : Val) : RefSem.St := { s' with store := s'.store ++ [v] }

/-- `2 * k ≤ m` pays for one inserted `let` per level. `spine` / `spineL`: the node `t` is on the spine of `e` and
`ux` is that node (parentheses dropped); the right side has evaluated the inserted `let n = ux` to `v` (leaving `s'`
alone, `ux` being pure) and runs `HR t n e`, which reads `n` instead, in `pushSt s' v`. The left side still has `ux`
before it, in the start state `s` (what precedes it on the spine is pure) but at a fuel that depends on how deep it
lies: hence every `j ≤ k`. The hypothesis is `RelH` against the outcome `(.val v, s')` the right side had: the left
evaluation of `ux` is bad (out of fuel, say) or gives `v` with the same output in a store extending `s`, the form the
case of the node itself needs. -/
structure SimH (t : Nat) (n : String) (p p' : Program) (k m : Nat) : Prop where
  ev : ∀ env s env' s' e, Ok n p p' env s env' s' → G t n e = true →
    RelH s s' (eval false p k env s e) (eval false p' m env' s' (H t n e))
  seq : ∀ env s env' s' es, Ok n p p' env s env' s' → GSeq t n es = true →
    RelH s s' (evalSeq false p k env s es) (evalSeq false p' m env' s' (HSeq t n es))
  lst : ∀ env s env' s' es, Ok n p p' env s env' s' → GList t n es = true →
    RelH s s' (evalList false p k env s es) (evalList false p' m env' s' (HList t n es))
  whl : ∀ env s env' s' cnd body, Ok n p p' env s env' s' → G t n cnd = true → GSeq t n body = true →
    RelH s s' (evalWhile false p k env s cnd body) (evalWhile false p' m env' s' (H t n cnd) (HSeq t n body))
  for_ : ∀ env s env' s' dest items body, Ok n p p' env s env' s' → GSeq t n body = true →
    RelH s s' (evalFor false p k env s dest items body) (evalFor false p' m env' s' dest items (HSeq t n body))
  cases : ∀ env s env' s' ty idx pl cs, Ok n p p' env s env' s' → GCases t n cs = true →
    RelH s s' (evalCases false p k env s ty idx pl cs) (evalCases false p' m env' s' ty idx pl (HCases t n cs))
  app : ∀ s s' f args, s.out = s'.out →
    RelH s s' (applyVal false p k s f args) (applyVal false p' m s' f args)
  spine : ∀ env s env' s' e ux v, Ok n p p' env s env' s' → G t n e = true → sp t e = true →
    (findSp t e).map unparen = some ux →
    (∀ j, j ≤ k → RelH s s' (eval false p j env s ux) (.val v, s')) →
    RelH s (pushSt s' v) (eval false p k env s e)
      (eval false p' m ((n, s'.store.length) :: env') (pushSt s' v) (HR t n e))
  spineL : ∀ env s env' s' es ux v, Ok n p p' env s env' s' → GList t n es = true → spL t es = true →
    (findSpL t es).map unparen = some ux →
    (∀ j, j ≤ k → RelH s s' (eval false p j env s ux) (.val v, s')) →
    RelH s (pushSt s' v) (evalList false p k env s es)
      (evalList false p' m ((n, s'.store.length) :: env') (pushSt s' v) (HRList t n es))

theorem Ok.push {n p p' env s env' s'} (h : Ok n p p' env s env' s') (v : Val) :
    Ok n p p' env s ((n, s'.store.length) :: env') (pushSt s' v) :=
  ⟨agree_push h.agree h.wf' v, h.wf, wf_push h.wf' n v, h.out⟩

theorem bind_pure {s s' : RefSem.St} {a b : Res × RefSem.St} {k k' : Val → RefSem.St → Res × RefSem.St}
    (h : RelH s s' a b) (ha : a.2 = s) (hb : b.2 = s') (ho : s.out = s'.out)
    (hk : ∀ v, RelH s s' (k v s) (k' v s')) : RelH s s' (RefSem.bind a k) (RefSem.bind b k') := by
  obtain ⟨r, s1⟩ := a
  obtain ⟨r', s1'⟩ := b
  simp only at ha hb; subst ha; subst hb
  rcases h with h | ⟨e1, _, _, _⟩
  · exact Or.inl (bad_bind h)
  · simp only at e1; subst e1
    cases r <;> first | exact hk _ | exact RelH.same _ ho


theorem HSeq_eq_nil (t : Nat) (n : String) (es : List Expr) : es = [] ↔ HSeq t n es = [] := by
  cases es with
  | nil => exact ⟨fun _ => rfl, fun _ => rfl⟩
  | cons e rest =>
    simp only [HSeq]
    cases findSp t e <;> exact ⟨fun h => (nomatch h), fun h => (nomatch h)⟩

theorem simH_succ {t : Nat} {n : String} {p p' : Program} (hc : HCtx t n p p') (k : Nat)
    (ih : ∀ m0, 2 * k ≤ m0 → SimH t n p p' k m0) (m : Nat) (hm : 2 * (k + 1) ≤ m) :
    SimH t n p p' (k + 1) m := by
  obtain ⟨m1, rfl⟩ : ∃ m1, m = m1 + 1 := ⟨m - 1, by omega⟩
  have ihAll := ih
  have ih := ih m1 (by omega)
  refine ⟨?ev, ?seq, ?lst, ?whl, ?for_, ?cases, ?app, ?spine, ?spineL⟩
  case ev =>
    intro env s env' s' e hk hg
    cases e <;> (try simp only [G, Bool.and_eq_true, bne_iff_ne, ne_eq] at hg)
    case int id u v => exact RelH.same _ hk.out
    case str id u v => exact RelH.same _ hk.out
    case var id u nm =>
      exact relH.var hk.out (.of_eq (hk.agree nm hg))
    case binop id u op l r =>
      exact relH.binop (ih.ev _ _ _ _ _ hk hg.1) fun _ _ e1 => ih.ev _ _ _ _ _ (hk.step e1) hg.2
    case letE id u d r => exact RelH.bad rfl
    case assign id u nm rhs => cases hg
    case update id u a nm rhs => cases hg
    case ifE id u cnd thn els =>
      refine relH.ifE (ih.ev _ _ _ _ _ hk hg.1.1) (fun _ _ e1 => ih.seq _ _ _ _ _ (hk.step e1) hg.1.2)
        fun _ _ e1 => ?_
      cases els with
      | none => trivial
      | some eb => exact ih.seq _ _ _ _ _ (hk.step e1) (by simpa [GOpt] using hg.2)
    case whileE id u cnd body =>
      exact ih.whl _ _ _ _ _ _ hk hg.1 hg.2
    case forE id u dest iter body =>
      exact relH.forE (ih.ev _ _ _ _ _ hk hg.1.2) fun _ _ _ _ hl e1 => hl.eq_of ▸ ih.for_ _ _ _ _ _ _ _ (hk.step e1) hg.2
    case matchE id u scrut cs =>
      exact relH.matchE (ih.ev _ _ _ _ _ hk hg.1) fun _ _ _ _ _ _ hpl e1 =>
        hpl.eq_of ▸ ih.cases _ _ _ _ _ _ _ _ (hk.step e1) hg.2
    case ret id u o =>
      cases o with
      | none => exact RelH.same _ hk.out
      | some x => exact relH.ret (ih.ev _ _ _ _ _ hk hg)
    case brk id u => exact RelH.same _ hk.out
    case cont id u => exact RelH.same _ hk.out
    case list id u items => exact ih.lst _ _ _ _ _ hk hg
    case tuple id u items => exact relH.tuple (ih.lst _ _ _ _ _ hk hg)
    case call id u recv args =>
      exact relH.call (ih.ev _ _ _ _ _ hk hg.1) (fun _ _ e1 => ih.lst _ _ _ _ _ (hk.step e1) hg.2)
        fun _ _ _ _ _ _ o hf hl => hf ▸ hl.eq_of ▸ ih.app _ _ _ _ o
    case lambda id u ps body => exact RelH.bad rfl
    case paren id u x => exact ih.ev _ _ _ _ _ hk hg
    case invalid id u => exact RelH.bad rfl
    case unsup id u w => exact RelH.bad rfl
  case lst =>
    intro env s env' s' es hk hg
    cases es with
    | nil => exact RelH.same _ hk.out
    | cons e rest =>
      simp only [GList, Bool.and_eq_true] at hg
      exact relH.list_cons (ih.ev _ _ _ _ _ hk hg.1) fun _ _ e1 => ih.lst _ _ _ _ _ (hk.step e1) hg.2
  case whl =>
    intro env s env' s' cnd body hk hg1 hg2
    exact relH.while_ (ih.ev _ _ _ _ _ hk hg1) (fun _ _ e1 => ih.seq _ _ _ _ _ (hk.step e1) hg2)
      fun _ _ e2 => ih.whl _ _ _ _ _ _ (hk.step e2) hg1 hg2
  case for_ =>
    intro env s env' s' dest items body hk hg
    cases items with
    | nil => exact RelH.same _ hk.out
    | cons it rest =>
      exact relH.for_cons hk.out ((hk.bind dest it).imp fun _ _ _ _ _ hk2 => ih.seq _ _ _ _ _ hk2 hg)
        fun _ _ e2 => ih.for_ _ _ _ _ _ _ _ (hk.step e2) hg
  case cases =>
    intro env s env' s' ty idx pl cs hk hg
    cases cs with
    | nil => exact RelH.bad rfl
    | cons cs0 rest =>
      obtain ⟨variant, dest, body⟩ := cs0
      cases dest with
      | none =>
        simp only [GCases, Bool.and_eq_true] at hg
        exact relH.cases_plain hk.out (.of_eq rfl) (hc.mapped.patKey variant) (ih.seq _ _ _ _ _ hk hg.1)
          (ih.cases _ _ _ _ _ _ _ _ hk hg.2)
      | some d =>
        simp only [GCases, Bool.and_eq_true] at hg
        exact relH.cases_dest hk.out (.of_eq rfl) (hc.mapped.patKey variant)
          (fun v _ hv => hv ▸ (hk.bind d v).imp fun _ _ _ _ _ hk2 => ih.seq _ _ _ _ _ hk2 hg.1.2)
          (ih.cases _ _ _ _ _ _ _ _ hk hg.2)
  case app =>
    intro s s' f args ho
    by_cases hf : ∃ name, f = .fn name
    · obtain ⟨name, rfl⟩ := hf
      cases hfind : p.funs.find? (fun d => d.name == name) with
      | none => simp only [applyVal, hc.mapped.find, hfind, Option.map_none]; exact RelH.bad rfl
      | some d =>
        have hfr := hc.gfuns d (List.mem_of_find?_eq_some hfind)
        simp only [GFun, Bool.and_eq_true] at hfr
        refine relH.apply_fn (d' := { d with body := HSeq t n d.body }) ho (LRel.eq_refl _) hfind
          (by rw [hc.mapped.find, hfind]; rfl) rfl
          fun _ => ?_
        have hb := bindNames_both d.params args ⟨hc.agree_nil s.store s'.store, WF.nil, WF.nil, ho⟩
        exact ⟨hb.1, ih.seq _ _ _ _ _ hb.2 hfr.2⟩
    · exact relH.apply_other ho rfl (LRel.eq_refl _) hc.enums (fun name h => hf ⟨name, h⟩) (.inl rfl)
  case seq =>
    intro env s env' s' es hk hg
    cases es with
    | nil => exact RelH.same _ hk.out
    | cons e rest =>
      simp only [GSeq, Bool.and_eq_true] at hg
      cases hf : findSp t e with
      | none =>
        simp only [HSeq, hf]
        by_cases hl : isLet e = true
        · obtain ⟨id, u, d, r, rfl⟩ := isLet_iff.mp hl
          simp only [G, Bool.and_eq_true] at hg
          exact relH.seq_let (ih.ev _ _ _ _ _ hk hg.1.1.2) fun v _ s1 s1' hv e1 =>
            hv ▸ ((hk.step e1).bind d v).imp fun _ _ _ _ _ hk2 => ih.seq _ _ _ _ _ hk2 hg.2
        · have hl' : isLet e = false := by simpa using hl
          exact relH.seq_cons hl' (by rw [isLet_H]; exact hl') (HSeq_eq_nil t n rest) (ih.ev _ _ _ _ _ hk hg.1.1)
            fun _ _ e1 => ih.seq _ _ _ _ _ (hk.step e1) hg.2
      | some x =>
        -- `let n = x` is inserted before `e`: one more level of fuel on the right
        obtain ⟨m2, rfl⟩ : ∃ m2, m1 = m2 + 1 := ⟨m1 - 1, by omega⟩
        have ih2 := ihAll m2 (by omega)
        simp only [hf, Bool.and_eq_true] at hg
        obtain ⟨⟨hge, ⟨hspe, hux⟩, hfx⟩, hgrest⟩ := hg
        have hgux : G t n (unparen x) = true := G_arith t n _ hux hfx
        have hn' : (n == "_") = false := by simpa using hc.hn
        simp only [HSeq, hf]
        rw [evalSeq_let]
        have hst := ((arithPure false p' (m2 + 1)).ev env' s' (unparen x) hux).1
        have hvb := ((arithPure false p' (m2 + 1)).ev env' s' (unparen x) hux).2
        have R0 := ih.ev env s env' s' (unparen x) hk hgux
        rw [H_arith t n _ hux] at R0
        have hfm : ∀ {e0 : Expr}, findSp t e0 = some x → (findSp t e0).map unparen = some (unparen x) :=
          fun h => by rw [h]; rfl
        cases hb : eval false p' (m2 + 1) env' s' (unparen x) with
        | mk rb sb =>
          rw [hb] at hst hvb R0
          simp only at hst hvb
          subst hst
          rcases vb_cases hvb with ⟨v, rfl⟩ | hbad
          · have h0 : ∀ j, j ≤ k → RelH s sb (eval false p j env s (unparen x)) (.val v, sb) :=
              fun j hj => RelH.of_le (eval_mono p hj env s _) R0
            simp only [RefSem.bind, bindDest, bindNames, hn', Bool.false_eq_true, if_false]
            refine RelH.mono (s := s) (s' := pushSt sb v) ?_ (List.prefix_refl _) (List.prefix_append _ _)
            have hk2 := hk.push v
            by_cases hl : isLet e = true
            · obtain ⟨id, u, d, r, rfl⟩ := isLet_iff.mp hl
              simp only [G, Bool.and_eq_true] at hge
              simp only [sp] at hspe
              simp only [findSp] at hf
              exact relH.seq_let (ih2.spine _ _ _ _ _ _ _ hk hge.2 hspe (hfm hf) h0) fun v2 _ s1 s1' hv e1 =>
                hv ▸ ((hk2.step e1).bind d v2).imp fun _ _ _ _ _ hk3 => ih2.seq _ _ _ _ _ hk3 hgrest
            · have hl' : isLet e = false := by simpa using hl
              exact relH.seq_cons hl' (isLet_HR t n hl') (HSeq_eq_nil t n rest)
                (ih2.spine _ _ _ _ _ _ _ hk hge hspe (hfm hf) h0)
                fun _ _ e1 => ih2.seq _ _ _ _ _ (hk2.step e1) hgrest
          · -- the hoisted expression does not evaluate to a value: then the original is bad as well
            have hb0 : bad (eval false p k env s (unparen x)).1 = true := by
              rcases R0 with h | ⟨e1, _⟩
              · exact h
              · rw [e1]; exact hbad
            have h0b : ∀ j, j ≤ k → bad (eval false p j env s (unparen x)).1 = true :=
              fun j hj => bad_of_le (eval_mono p hj env s _) hb0
            refine RelH.bad ?_
            by_cases hl : isLet e = true
            · obtain ⟨id, u, d, r, rfl⟩ := isLet_iff.mp hl
              simp only [sp] at hspe
              simp only [findSp] at hf
              rw [evalSeq_let]
              exact bad_bind ((spBad t p k).ev _ _ _ _ hspe (hfm hf) h0b)
            · have hl' : isLet e = false := by simpa using hl
              rw [evalSeq_cons_nonlet _ _ _ _ _ _ hl']
              cases rest with
              | nil => exact (spBad t p k).ev _ _ _ _ hspe (hfm hf) h0b
              | cons e2 rest2 => exact bad_bind ((spBad t p k).ev _ _ _ _ hspe (hfm hf) h0b)
  case spine =>
    intro env s env' s' e ux v hk hg hsp hf h0
    have hk2 := hk.push v
    have down : ∀ j, j ≤ k → RelH s s' (eval false p j env s ux) (.val v, s') :=
      fun j hj => h0 j (Nat.le_succ_of_le hj)
    by_cases hl : isLet e = true
    · obtain ⟨id, u, d, r, rfl⟩ := isLet_iff.mp hl
      exact RelH.bad rfl
    have hl' : isLet e = false := by simpa using hl
    by_cases hid : (e.id == t) = true
    · -- the node itself: the original evaluates it, the other side reads the hoisted variable
      rw [findSp_hit hid hl'] at hf
      simp only [Option.map_some, Option.some.injEq] at hf
      rw [HR_hit hid hl']
      obtain ⟨j, hj, he⟩ := eval_unparen false p k env s e
      rw [he, hf]
      -- `n` heads the environment and points at the cell `pushSt` appended
      have hv : eval false p' (m1 + 1) ((n, s'.store.length) :: env') (pushSt s' v) (.var 0 false n)
          = (.val v, pushSt s' v) := by
        simp [eval, lookupVar, lookup, pushSt]
      rw [hv]
      rcases h0 j hj with h1 | ⟨e1, e2, e3, _⟩
      · exact Or.inl h1
      · exact Or.inr ⟨e1, e2, e3, List.prefix_refl _⟩
    -- otherwise the node lies in the first part evaluated, or behind pure parts that leave the states alone
    have hid' : (e.id == t) = false := by simpa using hid
    cases e <;> simp only [Expr.id] at hid' <;> (try simp only [sp, hid', Bool.false_or, Bool.false_eq_true] at hsp) <;>
      (try simp only [findSp, pick, hid', Bool.false_eq_true, if_false] at hf) <;>
      (try simp only [HR, hid', Bool.false_eq_true, if_false])
    case binop id u op l r =>
      simp only [G, Bool.and_eq_true] at hg
      simp only [Bool.or_eq_true, Bool.and_eq_true, noSp, Option.isNone_iff_eq_none] at hsp
      rcases hsp with ⟨h1, h2⟩ | ⟨⟨h1, h2⟩, h3⟩
      · rw [h2, Option.or_none] at hf
        rw [HR_noSp t n r h2]
        exact relH.binop (ih.spine _ _ _ _ _ _ _ hk hg.1 h1 hf down) fun _ _ e1 => ih.ev _ _ _ _ _ (hk2.step e1) hg.2
      · rw [h2] at hf
        have hpl := ih.ev _ _ _ _ _ hk2 hg.1
        rw [H_arith t n l h1] at hpl
        rw [HR_noSp t n l h2, H_arith t n l h1]
        rw [eval_binop, eval_binop]
        refine bind_pure hpl (((arithPure false p k).ev _ _ _ h1).1) (((arithPure false p' m1).ev _ _ _ h1).1) hk2.out fun lv => ?_
        exact relH.bind (ih.spine _ _ _ _ _ _ _ hk hg.2 h3 hf down) fun rv _ s2 s2' hrv e2 => hrv ▸ RelH.same _ e2.1
    case letE => simp [isLet] at hl'
    case ifE id u c th el =>
      simp only [G, Bool.and_eq_true] at hg
      refine relH.ifE (ih.spine _ _ _ _ _ _ _ hk hg.1.1 hsp hf down)
        (fun _ _ e1 => ih.seq _ _ _ _ _ (hk2.step e1) hg.1.2) fun _ _ e1 => ?_
      cases el with
      | none => trivial
      | some eb => exact ih.seq _ _ _ _ _ (hk2.step e1) (by simpa [GOpt] using hg.2)
    case forE id u d it b =>
      simp only [G, Bool.and_eq_true] at hg
      exact relH.forE (ih.spine _ _ _ _ _ _ _ hk hg.1.2 hsp hf down)
        fun _ _ _ _ hl e1 => hl.eq_of ▸ ih.for_ _ _ _ _ _ _ _ (hk2.step e1) hg.2
    case matchE id u sc cs =>
      simp only [G, Bool.and_eq_true] at hg
      exact relH.matchE (ih.spine _ _ _ _ _ _ _ hk hg.1 hsp hf down)
        fun _ _ _ _ _ _ hpl e1 => hpl.eq_of ▸ ih.cases _ _ _ _ _ _ _ _ (hk2.step e1) hg.2
    case ret id u o =>
      cases o with
      | none => simp [sp, hid'] at hsp
      | some x =>
        simp only [sp, hid', Bool.false_or] at hsp
        simp only [findSp, pick, hid', Bool.false_eq_true, if_false] at hf
        simp only [G] at hg
        simp only [HR, hid', Bool.false_eq_true, if_false]
        exact relH.ret (ih.spine _ _ _ _ _ _ _ hk hg hsp hf down)
    case list id u es =>
      simp only [G] at hg
      exact ih.spineL _ _ _ _ _ _ _ hk hg hsp hf down
    case tuple id u es =>
      simp only [G] at hg
      exact relH.tuple (ih.spineL _ _ _ _ _ _ _ hk hg hsp hf down)
    case call id u f as =>
      simp only [G, Bool.and_eq_true] at hg
      simp only [Bool.or_eq_true, Bool.and_eq_true, noSp, noSpL, Option.isNone_iff_eq_none] at hsp
      rcases hsp with ⟨h1, h2⟩ | ⟨⟨h1, h2⟩, h3⟩
      · rw [h2, Option.or_none] at hf
        rw [HRList_noSp t n as h2]
        exact relH.call (ih.spine _ _ _ _ _ _ _ hk hg.1 h1 hf down)
          (fun _ _ e1 => ih.lst _ _ _ _ _ (hk2.step e1) hg.2) fun _ _ _ _ _ _ o hf hl => hf ▸ hl.eq_of ▸ ih.app _ _ _ _ o
      · rw [h2] at hf
        have hpl := ih.ev _ _ _ _ _ hk2 hg.1
        rw [H_arith t n f h1] at hpl
        rw [HR_noSp t n f h2, H_arith t n f h1]
        rw [eval_call, eval_call]
        refine bind_pure hpl (((arithPure false p k).ev _ _ _ h1).1) (((arithPure false p' m1).ev _ _ _ h1).1) hk2.out fun fv => ?_
        refine relH.bind (ih.spineL _ _ _ _ _ _ _ hk hg.2 h3 hf down) fun vs _ s2 s2' hvs e2 => ?_
        subst hvs
        cases vs <;> first | exact RelH.bad rfl | exact ih.app _ _ _ _ e2.1
    case paren id u x =>
      simp only [G] at hg
      exact ih.spine _ _ _ _ _ _ _ hk hg hsp hf down
  case spineL =>
    intro env s env' s' es ux v hk hg hsp hf h0
    have hk2 := hk.push v
    have down : ∀ j, j ≤ k → RelH s s' (eval false p j env s ux) (.val v, s') :=
      fun j hj => h0 j (Nat.le_succ_of_le hj)
    cases es with
    | nil => simp [spL] at hsp
    | cons e rest =>
      simp only [spL, Bool.or_eq_true, Bool.and_eq_true, noSp, noSpL, Option.isNone_iff_eq_none] at hsp
      simp only [findSpL] at hf
      simp only [GList, Bool.and_eq_true] at hg
      simp only [HRList]
      rcases hsp with ⟨h1, h2⟩ | ⟨⟨h1, h2⟩, h3⟩
      · rw [h2, Option.or_none] at hf
        rw [HRList_noSp t n rest h2]
        exact relH.list_cons (ih.spine _ _ _ _ _ _ _ hk hg.1 h1 hf down) fun _ _ e1 => ih.lst _ _ _ _ _ (hk2.step e1) hg.2
      · rw [h2] at hf
        have hpl := ih.ev _ _ _ _ _ hk2 hg.1
        rw [H_arith t n e h1] at hpl
        rw [HR_noSp t n e h2, H_arith t n e h1]
        rw [evalList_cons, evalList_cons]
        refine bind_pure hpl (((arithPure false p k).ev _ _ _ h1).1) (((arithPure false p' m1).ev _ _ _ h1).1) hk2.out fun v1 => ?_
        refine relH.bind (ih.spineL _ _ _ _ _ _ _ hk hg.2 h3 hf down) fun vs _ s2 s2' hvs e2 => ?_
        subst hvs
        cases vs <;> first | exact RelH.bad rfl | exact RelH.same _ e2.1

theorem simH_all {t : Nat} {n : String} {p p' : Program} (hc : HCtx t n p p') :
    ∀ k m, 2 * k ≤ m → SimH t n p p' k m
  | 0, m, _ => by
    refine ⟨?_, ?_, ?_, ?_, ?_, ?_, ?_, ?_, ?_⟩ <;> intros <;>
      simp only [eval, evalSeq, evalList, evalWhile, evalFor, evalCases, applyVal] <;> exact RelH.bad rfl
  | k + 1, m, hm => simH_succ hc k (fun m0 h0 => simH_all hc k m0 h0) m hm

theorem hoistProg_run {t : Nat} {n : String} {p : Program} (hs : hoistSafe t n p = true) (k : Nat) :
    RelH St.init St.init (run false p k) (run false (hoistProg t n p) (2 * k)) := by
  simp only [hoistSafe, Bool.and_eq_true, bne_iff_ne, ne_eq, List.all_eq_true] at hs
  have hc : HCtx t n p (hoistProg t n p) := ⟨hs.1.1, rfl, rfl, hs.1.2⟩
  exact (simH_all hc k (2 * k) (Nat.le_refl _)).seq [] St.init [] St.init p.toplevel
    ⟨hc.agree_nil _ _, WF.nil, WF.nil, rfl⟩ hs.2

end Extract
