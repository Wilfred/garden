import GardenVerif.Lemmas.Types
/-!
# C14 — Subtyping is a preorder with the documented variance

Statements over the model `Ty.sub` of `is_subtype` (src/garden_type.rs:464-561).
"Well-formed" = every type name is used with the arity a signature gives it
(`Ty.wf sig`); "without checker errors" = no `Type::Error` anywhere (`Ty.noErr`).
The tie to the Rust function is the `subtype` correspondence (harness/c14.py).
-/

namespace C14

/-- Reflexive (on all types, even ill-formed ones). -/
theorem subtype_refl (t : Ty) : Ty.sub t t = true := Ty.sub_refl t

theorem subtype_trans (sig : String → Nat) (a b c : Ty)
    (wa : Ty.wf sig a = true) (wb : Ty.wf sig b = true) (wc : Ty.wf sig c = true)
    (na : Ty.noErr a = true) (nb : Ty.noErr b = true) (nc : Ty.noErr c = true)
    (hab : Ty.sub a b = true) (hbc : Ty.sub b c = true) : Ty.sub a c = true :=
  Ty.sub_trans sig b a c wa wb wc na nb nc hab hbc

theorem any_top (t : Ty) : Ty.sub t .any = true := Ty.sub_any t

/-- `Any` is only below itself and below `Error` (which is above everything). -/
theorem any_only_below_any (t : Ty) (h : Ty.sub .any t = true) : t = .any ∨ t = .err :=
  Ty.sub_any_left t h

theorem novalue_bot (k : Kind) (args : List Ty) (t : Ty) :
    Ty.sub (.user k "NoValue" args) t = true :=
  Ty.sub_of_isNoValue _ t (by simp [Ty.isNoValue])

theorem subAll_iff : ∀ (as bs : List Ty), as.length = bs.length →
    (Ty.subAll as bs = true ↔ ∀ i (h1 : i < as.length) (h2 : i < bs.length),
      Ty.sub as[i] bs[i] = true)
  | [], [], _ => by simp [Ty.subAll_nil_left]
  | [], _ :: _, h => by simp at h
  | _ :: _, [], h => by simp at h
  | a :: as, b :: bs, h => by
      have ih := subAll_iff as bs (by simpa using h)
      simp only [Ty.subAll_cons, Bool.and_eq_true, ih]
      constructor
      · rintro ⟨h0, hr⟩ i h1 h2
        cases i with
        | zero => simpa using h0
        | succ i => simpa using hr i (by simpa using h1) (by simpa using h2)
      · intro hh
        refine ⟨hh 0 (by simp) (by simp), ?_⟩
        intro i h1 h2
        exact hh (i + 1) (by simpa using h1) (by simpa using h2)

/-- Tuples are covariant, component-wise, and only tuples of the same length
are related. -/
theorem tuple_covariant (as bs : List Ty) :
    Ty.sub (.tuple as) (.tuple bs) = true ↔
      as.length = bs.length ∧ ∀ i (h1 : i < as.length) (h2 : i < bs.length),
        Ty.sub as[i] bs[i] = true := by
  rw [Ty.sub_tuple_tuple]
  by_cases hl : as.length = bs.length
  · simp [hl, subAll_iff as bs hl]
  · simp [hl]

/-- User-defined types (other than `NoValue`) are covariant in their arguments
and related only when the names agree. Stated for equal argument counts, which
is what arity well-formedness gives for equal names. -/
theorem userdefined_covariant (k1 k2 : Kind) (n1 n2 : String) (as bs : List Ty)
    (hn : n1 ≠ "NoValue") (hl : as.length = bs.length) :
    Ty.sub (.user k1 n1 as) (.user k2 n2 bs) = true ↔
      n1 = n2 ∧ ∀ i (h1 : i < as.length) (h2 : i < bs.length), Ty.sub as[i] bs[i] = true := by
  rw [Ty.sub_user_user]
  by_cases hnn : n1 = n2
  · subst hnn
    simp [hn, subAll_iff as bs hl]
  · simp [hn, hnn]

/-- Function types are contravariant in parameters and covariant in the result
(names and type parameters are ignored). -/
theorem fun_contra_co (n1 n2 : Option String) (tp1 tp2 : List String)
    (ps qs : List Ty) (r s : Ty) :
    Ty.sub (.fn n1 tp1 ps r) (.fn n2 tp2 qs s) = true ↔
      ps.length = qs.length ∧
      (∀ i (h1 : i < ps.length) (h2 : i < qs.length), Ty.sub qs[i] ps[i] = true) ∧
      Ty.sub r s = true := by
  rw [Ty.sub_fn_fn]
  by_cases hl : ps.length = qs.length
  · simp [hl, subAll_iff qs ps hl.symm]
  · simp [hl]

/-- Without the "no checker errors" hypothesis transitivity is false: `Error`
is both above and below everything. -/
theorem trans_fails_through_error :
    Ty.sub (.user .struct "Int" []) .err = true ∧ Ty.sub .err (.user .struct "String" []) = true ∧
    Ty.sub (.user .struct "Int" []) (.user .struct "String" []) = false := by
  simp [Ty.sub]

/-- Without arity well-formedness transitivity is false too: the Rust `zip`s type
arguments without comparing lengths. -/
theorem trans_fails_without_arity :
    let i := Ty.user .struct "Int" []; let s := Ty.user .struct "String" []
    Ty.sub (.user .struct "P" [i, s]) (.user .struct "P" [i]) = true ∧
    Ty.sub (.user .struct "P" [i]) (.user .struct "P" [i, i]) = true ∧
    Ty.sub (.user .struct "P" [i, s]) (.user .struct "P" [i, i]) = false := by
  simp [Ty.sub, Ty.subAll]

-- Non-vacuity: the hypotheses of `subtype_trans` are met by a concrete
-- non-trivial chain  List<NoValue> <: List<Int> <: Any  with sig: List ↦ 1, every other name ↦ 0.
example :
    let sig : String → Nat := fun n => if n = "List" then 1 else 0
    let a := Ty.user .struct "List" [Ty.noValue]
    let b := Ty.user .struct "List" [.user .struct "Int" []]
    Ty.wf sig a = true ∧ Ty.wf sig b = true ∧ Ty.noErr a = true ∧ Ty.noErr b = true ∧
    Ty.sub a b = true ∧ Ty.sub b .any = true ∧ Ty.sub b a = false := by
  simp [Ty.wf, Ty.wfList, Ty.noErr, Ty.noErrList, Ty.sub, Ty.subAll, Ty.noValue]

end C14
