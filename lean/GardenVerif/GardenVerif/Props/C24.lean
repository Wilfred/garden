import GardenVerif.Model.Sandbox
/-!
# C24 — Sandboxed code cannot touch files, processes or stdin

Property: when code runs in sandboxed mode (`playground-run`, `sandboxed-test`), no program can
create, modify, delete or read files through the filesystem API, start processes, or read standard
input; each such attempt ends the evaluation with the "unsafe code in sandboxed mode" error before
any effect happens.

Statements are over the model `Sandbox.runArm` / `Sandbox.runCalls` (Model/Sandbox.lean) and over
the tables `Tables.builtinArms`, `Tables.sandboxConfigs`, `Tables.sandboxFlagWrites`, which
tools/extract_tables.py regenerates from src/eval.rs, src/sandboxed_playground.rs,
src/test_runner.rs on every run — so a new unguarded arm, a guard moved below an argument check or
a cleared flag breaks `sandbox_gates_effects` / `configs_enable_sandbox` by itself.

Scope (stated, not proved): "effects" are the std calls the translator recognises (files,
directories, metadata queries, processes, stdin, network, process cwd/env mutation, `unsafe`); the
evaluator reaches them only through the two dispatch functions. `import "x.gdn"` reads the imported
file with `std::fs::read` in `read_src` (`Tables.otherEffectSites`) with no sandbox check: that is
module loading, not the filesystem API of the property, and is reported by the harness as an
observation.
-/
namespace C24
open Sandbox Tables

/-- Every arm of the built-in dispatch that contains an OS-touching call starts with the sandbox
guard (checked on the regenerated table). -/
theorem sandbox_gates_effects :
    ∀ arm ∈ Tables.builtinArms, arm.effects ≠ [] → arm.guardFirst = true := by
  decide

/-- Every sandboxed entry point of the regenerated table switches the sandbox flag on. -/
theorem configs_enable_sandbox : ∀ c ∈ Tables.sandboxConfigs, c.enforceSandbox = true := by
  decide

/-- Each of them sets the flag before the evaluator is first called, in a function that is reachable from the CLI. -/
theorem configs_set_before_eval :
    ∀ c ∈ Tables.sandboxConfigs, c.setBeforeEval = true ∧ c.wired = true := by
  decide

/-- The two entry points the property speaks of, `playground-run` and `sandboxed-test`, are in the table. -/
theorem configs_cover_entry_points :
    "playground-run" ∈ Tables.sandboxConfigs.map (·.entry) ∧
    "sandboxed-test" ∈ Tables.sandboxConfigs.map (·.entry) := by
  decide

/-- Nothing in the source tree assigns anything but `true` to the flag (so it cannot be switched off
again during evaluation). -/
theorem flag_never_cleared : ∀ w ∈ Tables.sandboxFlagWrites, w.2 = "true" := by
  decide

/-- A sound body makes no OS-touching call in an arm that contains none. -/
theorem body_nil_of_effects_nil (body : Body) (hb : body.sound) (arm : BuiltinArm) (args : List Val)
    (h : arm.effects = []) : body arm args = [] := by
  apply List.eq_nil_iff_forall_not_mem.mpr
  intro e he
  have := hb arm args e he
  simp [h] at this

/-! The next four statements hold of ANY dispatch table `arms` in which every effectful arm starts
with the guard (`hg`); `sandbox_gates_effects` is that fact for the regenerated table. -/

/-- An effectful built-in called in sandboxed mode is refused, for all arguments and whatever its
body would have done (no assumption on `body` at all). -/
theorem gated_effectful_forbidden {arms : List BuiltinArm}
    (hg : ∀ arm ∈ arms, arm.effects ≠ [] → arm.guardFirst = true) (body : Body) {arm : BuiltinArm}
    (h : arm ∈ arms) (args : List Val) (he : arm.effects ≠ []) : runArm body true arm args = .forbidden := by
  simp [runArm, hg arm h he]

theorem gated_effect_free {arms : List BuiltinArm}
    (hg : ∀ arm ∈ arms, arm.effects ≠ [] → arm.guardFirst = true) (body : Body) (hb : body.sound)
    {arm : BuiltinArm} (h : arm ∈ arms) (args : List Val) :
    runArm body true arm args = .forbidden ∨ (runArm body true arm args).effects = [] := by
  by_cases he : arm.effects = []
  · right
    unfold runArm
    split
    · rfl
    · exact body_nil_of_effects_nil body hb arm args he
  · left
    exact gated_effectful_forbidden hg body h args he

theorem gated_run_effect_free {arms : List BuiltinArm}
    (hg : ∀ arm ∈ arms, arm.effects ≠ [] → arm.guardFirst = true) (body : Body) (hb : body.sound)
    (calls : List Call) (i : Nat) : (runCalls arms body true calls i).1 = [] := by
  induction calls generalizing i with
  | nil => rfl
  | cons c rest ih =>
    unfold runCalls
    split
    · rfl
    · rename_i arm hl
      split
      · rfl
      · rename_i es hr
        have := gated_effect_free hg body hb (List.mem_of_find?_eq_some hl) c.args
        rw [hr] at this
        simp [Outcome.effects] at this
        simp [this, ih]

theorem gated_first_effectful_call_ends_run {arms : List BuiltinArm}
    (hg : ∀ arm ∈ arms, arm.effects ≠ [] → arm.guardFirst = true) (body : Body) (hb : body.sound)
    (pre : List Call) (c : Call) (post : List Call) (i : Nat)
    (hpre : ∀ p ∈ pre, p.known arms = true ∧ p.effectful arms = false)
    (hc : c.effectful arms = true) :
    ∃ j, j ≤ i + pre.length ∧ runCalls arms body true (pre ++ c :: post) i = ([], .forbiddenAt j) := by
  induction pre generalizing i with
  | nil =>
    refine ⟨i, by simp, ?_⟩
    simp only [List.nil_append]
    unfold runCalls
    unfold Call.effectful at hc
    split
    · rename_i hl; simp [hl] at hc
    · rename_i arm hl
      simp [hl] at hc
      have hne : arm.effects ≠ [] := by
        intro h; simp [h] at hc
      rw [gated_effectful_forbidden hg body (List.mem_of_find?_eq_some hl) c.args hne]
  | cons p rest ih =>
    have hp := hpre p (by simp)
    obtain ⟨j, hj, hrun⟩ := ih (i + 1) fun q hq => hpre q (by simp [hq])
    simp only [List.cons_append]
    unfold runCalls
    unfold Call.known at hp
    split
    · rename_i hl; simp [hl] at hp
    · rename_i arm hl
      split
      · -- an earlier gated call: it ends the run even sooner
        exact ⟨i, by omega, rfl⟩
      · rename_i es hr
        have hfree := gated_effect_free hg body hb (List.mem_of_find?_eq_some hl) p.args
        rw [hr] at hfree
        simp [Outcome.effects] at hfree
        refine ⟨j, by simp at hj ⊢; omega, ?_⟩
        simp [hrun, hfree]

/-- One sandboxed built-in call either ends the evaluation with `ForbiddenInSandbox` or makes no
OS-touching call — for every arm of the dispatch and all arguments. -/
theorem sandboxed_effect_free (body : Body) (hb : body.sound) :
    ∀ arm ∈ Tables.builtinArms, ∀ args,
      runArm body true arm args = .forbidden ∨ (runArm body true arm args).effects = [] :=
  fun _ h args => gated_effect_free sandbox_gates_effects body hb h args

/-- A whole sandboxed evaluation — any sequence of built-in calls, i.e. any program in any
position — performs no OS-touching call. -/
theorem sandboxed_run_effect_free (body : Body) (hb : body.sound) (calls : List Call) (i : Nat) :
    (runCalls Tables.builtinArms body true calls i).1 = [] :=
  gated_run_effect_free sandbox_gates_effects body hb calls i

/-- The first call of an effectful built-in ends the evaluation (one `eval`: under `sandboxed-test` that is
one test, the next test is evaluated afresh, gated again) with `ForbiddenInSandbox`, with nothing done before it: if the calls before position `pre.length` are known and effect-free and
the next one is effectful, the run ends there or earlier (`j ≤ i + pre.length`). -/
theorem first_effectful_call_ends_run (body : Body) (hb : body.sound)
    (pre : List Call) (c : Call) (post : List Call) (i : Nat)
    (hpre : ∀ p ∈ pre, p.known Tables.builtinArms = true ∧ p.effectful Tables.builtinArms = false)
    (hc : c.effectful Tables.builtinArms = true) :
    ∃ j, j ≤ i + pre.length ∧
      runCalls Tables.builtinArms body true (pre ++ c :: post) i = ([], .forbiddenAt j) :=
  gated_first_effectful_call_ends_run sandbox_gates_effects body hb pre c post i hpre hc

/-- The statement for the real entry points: with the flag value that `playground-run` /
`sandboxed-test` configure, no evaluation performs an OS-touching call. -/
theorem entry_points_effect_free (body : Body) (hb : body.sound) :
    ∀ c ∈ Tables.sandboxConfigs, ∀ calls,
      (runCalls Tables.builtinArms body c.enforceSandbox calls 0).1 = [] := by
  intro c hc calls
  rw [configs_enable_sandbox c hc]
  exact sandboxed_run_effect_free body hb calls 0

/-- the table really contains effectful arms (so `sandbox_gates_effects` is not vacuous; any positive
bound makes the point) … -/
example : (Tables.builtinArms.filter (fun a => !a.effects.isEmpty)).length ≥ 12 := by decide

/-- … outside the sandbox the model does perform them (the gate is what removes them) … -/
example : ∃ arm ∈ Tables.builtinArms, arm.name = "FsWriteFile" ∧
    (runArm Body.all false arm [.str "x", .path "/tmp/f"]).effects ≠ [] ∧
    runArm Body.all true arm [.str "x", .path "/tmp/f"] = .forbidden := by
  refine ⟨(Tables.builtinArms.find? (fun a => a.name == "FsWriteFile")).get (by decide), ?_, ?_⟩ <;> decide

/-- … and a sandboxed run `println; fs::write_file; println` stops at the second call. -/
example : runCalls Tables.builtinArms Body.all true
    [⟨false, "PreludePrintln", [.str "a"]⟩, ⟨false, "FsWriteFile", [.str "x", .path "p"]⟩,
     ⟨false, "PreludePrintln", [.str "b"]⟩] 0 = ([], .forbiddenAt 1) := by
  decide

end C24
