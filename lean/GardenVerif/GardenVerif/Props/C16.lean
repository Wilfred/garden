import GardenVerif.Lemmas.Check
/-!
C16 — Programs that pass `check` raise no runtime type errors.

THE THEOREM:

  theorem check_sound_fragment (P : Check.Program) :
      Check.fullyAnnotated P = true → Check.check P = [] →
      ∀ fuel, (Check.run fuel P).isTypeError = false

* `Check.check` is M8 (Model/Check.lean): all Error diagnostics of `garden check` on a program of
  the fully annotated, monomorphic, first-order core fragment — the bidirectional type checker
  (`infer_expr_` / `check_expr_` / `check_match` / `infer_call` / …, transcribed arm by arm) and
  `check_loops`.
* `Check.run` is the typed reference semantics (Model/TypedSem.lean): a fuel-indexed big-step
  interpreter with the evaluator's RUNTIME TYPE ERRORS as explicit outcomes; `isTypeError` = wrong
  operand / argument type, wrong arity, calling a non-function, unknown variable, failed annotation
  check (parameter / let / return), no matching case, scrutinee not an enum, bad pattern (or leaving
  the fragment). Division by zero, overflow and running out of fuel are not type errors.
* `Check.fullyAnnotated P` (decidable, syntactic): every function has hints on all parameters and
  on its return (by construction of `FunDef`); bodies and toplevel expressions are built from
  literals, variables, parentheses, the 17 binary operators of `Check.BinOp` (all but the four float
  operators; the fragment has no Float), `let` (as a block statement) with and
  without hints, assignment, `+=`/`-=`, `if` with and without `else`, `while`, `for` over lists,
  `match` on Option / Bool / Unit with `_` cases and exhaustiveness, `return`, `break`/`continue`,
  list and tuple literals, calls of named functions of the program (recursion included), `Some`,
  `println`, `print`, `string_repr`. Exclusions (each a syntactic condition, see `Check.okE`):
  the iterable of a `for` is a variable, a call or a parenthesised expression (`Check.iterOK`; for
  list literals / `if` / `match` directly in that position the real checker computes lossy types:
  known findings C16/any-from-checked-if and C16/error-from-checked-list); a `_` case binds no
  payload; first order (a variable in value position is a local or `None`/`True`/`False`/`Unit`).
  Of the conjuncts of `fullyAnnotated` the proof uses only `fragmentD P (progSize P)` (every body and
  toplevel statement is in `Check.okL` / `Check.okS` with the program's size as depth bound); the others
  (distinct, non-reserved names, `fragL`, no toplevel `return`) are the conditions under which the model
  was transcribed (Model/Check.lean, at `fullyAnnotated`).

HOW (Lemmas/Check.lean): `Check.typed_of_accepted` — what the checker accepts in the fragment is typed by
the judgement `Check.Typed`, in which an expression leaves the bindings as they are and a block only
changes its own scope (`Check.Typed.tail`): needed because the checker threads its bindings through BOTH
branches of an `if`, through every loop body once, and through arguments left to right while they are
evaluated right to left; inferred types are fragment types without `Error` / `Any` (`Check.Typed.gi`).
`Check.tc_inv` and `Check.tc_gi` are these two facts stated on the checker (`tcExpr … = (T, Γ', [])`).
Then `Check.sound`, progress + preservation packaged for the big-step semantics, by induction on the fuel,
on top of the value typing `Check.hasTy` with `value_subsumption`, `annotation_check_passes` (the param /
let / return checks cannot fail) and `Check.hasTy_unify` (uses `Ty.unify_upper`, the lemma behind C15's
`unify_upper`); for `match`, `Check.exhaustive_covers` and `Check.pat_key`; a loop body is re-run under the
SAME checker bindings, so environment typing is a loop invariant, and `break`/`continue` carry an
environment typed by SOME bindings that agree with those at the loop below the innermost scope (that
scope may have gained `let`s before the jump, and the loop pops it).

The model describes /repo with the fixes checker-fix-toplevel-let-scope, checker-fix-match-non-enum
and checker-fix-novalue-scrutinee-payload; each of them closes an unsoundness of the checker.
-/

namespace C16
open Check

theorem value_subsumption (v : Val) (A B : Ty) (hv : hasTy v A = true) (hs : Ty.sub A B = true)
    (hB : good B = true) : hasTy v B = true := hasTy_sub v A B hv hs hB

/-- A well-typed value passes every runtime annotation check against its static type:
`check_type(value, expected)` = `is_subtype(Type::from_value(value), expected)`. -/
theorem annotation_check_passes (v : Val) (T : Ty) (hv : hasTy v T = true) :
    Ty.sub (typeOf v) T = true := hasTy_sub_typeOf v T hv

theorem hint_types_good (h : Hint) : good h.toTy = true := Hint.toTy_good h

theorem canonical_int (v : Val) (h : hasTy v tInt = true) : ∃ i, v = .int i := canon_int v h
theorem canonical_bool (v : Val) (h : hasTy v tBool = true) : ∃ b, v = .bool b := canon_bool v h
theorem canonical_string (v : Val) (h : hasTy v tStr = true) : ∃ s, v = .str s := canon_str v h

/-- `[]` has type `List<NoValue>`, which is below every `List<T>` (C14's bottom + covariance), so
an empty list passes the annotation check of any list-typed parameter. -/
theorem empty_list_passes (T : Ty) : Ty.sub (typeOf (.list [])) (tList T) = true := by
  simp [typeOf, typeOfLast, tList, Ty.sub, Ty.subAll, sub_noValue]

example : hasTy (.list [.some (.int 1), .none]) (tList (tOption tInt)) = true := by
  simp [hasTy, hasTyAll, tList, tOption, tInt, isNamed]



/-- Soundness of the checker (M8) w.r.t. the typed reference semantics for a BLOCK of the fragment
(all forms). Hypotheses: `ProgOK P D` — every function body of `P` is in the fragment and was
accepted by the checker against its annotations (what `check P = []` gives: `progOK_of_check`);
the block is in the fragment (`okL`), passes `check_loops` (`loopDiagsL il es = []`) and
type-checks with NO diagnostic in bindings `Γ` of well-formed types that type the runtime
environment `ρ`. Conclusion, for EVERY fuel: the evaluation yields a value of the inferred type
(of the expected type in checked position) in an environment typed by `Γ'`, or a `return` of a
value of the function's return type, or (inside a loop only) break/continue with an environment
typed at the loop, or a NON-type error, or runs out of fuel. -/
theorem check_sound_exprs (P : Program) (D : Nat) (hP : ProgOK P D)
    (d : Nat) (es : List TExpr) (ret : Ty) (exp : Option Ty) (Γ Γ' : Blocks Ty) (ρ : Blocks Val) (T : Ty)
    (il : Bool)
    (hfrag : okL P d es = true) (hloops : loopDiagsL il es = [])
    (hcheck : tcSeq P ret exp Γ es = (T, Γ', []))
    (hexp : ∀ E, exp = some E → good E = true) (hret : good ret = true)
    (henv : envOK Γ ρ) (hΓ : GoodEnv Γ) :
    ∀ fuel, R ret (resTy exp T) Γ Γ' il (evalSeq P fuel ρ es) :=
  fun fuel => (sound P (progTyped_of_ok hP) fuel).2.2.1
    ((typed_of_accepted P d).2.1 es ret exp Γ T Γ' hfrag hcheck) hloops hexp hret henv hΓ

/-- A block accepted under the hypotheses of `check_sound_exprs` never ends in one of C16's type
errors. -/
theorem check_sound_exprs_no_type_error (P : Program) (D : Nat) (hP : ProgOK P D)
    (d : Nat) (es : List TExpr) (ret : Ty) (exp : Option Ty) (Γ Γ' : Blocks Ty) (ρ : Blocks Val) (T : Ty)
    (il : Bool)
    (hfrag : okL P d es = true) (hloops : loopDiagsL il es = [])
    (hcheck : tcSeq P ret exp Γ es = (T, Γ', []))
    (hexp : ∀ E, exp = some E → good E = true) (hret : good ret = true)
    (henv : envOK Γ ρ) (hΓ : GoodEnv Γ) (fuel : Nat) (e : RErr)
    (h : evalSeq P fuel ρ es = .err e) : e.isTypeError = false := by
  have := check_sound_exprs P D hP d es ret exp Γ Γ' ρ T il hfrag hloops hcheck hexp hret henv hΓ fuel
  rw [h] at this
  simpa [R] using this

theorem checkFuns_nil (P : Program) : ∀ fs : List FunDef, checkFuns P fs = [] → ∀ f ∈ fs, checkFun P f = []
  | [], _, f, hf => by simp at hf
  | g :: gs, h, f, hf => by
    simp only [checkFuns] at h
    obtain ⟨h1, h2⟩ := List.append_eq_nil_iff.mp h
    simp at hf
    rcases hf with rfl | hf
    · exact h1
    · exact checkFuns_nil P gs h2 f hf

theorem progOK_of_check (P : Program) (D : Nat) (hcheck : check P = [])
    (hfrag : ∀ f ∈ P.funs, okL P D f.body = true) : ProgOK P D := by
  intro f hf
  have hc : checkFuns P P.funs = [] := by
    unfold check at hcheck
    exact (List.append_eq_nil_iff.mp hcheck).1
  have := checkFuns_nil P P.funs hc f hf
  unfold checkFun at this
  obtain ⟨h1, h2⟩ := List.append_eq_nil_iff.mp this
  exact ⟨hfrag f hf, h1, h2⟩


/-- The full-fragment theorem for an arbitrary depth bound `D`. -/
theorem check_sound_fragment_D (P : Program) (D : Nat)
    (hfrag : fragmentD P D = true) (hcheck : check P = []) :
    ∀ fuel, (run fuel P).isTypeError = false := by
  intro fuel
  unfold fragmentD at hfrag
  simp only [Bool.and_eq_true, List.all_eq_true] at hfrag
  obtain ⟨hfuns, htop⟩ := hfrag
  have hP := progTyped_of_ok (progOK_of_check P D hcheck hfuns)
  have hc : checkTop P [[]] P.top = [] := by
    unfold check at hcheck
    exact (List.append_eq_nil_iff.mp hcheck).2
  have key : ∀ (es : List TExpr) (Γ : Blocks Ty) (ρ : Blocks Val),
      (∀ e ∈ es, okS P D e = true) →
      checkTop P Γ es = [] → envOK Γ ρ → GoodEnv Γ → (runTop P fuel ρ es).isTypeError = false := by
    intro es
    induction es with
    | nil => intros; simp [runTop, Outcome.isTypeError]
    | cons e rest ih =>
      intro Γ ρ hs hck henv hG
      simp only [checkTop] at hck
      obtain ⟨T1, Γ1, d1, h1⟩ := triple_exists (tcExpr P .any none Γ e)
      rw [h1] at hck
      simp only at hck
      obtain ⟨hd12, hrest⟩ := List.append_eq_nil_iff.mp hck
      obtain ⟨hd1, hloop⟩ := List.append_eq_nil_iff.mp hd12
      subst hd1
      have ht := stmt_of_accepted (hs e (by simp)) h1
      have hres := (sound P hP fuel).2.1 ht (ρ := ρ) hloop (by simp) (by simp [good]) henv hG
      simp only [runTop]
      cases hev : eval P fuel ρ e with
      | val v ρ1 =>
        rw [hev] at hres
        simp [R] at hres
        exact ih Γ1 ρ1 (fun e' he' => hs e' (by simp [he'])) hrest hres.2 (ht.gi hG).2
      | ret v => simp [Outcome.isTypeError]
      | brk ρ1 => rw [hev] at hres; simp [R] at hres
      | cont ρ1 => rw [hev] at hres; simp [R] at hres
      | err er => rw [hev] at hres; simp [R] at hres; simp [Outcome.isTypeError, hres]
      | timeout => simp [Outcome.isTypeError]
  exact key P.top [[]] [[]] htop hc (by simp [envOK, blockOK]) (by intro b hb; simp at hb; subst hb; simp)

/-- C16 for the fragment: a fully annotated program that `check` accepts never ends in a
runtime type error, for every fuel. -/
theorem check_sound_fragment (P : Program) (hfrag : fullyAnnotated P = true) (hcheck : check P = []) :
    ∀ fuel, (run fuel P).isTypeError = false := by
  unfold fullyAnnotated at hfrag
  simp only [Bool.and_eq_true] at hfrag
  exact check_sound_fragment_D P (progSize P) hfrag.1.1.1.1 hcheck

/-- A program using most forms of the fragment: a recursive function with `if`/`else`, a function
with `while`, `+=`, `for`, `match` with a payload, list / tuple literals, assignment, early
`return`, `break`. -/
def exampleProgram : Program :=
  Program.mk
    [FunDef.mk "fact" [("n", Hint.int)] Hint.int
      [TExpr.ifE (.binop .le (.var "n") (.int 0)) [.int 1] true
        [.binop .mul (.var "n") (.call "fact" [.binop .sub (.var "n") (.int 1)])]],
     FunDef.mk "total" [("xs", Hint.list (Hint.option Hint.int)), ("limit", Hint.int)] Hint.int
      [TExpr.letE "s" (some Hint.int) (.int 0),
       TExpr.forE "x" (.var "xs")
         [TExpr.matchE (.var "x")
            [Case.mk "Some" (some "v") [.update true "s" (.var "v")],
             Case.mk "None" none [.assign "s" (.binop .add (.var "s") (.int 1))]],
          TExpr.ifE (.binop .gt (.var "s") (.var "limit")) [.brk] false []],
       TExpr.letE "i" none (.int 0),
       TExpr.whileE (.binop .lt (.var "i") (.int 3)) [.update true "i" (.int 1)],
       TExpr.ifE (.binop .lt (.var "s") (.int 0)) [.ret (.int 0)] false [],
       TExpr.binop .add (.var "s") (.var "i")]]
    [TExpr.letE "t" none (.tuple [.call "fact" [.int 3], .str "a"]),
     TExpr.call "println" [.call "string_repr"
       [.call "total" [.list [.call "Some" [.int 1], .var "None"], .int 10]]]]

theorem example_in_fragment : fullyAnnotated exampleProgram = true := by decide

/-- The checker's bindings inside `total`: its locals above its parameters. -/
def totalEnv (locals : List (String × Ty)) : Blocks Ty :=
  [locals, [("xs", tList (tOption tInt)), ("limit", tInt)], []]

/-- Each function and the toplevel on its own, and the body of `total` statement by statement. -/
theorem example_checks : check exampleProgram = [] := by
  have fact : checkFun exampleProgram (exampleProgram.funs.get ⟨0, by decide⟩) = [] := by
    simp [checkFun, exampleProgram, tcSeq, tcExpr, tcItems, fin, inferVar,
      callTy, globalOf, findFun, paramTys, paramBlock, lookupB, lookupBlock, setBlock,
      Hint.toTy, tInt, tBool, tFloat, tStr, Ty.sub, Ty.subAll, Ty.subNotError,
      Ty.isErr, intBinopTy, isIntArith, hasFloatTwin,
      loopDiags, loopDiagsL]
  have total : checkFun exampleProgram (exampleProgram.funs.get ⟨1, by decide⟩) = [] := by
    have s1 : tcExpr exampleProgram tInt none (totalEnv [])
        ((exampleProgram.funs.get ⟨1, by decide⟩).body.get ⟨0, by decide⟩) =
        (tUnit, totalEnv [("s", tInt)], []) := by
      simp [totalEnv, exampleProgram, tcExpr, fin, setB, setBlock, Hint.toTy, tInt, tUnit, Ty.sub, Ty.subAll]
    have s2 : tcExpr exampleProgram tInt none (totalEnv [("s", tInt)])
        ((exampleProgram.funs.get ⟨1, by decide⟩).body.get ⟨1, by decide⟩) =
        (tUnit, totalEnv [("s", tInt)], []) := by
      simp [totalEnv, exampleProgram, tcSeq, tcExpr, tcCases, fin, inferVar,
        varForAssign, findFun, lookupB, lookupBlock, setB, setBlock,
        tInt, tBool, tUnit, tList, tOption, tFloat, tStr, Ty.sub, Ty.subAll, Ty.subNotError,
        Ty.isErr, Ty.isNoValue, Ty.noValue, intBinopTy, isIntArith, hasFloatTwin, forElemTy,
        matchMode, scrutIsEnum, enumVariants, allUnderscore, caseNames, exhaustive, exhaustLoop, patternDiags,
        variantOf, tyName, payloadTy, Ty.isTuple, Ty.unify, Ty.unifyAll, Ty.unifyAllFrom, Ty.isAny, Ty.beq,
        Ty.beqList]
    have rest : tcSeq exampleProgram tInt (some tInt) (totalEnv [("s", tInt)])
        ((exampleProgram.funs.get ⟨1, by decide⟩).body.drop 2) =
        (tInt, totalEnv [("s", tInt), ("i", tInt)], []) := by
      simp [totalEnv, exampleProgram, tcSeq, tcExpr, fin, inferVar,
        varForAssign, lookupB, lookupBlock, setB, setBlock,
        tInt, tBool, tUnit, tFloat, tStr, Ty.sub, Ty.subAll, Ty.subNotError,
        Ty.isErr, Ty.noValue, intBinopTy, isIntArith, hasFloatTwin]
    have body : tcSeq exampleProgram tInt (some tInt) (totalEnv [])
        (exampleProgram.funs.get ⟨1, by decide⟩).body = (tInt, totalEnv [("s", tInt), ("i", tInt)], []) :=
      tcSeq_cons_eq s1 (tcSeq_cons_eq s2 rest)
    have env : ([] :: [paramBlock (exampleProgram.funs.get ⟨1, by decide⟩), []] : Blocks Ty) = totalEnv [] := by
      simp [totalEnv, paramBlock, exampleProgram, setBlock, Hint.toTy]
    unfold checkFun
    rw [env]
    change (tcSeq exampleProgram tInt (some tInt) (totalEnv []) _).2.2 ++ _ = []
    rw [body]
    simp [exampleProgram, loopDiags, loopDiagsL, loopDiagsC]
  have top : checkTop exampleProgram [[]] exampleProgram.top = [] := by
    simp [checkTop, exampleProgram, tcExpr, tcItems, fin, inferVar,
      callTy, globalOf, findFun, paramTys, lookupB, lookupBlock, setB, setBlock,
      Hint.toTy, tInt, tStr, tUnit, tList, tOption, Ty.sub, Ty.subAll,
      Ty.isNoValue, Ty.noValue, listExpected,
      Ty.unify, Ty.unifyAll, Ty.unifyAllFrom, Ty.unifyArgs, Ty.isAny, Ty.isErr, Ty.beq, Ty.beqList,
      loopDiags, loopDiagsL, Global.ty]
  have funs : checkFuns exampleProgram exampleProgram.funs = [] :=
    show checkFun exampleProgram (exampleProgram.funs.get ⟨0, by decide⟩) ++
        (checkFun exampleProgram (exampleProgram.funs.get ⟨1, by decide⟩) ++ []) = [] by
      rw [fact, total]; rfl
  unfold check
  rw [funs, top]; rfl

/-- Non-vacuity: the theorem applies to the example (recursion, loops, match, calls). -/
theorem example_never_type_error : ∀ fuel, (run fuel exampleProgram).isTypeError = false :=
  check_sound_fragment exampleProgram example_in_fragment example_checks

end C16
