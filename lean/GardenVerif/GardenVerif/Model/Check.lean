import GardenVerif.Model.Types
/-
M8: the bidirectional type checker of src/checks/type_checker.rs for the fully annotated,
monomorphic, first-order core fragment, plus the two other `check` passes that can report an
ERROR on such programs (`check_loops`; `check_hints` cannot fire: hints are parsed into `Hint`,
which only has well-formed core types).

Transcribed arm by arm from `infer_expr_` / `check_expr_` / `check_block` / `infer_block` /
`check_match` / `check_match_exhaustive` / `infer_call` / `infer_var` / `infer_binary_op` /
`infer_int_binop` / `get_var_for_assignment` / `enum_payload_type` as they are in the tree the
patches `checker-fix-toplevel-let-scope`, `checker-fix-match-non-enum` and
`checker-fix-novalue-scrutinee-payload` produce. Where the Rust
gives up and returns `Error` / `Any` (thereby accepting), so does the model.

* `exp = none`  : `infer_expr`;  `exp = some E` : `check_expr(E, ·)` (E may be `Any`, which is NOT
  the same as inferring: the `If` arm of `check_expr_` returns `Any` then).
* Every function returns the diagnostics IT produced (severity Error only; warnings do not make
  `check` report an error) — the Rust appends to one vector, so the program is accepted iff all
  the pieces are `[]`.
* Bindings are threaded exactly as `LocalBindings` is mutated: `enter_block`/`exit_block` =
  push/pop, `set` = insert-or-overwrite in the innermost block.

No imports beyond M7 (the driver links this file).
-/

namespace Check

-- ------------------------------------------------------------------ syntax

/-- Type hints of the fragment (`TypeHint` restricted to the core types). -/
inductive Hint where
  | int | bool | str | unit
  | list (h : Hint)
  | option (h : Hint)
  | tuple (hs : List Hint)
  deriving Repr, Inhabited

def tInt : Ty := .user .struct "Int" []
def tStr : Ty := .user .struct "String" []
def tFloat : Ty := .user .struct "Float" []
def tBool : Ty := .user .enum "Bool" []
def tUnit : Ty := .user .enum "Unit" []
def tList (a : Ty) : Ty := .user .struct "List" [a]
def tOption (a : Ty) : Ty := .user .enum "Option" [a]

mutual
/-- `Type::from_hint` on the fragment's hints. -/
def Hint.toTy : Hint → Ty
  | .int => tInt
  | .bool => tBool
  | .str => tStr
  | .unit => tUnit
  | .list h => tList h.toTy
  | .option h => tOption h.toTy
  | .tuple hs => .tuple (Hint.toTys hs)
def Hint.toTys : List Hint → List Ty
  | [] => []
  | h :: hs => h.toTy :: Hint.toTys hs
end

inductive BinOp where
  | add | sub | mul | div | mod | pow | bitand | bitor
  | lt | le | gt | ge | eq | ne | and | or | concat
  deriving DecidableEq, Repr, Inhabited

mutual
/-- Expressions of the fragment, with the hints the Rust AST carries. The callee of a call is a
name (first-order fragment). `ifE c thn hasElse els`. -/
inductive TExpr where
  | int (v : Int64)
  | str (s : String)
  | var (name : String)
  | paren (e : TExpr)
  | binop (op : BinOp) (l r : TExpr)
  | letE (name : String) (hint : Option Hint) (e : TExpr)
  | assign (name : String) (e : TExpr)
  | update (isAdd : Bool) (name : String) (e : TExpr)
  | ifE (c : TExpr) (thn : List TExpr) (hasElse : Bool) (els : List TExpr)
  | whileE (c : TExpr) (body : List TExpr)
  | forE (name : String) (e : TExpr) (body : List TExpr)
  | matchE (scrut : TExpr) (cases : List Case)
  | ret (e : TExpr)
  | retUnit
  | brk
  | cont
  | list (items : List TExpr)
  | tuple (items : List TExpr)
  | call (fn : String) (args : List TExpr)
/-- `(Pattern, Block)`: variant name (`_` allowed), payload binder, body. -/
inductive Case where
  | mk (variant : String) (payload : Option String) (body : List TExpr)
end

instance : Inhabited TExpr := ⟨.retUnit⟩

structure FunDef where
  name : String
  params : List (String × Hint)
  ret : Hint
  body : List TExpr

/-- Toplevel items: function definitions and toplevel expressions (in source order). -/
structure Program where
  funs : List FunDef
  top : List TExpr

-- ------------------------------------------------------------------ bindings

/-- `LocalBindings.blocks` / the evaluator's `Bindings.block_bindings`, innermost block FIRST. -/
abbrev Blocks (α : Type) := List (List (String × α))

def lookupBlock {α : Type} : List (String × α) → String → Option α
  | [], _ => none
  | (k, v) :: rest, x => if k == x then some v else lookupBlock rest x

/-- `LocalBindings::get` / `Bindings::get`. -/
def lookupB {α : Type} : Blocks α → String → Option α
  | [], _ => none
  | b :: rest, x => match lookupBlock b x with
    | some v => some v
    | none => lookupB rest x

def setBlock {α : Type} : List (String × α) → String → α → List (String × α)
  | [], x, v => [(x, v)]
  | (k, w) :: rest, x, v => if k == x then (k, v) :: rest else (k, w) :: setBlock rest x v

/-- `LocalBindings::set` / `Bindings::add_new`: insert or overwrite in the innermost block. -/
def setB {α : Type} : Blocks α → String → α → Blocks α
  | [], _, _ => []
  | b :: rest, x, v => setBlock b x v :: rest

/-- `Bindings::set_existing`: overwrite in the innermost block that has the key. -/
def assignB {α : Type} : Blocks α → String → α → Blocks α
  | [], _, _ => []
  | b :: rest, x, v =>
    match lookupBlock b x with
    | some _ => setBlock b x v :: rest
    | none => b :: assignB rest x v

-- ------------------------------------------------------------------ diagnostics

/-- Kinds of Error-severity diagnostics the fragment can trigger. -/
inductive Diag where
  | mismatch          -- "Expected X but got Y" (check_expr_, check_block on an empty block)
  | unbound           -- "Unbound symbol"
  | notFunction       -- "Expected a function but got"
  | arity             -- arity_diagnostics
  | intOpOnFloat      -- "You can only use + for Int values. For Float values …"
  | plusOnString      -- "For String values, use ^ instead"
  | assignUnbound     -- "No such variable x. If you want to define a new local variable …"
  | assignFunction    -- "x is a function definition, which cannot be reassigned"
  | updateNotInt      -- "+= can only be used with Int variables"
  | ifElse            -- "if and else have incompatible types"
  | listElems         -- "List elements have different types"
  | returnUnit        -- "Expected this function to return X but got Unit"
  | matchNotEnum      -- "Expected an enum value but got" (checker-fix-match-non-enum)
  | matchMissing      -- "This match expression does not cover all the cases"
  | matchDuplicate    -- "Duplicate case in pattern match"
  | matchCases        -- "match cases have different types"
  | matchNoSuchType   -- "No such type" (pattern symbol unbound)
  | matchNotVariant   -- "Expected an enum variant here"
  | matchPayload      -- payload / no-payload pattern shape
  | matchWrongEnum    -- "This match case is for A, but you're matching on a B"
  | loopOutside       -- check_loops: break / continue outside a loop
  deriving DecidableEq, Repr, Inhabited

def Diag.toString : Diag → String
  | .mismatch => "mismatch" | .unbound => "unbound" | .notFunction => "not-function" | .arity => "arity"
  | .intOpOnFloat => "int-op-on-float" | .plusOnString => "plus-on-string"
  | .assignUnbound => "assign-unbound" | .assignFunction => "assign-function" | .updateNotInt => "update-not-int"
  | .ifElse => "if-else" | .listElems => "list-elems" | .returnUnit => "return-unit"
  | .matchNotEnum => "match-not-enum" | .matchMissing => "match-missing" | .matchDuplicate => "match-duplicate"
  | .matchCases => "match-cases" | .matchNoSuchType => "match-no-such-type" | .matchNotVariant => "match-not-variant"
  | .matchPayload => "match-payload" | .matchWrongEnum => "match-wrong-enum" | .loopOutside => "loop-outside"

-- ------------------------------------------------------------------ globals

/-- What a name denotes in the file's namespace (`get_var`): a user function, a prelude
function / constructor / constant of the fragment. -/
inductive Global where
  | fn (params : List Ty) (ret : Ty)
  | someC
  | printLike
  | stringRepr
  | val (T : Ty)

def findFun (P : Program) (x : String) : Option FunDef := P.funs.find? (fun f => f.name == x)

def paramTys (f : FunDef) : List Ty := f.params.map (fun p => p.2.toTy)

def globalOf (P : Program) (x : String) : Option Global :=
  match findFun P x with
  | some f => some (.fn (paramTys f) f.ret.toTy)
  | none =>
    if x == "Some" then some .someC
    else if x == "None" then some (.val (tOption Ty.noValue))
    else if x == "True" || x == "False" then some (.val tBool)
    else if x == "Unit" then some (.val tUnit)
    else if x == "println" || x == "print" then some .printLike
    else if x == "string_repr" then some .stringRepr
    else none

/-- `Type::from_value` of a namespace value. -/
def Global.ty (x : String) : Global → Ty
  | .fn ps r => .fn (some x) [] ps r
  | .someC => .fn none ["T"] [.param "T"] (.user .enum "Option" [.param "T"])
  | .printLike => .fn (some x) [] [tStr] tUnit
  | .stringRepr => .fn (some x) ["T"] [.param "T"] tStr
  | .val T => T

abbrev TC := Ty × Blocks Ty × List Diag

/-- `infer_var`. An unbound symbol is bound to `Error` in the current block ("to prevent
cascading errors"). -/
def inferVar (P : Program) (Γ : Blocks Ty) (x : String) : TC :=
  match lookupB Γ x with
  | some T => (T, Γ, [])
  | none => match globalOf P x with
    | some g => (g.ty x, Γ, [])
    | none => (.err, setB Γ x .err, [.unbound])

/-- `get_var_for_assignment`. -/
def varForAssign (P : Program) (Γ : Blocks Ty) (x : String) : TC :=
  match lookupB Γ x with
  | some T => (T, Γ, [])
  | none => match globalOf P x with
    | some g => (g.ty x, Γ, [.assignFunction])
    | none => (.err, setB Γ x .err, [.assignUnbound])

/-- The tail of `check_expr_`: `if !is_subtype(ty, expected) { diagnostic; ty = Error }`. -/
def fin (exp : Option Ty) (T : Ty) (Γ : Blocks Ty) (d : List Diag) : TC :=
  match exp with
  | none => (T, Γ, d)
  | some E => if Ty.sub T E then (T, Γ, d) else (.err, Γ, d ++ [.mismatch])

/-- `Type::type_name`. -/
def tyName : Ty → Option String
  | .any | .err | .tuple _ => none
  | .fn .. => some "Fun"
  | .user _ n _ => some n
  | .param n => some n

/-- Variants of the prelude enums a fragment value can have: (name, has payload). -/
def enumVariants (n : String) : Option (List (String × Bool)) :=
  if n == "Option" then some [("Some", true), ("None", false)]
  else if n == "Bool" then some [("True", false), ("False", false)]
  else if n == "Unit" then some [("Unit", false)]
  else if n == "Result" then some [("Ok", true), ("Err", true)]
  else if n == "NoValue" then some []
  else none

/-- The enum a pattern symbol belongs to and whether it is a constructor (`get_var` in
`check_match`: only the namespace is consulted, not the local bindings). -/
def variantOf (P : Program) (v : String) : Option (Option (String × Bool)) :=
  match findFun P v with
  | some _ => some none          -- a function: "Expected an enum variant here"
  | none =>
    if v == "Some" then some (some ("Option", true))
    else if v == "None" then some (some ("Option", false))
    else if v == "True" || v == "False" then some (some ("Bool", false))
    else if v == "Unit" then some (some ("Unit", false))
    else if v == "Ok" || v == "Err" then some (some ("Result", true))
    else if v == "println" || v == "print" || v == "string_repr" then some none
    else none

/-- `check_match_exhaustive` (Error diagnostics only). `remaining` = variants not yet seen. -/
def exhaustLoop (remaining : List String) (sawUnderscore : Bool) : List String → List Diag × List String × Bool
  | [] => ([], remaining, sawUnderscore)
  | v :: rest =>
    if sawUnderscore then exhaustLoop remaining true rest      -- warning only
    else if v == "_" then exhaustLoop remaining true rest
    else if remaining.contains v then exhaustLoop (remaining.filter (· != v)) false rest
    else
      let (d, rem, u) := exhaustLoop remaining false rest
      (.matchDuplicate :: d, rem, u)

def exhaustive (scrutName : String) (caseNames : List String) : List Diag :=
  match enumVariants scrutName with
  | none => []
  | some variants =>
    if variants.isEmpty then [] else
    let (d, remaining, u) := exhaustLoop (variants.map (·.1)) false caseNames
    if u then d else if remaining.isEmpty then d else d ++ [.matchMissing]

/-- `enum_payload_type` on the fragment (a `NoValue` scrutinee gives `NoValue` payloads:
checker-fix-novalue-scrutinee-payload). -/
def payloadTy (scrut : Ty) (variant : String) : Ty :=
  if scrut.isNoValue then Ty.noValue else
  match scrut with
  | .user _ n args =>
    match enumVariants n with
    | none => .err
    | some variants =>
      match variants.find? (fun p => p.1 == variant) with
      | none => .err
      | some (_, false) => .err
      | some (_, true) =>
        if n == "Option" then (match args with | a :: _ => a | [] => .err)
        else if n == "Result" then
          (if variant == "Ok" then (match args with | a :: _ => a | [] => .err)
           else (match args with | _ :: b :: _ => b | _ => .err))
        else .err
  | _ => .err

/-- The per-case pattern diagnostics of `check_match` (after the case body was checked). -/
def patternDiags (P : Program) (scrutName : Option String) (variant : String) (hasPayload : Bool) : List Diag :=
  if variant == "_" then [] else
  match variantOf P variant with
  | none => [.matchNoSuchType]
  | some none => [.matchNotVariant]
  | some (some (en, ctor)) =>
    (if hasPayload != ctor then [.matchPayload] else []) ++
    (match scrutName with
     | none => []
     | some sn => if sn == "NoValue" then [] else if en != sn then [.matchWrongEnum] else [])

def _root_.Ty.isTuple : Ty → Bool
  | .tuple _ => true
  | _ => false

/-- `scrutinee_is_enum` of checker-fix-match-non-enum (the diagnostic is only emitted when no
pattern diagnostic would be: all cases are `_`, or the scrutinee is a tuple). -/
def scrutIsEnum : Ty → Bool
  | .user _ n _ => (enumVariants n).isSome
  | .tuple _ | .fn .. => false
  | .any | .param _ | .err => true

def unifyAllOr (ts : List Ty) (dflt : Ty) : Ty :=
  match Ty.unifyAll ts with
  | .ok T => T
  | .error _ => dflt

def isIntArith : BinOp → Bool
  | .add | .sub | .mul | .div | .mod | .pow | .bitand | .bitor => true
  | _ => false

def hasFloatTwin : BinOp → Bool
  | .add | .sub | .mul | .div => true
  | _ => false

/-- The operand tests of `infer_int_binop` once both operand types are known. -/
def intBinopTy (op : BinOp) (lt rt : Ty) : Ty × List Diag :=
  if hasFloatTwin op && Ty.subNotError lt tFloat && Ty.subNotError rt tFloat then (.err, [.intOpOnFloat])
  else if op == .add && Ty.subNotError lt tStr && Ty.subNotError rt tStr then (.err, [.plusOnString])
  else (tInt, (if Ty.sub lt tInt then [] else [.mismatch]) ++ (if Ty.sub rt tInt then [] else [.mismatch]))

/-- The receiver/argument logic of `infer_call` once the argument types are known
(`Some` and `string_repr` are the only generic callees: `T` is solved to the argument's type, so
the argument test `is_subtype(arg, arg)` always passes). -/
def callTy (P : Program) (Γ : Blocks Ty) (f : String) (argTys : List Ty) : Ty × Blocks Ty × List Diag :=
  match lookupB Γ f with
  | some T =>
    -- a local: in the fragment it never has a function type
    (match T with
     | .err => (.err, Γ, [])
     | .fn _ _ ps r =>
        if ps.length == argTys.length then
          (r, Γ, (List.zip ps argTys).filterMap (fun pa => if Ty.sub pa.2 pa.1 then none else some Diag.mismatch))
        else (r, Γ, [.arity])
     | _ => if T.isNoValue then (Ty.noValue, Γ, []) else (.err, Γ, [.notFunction]))
  | none =>
    match globalOf P f with
    | none => (.err, setB Γ f .err, [.unbound])
    | some (.fn ps r) =>
        if ps.length == argTys.length then
          (r, Γ, (List.zip ps argTys).filterMap (fun pa => if Ty.sub pa.2 pa.1 then none else some Diag.mismatch))
        else (r, Γ, [.arity])
    | some .printLike =>
        (match argTys with
         | [a] => (tUnit, Γ, if Ty.sub a tStr then [] else [.mismatch])
         | _ => (tUnit, Γ, [.arity]))
    | some .stringRepr =>
        (match argTys with
         | [_] => (tStr, Γ, [])
         | _ => (tStr, Γ, [.arity]))
    | some .someC =>
        (match argTys with
         | [a] => (tOption a, Γ, [])
         | [] => (tOption Ty.noValue, Γ, [.arity])
         | a :: _ => (tOption a, Γ, [.arity]))
    | some (.val T) =>
        if T.isNoValue then (Ty.noValue, Γ, []) else (.err, Γ, [.notFunction])

def forElemTy : Ty → Ty
  | .user _ n args => if n == "List" then (match args with | a :: _ => a | [] => .err) else .err
  | _ => .err

/-- The expected element type if `check_expr_`'s list-literal arm applies. -/
def listExpected : Option Ty → Option Ty
  | some (.user .struct n [a]) => if n == "List" then some a else none
  | _ => none

/-- `match expected_ty { Type::Any => infer…, _ => check… }` in `check_match`. -/
def matchMode : Option Ty → Option Ty
  | none => none
  | some .any => none
  | some E => some E

-- ------------------------------------------------------------------ the checker

mutual
/-- `infer_expr` (`exp = none`) / `check_expr` (`exp = some E`). `ret` = `expected_return_ty`. -/
def tcExpr (P : Program) (ret : Ty) (exp : Option Ty) (Γ : Blocks Ty) : TExpr → TC
  | .int _ => fin exp tInt Γ []
  | .str _ => fin exp tStr Γ []
  | .var x =>
    let (T, Γ1, d) := inferVar P Γ x
    fin exp T Γ1 d
  | .paren e =>
    let (T, Γ1, d) := tcExpr P ret none Γ e
    fin exp T Γ1 d
  | .binop op l r =>
    if isIntArith op then
      let (lt, Γ1, d1) := tcExpr P ret none Γ l
      let (rt, Γ2, d2) := tcExpr P ret none Γ1 r
      let (T, d3) := intBinopTy op lt rt
      fin exp T Γ2 (d1 ++ d2 ++ d3)
    else if op == .eq || op == .ne then
      let (_, Γ1, d1) := tcExpr P ret none Γ l
      let (_, Γ2, d2) := tcExpr P ret none Γ1 r
      fin exp tBool Γ2 (d1 ++ d2)
    else
      let (opnd, res) :=
        if op == .and || op == .or then (tBool, tBool)
        else if op == .concat then (tStr, tStr)
        else (tInt, tBool)
      let (_, Γ1, d1) := tcExpr P ret (some opnd) Γ l
      let (_, Γ2, d2) := tcExpr P ret (some opnd) Γ1 r
      fin exp res Γ2 (d1 ++ d2)
  | .letE x hint e =>
    match hint with
    | some h =>
      let (_, Γ1, d1) := tcExpr P ret (some h.toTy) Γ e
      fin exp tUnit (setB Γ1 x h.toTy) d1
    | none =>
      let (T, Γ1, d1) := tcExpr P ret none Γ e
      fin exp tUnit (setB Γ1 x T) d1
  | .assign x e =>
    let (T, Γ1, d1) := varForAssign P Γ x
    let (_, Γ2, d2) := tcExpr P ret (some T) Γ1 e
    fin exp tUnit Γ2 (d1 ++ d2)
  | .update _ x e =>
    let (T, Γ1, d1) := varForAssign P Γ x
    let d1' := if Ty.sub T tInt then [] else [Diag.updateNotInt]
    let (_, Γ2, d2) := tcExpr P ret (some tInt) Γ1 e
    fin exp tUnit Γ2 (d1 ++ d1' ++ d2)
  | .ifE c thn hasElse els =>
    let (_, Γ1, d1) := tcExpr P ret (some tBool) Γ c
    if hasElse then
      match exp with
      | none =>
        let (tt, Γ2, d2) := tcSeq P ret none ([] :: Γ1) thn
        let (te, Γ3, d3) := tcSeq P ret none ([] :: Γ2.tail) els
        match Ty.unify tt te with
        | some T => (T, Γ3.tail, d1 ++ d2 ++ d3)
        | none => (.err, Γ3.tail, d1 ++ d2 ++ d3 ++ [.ifElse])
      | some E =>
        let (_, Γ2, d2) := tcSeq P ret (some E) ([] :: Γ1) thn
        let (_, Γ3, d3) := tcSeq P ret (some E) ([] :: Γ2.tail) els
        fin exp E Γ3.tail (d1 ++ d2 ++ d3)
    else
      let (_, Γ2, d2) := tcSeq P ret none ([] :: Γ1) thn
      fin exp tUnit Γ2.tail (d1 ++ d2)
  | .whileE c body =>
    let (_, Γ1, d1) := tcExpr P ret (some tBool) Γ c
    let (_, Γ2, d2) := tcSeq P ret none ([] :: Γ1) body
    fin exp tUnit Γ2.tail (d1 ++ d2)
  | .forE x e body =>
    let (Te, Γ1, d1) := tcExpr P ret (some (tList .any)) Γ e
    let Γb := setB ([] :: Γ1) x (forElemTy Te)
    let (_, Γ2, d2) := tcSeq P ret none ([] :: Γb) body
    fin exp tUnit Γ2.tail.tail (d1 ++ d2)
  | .matchE scrut cases =>
    let (Ts, Γ1, d1) := tcExpr P ret none Γ scrut
    let d2 := if !(scrutIsEnum Ts) && (allUnderscore cases || Ts.isTuple) then [Diag.matchNotEnum] else []
    let d3 := match tyName Ts with
      | some n => exhaustive n (caseNames cases)
      | none => []
    let (tys, Γ2, d4) := tcCases P ret (matchMode exp) Ts Γ1 cases
    match matchMode exp with
    | none =>
      (match Ty.unifyAll tys with
       | .ok T => fin exp T Γ2 (d1 ++ d2 ++ d3 ++ d4)
       | .error _ => fin exp .err Γ2 (d1 ++ d2 ++ d3 ++ d4 ++ [.matchCases]))
    | some E =>
      (match Ty.unifyAll tys with
       | .ok T => fin exp (if T.isNoValue then E else T) Γ2 (d1 ++ d2 ++ d3 ++ d4)
       | .error _ => fin exp E Γ2 (d1 ++ d2 ++ d3 ++ d4))
  | .ret e =>
    let (_, Γ1, d1) := tcExpr P ret (some ret) Γ e
    fin exp Ty.noValue Γ1 d1
  | .retUnit => fin exp Ty.noValue Γ (if Ty.sub tUnit ret then [] else [.returnUnit])
  | .brk => fin exp Ty.noValue Γ []
  | .cont => fin exp Ty.noValue Γ []
  | .list items =>
    match listExpected exp with
    | some a =>
      let (tys, Γ1, d1) := tcItems P ret (some a) Γ items
      fin exp (tList (unifyAllOr tys .err)) Γ1 d1
    | none =>
      let (tys, Γ1, d1) := tcItems P ret none Γ items
      (match Ty.unifyAll tys with
       | .ok T => fin exp (tList T) Γ1 d1
       | .error _ => fin exp (tList .any) Γ1 (d1 ++ [.listElems]))
  | .tuple items =>
    let (tys, Γ1, d1) := tcItems P ret none Γ items
    fin exp (.tuple tys) Γ1 d1
  | .call f args =>
    -- `infer_expr(recv)` first (it may bind an unbound name), then the arguments in order
    let (tys, Γ1, d1) := tcItems P ret none Γ args
    let (T, Γ2, d2) := callTy P Γ1 f tys
    fin exp T Γ2 (d1 ++ d2)
/-- The expressions of a block inside an already entered scope (`infer_block` / `check_block`
without the `enter_block` / `exit_block`): only the LAST expression is checked against `exp`;
an empty block is `Unit`. -/
def tcSeq (P : Program) (ret : Ty) (exp : Option Ty) (Γ : Blocks Ty) : List TExpr → TC
  | [] => (tUnit, Γ, match exp with
      | some E => if Ty.sub tUnit E then [] else [.mismatch]
      | none => [])
  | [e] => tcExpr P ret exp Γ e
  | e :: e2 :: rest =>
    let (_, Γ1, d1) := tcExpr P ret none Γ e
    let (T, Γ2, d2) := tcSeq P ret exp Γ1 (e2 :: rest)
    (T, Γ2, d1 ++ d2)
/-- List / tuple items and call arguments, left to right. -/
def tcItems (P : Program) (ret : Ty) (exp : Option Ty) (Γ : Blocks Ty) : List TExpr → List Ty × Blocks Ty × List Diag
  | [] => ([], Γ, [])
  | e :: rest =>
    let (T, Γ1, d1) := tcExpr P ret exp Γ e
    let (Ts, Γ2, d2) := tcItems P ret exp Γ1 rest
    (T :: Ts, Γ2, d1 ++ d2)
/-- The case loop of `check_match`. -/
def tcCases (P : Program) (ret : Ty) (mode : Option Ty) (Ts : Ty) (Γ : Blocks Ty) : List Case → List Ty × Blocks Ty × List Diag
  | [] => ([], Γ, [])
  | .mk variant payload body :: rest =>
    let Γp := match payload with
      | some x => setB ([] :: Γ) x (payloadTy Ts variant)
      | none => [] :: Γ
    let (T, Γ1, d1) := tcSeq P ret mode ([] :: Γp) body
    let d2 := patternDiags P (tyName Ts) variant payload.isSome
    let (Tr, Γ2, d3) := tcCases P ret mode Ts Γ1.tail.tail rest
    (T :: Tr, Γ2, d1 ++ d2 ++ d3)
/-- `cases.iter().all(|(pattern, _)| pattern.variant_sym.name.is_underscore())`. -/
def allUnderscore : List Case → Bool
  | [] => true
  | .mk v _ _ :: rest => v == "_" && allUnderscore rest
/-- Pattern symbols of the cases, in order. -/
def caseNames : List Case → List String
  | [] => []
  | .mk v _ _ :: rest => v :: caseNames rest
end

-- ------------------------------------------------------------------ check_loops

mutual
/-- `check_loops`: `break` / `continue` outside `while` / `for`. -/
def loopDiags (inLoop : Bool) : TExpr → List Diag
  | .int _ | .str _ | .var _ | .retUnit => []
  | .brk | .cont => if inLoop then [] else [.loopOutside]
  | .paren e | .letE _ _ e | .assign _ e | .update _ _ e | .ret e => loopDiags inLoop e
  | .binop _ l r => loopDiags inLoop l ++ loopDiags inLoop r
  | .ifE c thn _ els => loopDiags inLoop c ++ loopDiagsL inLoop thn ++ loopDiagsL inLoop els
  | .whileE c body => loopDiags inLoop c ++ loopDiagsL true body
  | .forE _ e body => loopDiags inLoop e ++ loopDiagsL true body
  | .matchE s cases => loopDiags inLoop s ++ loopDiagsC inLoop cases
  | .list items | .tuple items | .call _ items => loopDiagsL inLoop items
def loopDiagsL (inLoop : Bool) : List TExpr → List Diag
  | [] => []
  | e :: rest => loopDiags inLoop e ++ loopDiagsL inLoop rest
def loopDiagsC (inLoop : Bool) : List Case → List Diag
  | [] => []
  | .mk _ _ body :: rest => loopDiagsL inLoop body ++ loopDiagsC inLoop rest
end

-- ------------------------------------------------------------------ the program

def paramBlock (f : FunDef) : List (String × Ty) :=
  f.params.foldl (fun b p => setBlock b p.1 p.2.toTy) []

/-- `visit_fun_info` with the toplevel's locals hidden (checker-fix-toplevel-let-scope):
`enter_block`, bind the parameters, `check_block(return_ty, body)`. -/
def checkFun (P : Program) (f : FunDef) : List Diag :=
  (tcSeq P f.ret.toTy (some f.ret.toTy) ([] :: [paramBlock f, []]) f.body).2.2 ++ loopDiagsL false f.body

def checkFuns (P : Program) : List FunDef → List Diag
  | [] => []
  | f :: rest => checkFun P f ++ checkFuns P rest

/-- `visit_toplevel_expr` for each toplevel expression, sharing one scope. -/
def checkTop (P : Program) (Γ : Blocks Ty) : List TExpr → List Diag
  | [] => []
  | e :: rest =>
    let (_, Γ1, d) := tcExpr P .any none Γ e
    d ++ loopDiags false e ++ checkTop P Γ1 rest

/-- All Error diagnostics of `garden check` on a fragment program. -/
def check (P : Program) : List Diag := checkFuns P P.funs ++ checkTop P [[]] P.top

-- ------------------------------------------------------------------ the fragment

def reservedNames : List String :=
  ["Some", "None", "True", "False", "Unit", "Ok", "Err", "println", "print", "string_repr", "_"]

def isGlobalName (P : Program) (x : String) : Bool := (findFun P x).isSome || reservedNames.contains x

def isValueGlobal (x : String) : Bool := x == "None" || x == "True" || x == "False" || x == "Unit"

def isItemIf : TExpr → Bool
  | .ifE _ _ true _ => true
  | _ => false

mutual
/-- Syntactic side conditions of the fragment (decidable):
* binders (let / for / match payload) are not names of functions, prelude values or `_`;
* a variable in value position is a local or one of `None`/`True`/`False`/`Unit` (first order);
* a callee is a function of the program, `Some`, `println`, `print` or `string_repr`;
* match cases use the variants `Some`/`None`/`True`/`False`/`Unit`/`_`;
* a list literal that is directly the iterable of a `for` has no direct `if … else` item
  (known finding C16/any-from-checked-if: `check_expr_`'s `If` arm returns the expected type `Any`
  there, and `Any` is then accepted as a `match` scrutinee). -/
def fragE (P : Program) : TExpr → Bool
  | .int _ | .str _ | .retUnit | .brk | .cont => true
  | .var x => !(isGlobalName P x) || isValueGlobal x
  | .paren e | .ret e => fragE P e
  | .binop _ l r => fragE P l && fragE P r
  | .letE x _ e => !(isGlobalName P x) && fragE P e
  | .assign x e => !(isGlobalName P x) && fragE P e
  | .update _ x e => !(isGlobalName P x) && fragE P e
  | .ifE c thn _ els => fragE P c && fragL P thn && fragL P els
  | .whileE c body => fragE P c && fragL P body
  | .forE x e body =>
    !(isGlobalName P x) && fragE P e && fragL P body &&
      (match e with
       | .list items => !(items.any isItemIf)
       | _ => true)
  | .matchE s cases => fragE P s && fragC P cases
  | .list items | .tuple items => fragL P items
  | .call f args =>
    ((findFun P f).isSome || f == "Some" || f == "println" || f == "print" || f == "string_repr") && fragL P args
def fragL (P : Program) : List TExpr → Bool
  | [] => true
  | e :: rest => fragE P e && fragL P rest
def fragC (P : Program) : List Case → Bool
  | [] => true
  | .mk v payload body :: rest =>
    (v == "Some" || v == "None" || v == "True" || v == "False" || v == "Unit" || v == "_") &&
    (match payload with | some x => !(isGlobalName P x) | none => true) &&
    fragL P body && fragC P rest
end

def distinctNames : List String → Bool
  | [] => true
  | x :: rest => !(rest.contains x) && distinctNames rest

/-- Every function is fully annotated by construction of `FunDef`; in addition: function names
are distinct and not prelude names, parameter names are distinct and not global names, and all
bodies and toplevel expressions satisfy `fragE`. Toplevel expressions contain no `return`. -/
def fragFun (P : Program) (f : FunDef) : Bool :=
  !(reservedNames.contains f.name) &&
  distinctNames (f.params.map (·.1)) &&
  f.params.all (fun p => !(isGlobalName P p.1)) &&
  fragL P f.body

mutual
def hasRet : TExpr → Bool
  | .ret _ | .retUnit => true
  | .int _ | .str _ | .var _ | .brk | .cont => false
  | .paren e | .letE _ _ e | .assign _ e | .update _ _ e => hasRet e
  | .binop _ l r => hasRet l || hasRet r
  | .ifE c thn _ els => hasRet c || hasRetL thn || hasRetL els
  | .whileE c body | .forE _ c body => hasRet c || hasRetL body
  | .matchE s cases => hasRet s || hasRetC cases
  | .list items | .tuple items | .call _ items => hasRetL items
def hasRetL : List TExpr → Bool
  | [] => false
  | e :: rest => hasRet e || hasRetL rest
def hasRetC : List Case → Bool
  | [] => false
  | .mk _ _ body :: rest => hasRetL body || hasRetC rest
end

-- ------------------------------------------------------------------ the fragment of the soundness theorem

/-- Iterables of `for` whose type is inferred and then compared with `List<Any>` (a variable, a
call, a parenthesised expression): for list literals / `if` / `match` in that position the checker
computes lossy types (known findings C16/any-from-checked-if, C16/error-from-checked-list). -/
def iterOK : TExpr → Bool
  | .var _ | .call _ _ | .paren _ => true
  | _ => false

mutual
/-- The fragment of `check_sound_fragment`, indexed by a bound on the nesting depth (so that the
proof that accepted programs are typed is an induction on a natural number). `let` only as a block statement. -/
def okE (P : Program) : Nat → TExpr → Bool
  | 0, _ => false
  | d + 1, e =>
    match e with
    | .int _ | .str _ | .retUnit | .brk | .cont => true
    | .var x => (isValueGlobal x && (findFun P x).isNone) || !(isGlobalName P x)
    | .paren e | .ret e | .assign _ e | .update _ _ e => okE P d e
    | .binop _ l r => okE P d l && okE P d r
    | .letE _ _ _ => false
    | .ifE c thn _ els => okE P d c && okL P d thn && okL P d els
    | .whileE c body => okE P d c && okL P d body
    | .forE _ e body => iterOK e && okE P d e && okL P d body
    | .matchE s cases => okE P d s && okC P d cases
    | .list items | .tuple items | .call _ items => okA P d items
def okL (P : Program) : Nat → List TExpr → Bool
  | 0, _ => false
  | _ + 1, [] => true
  | d + 1, e :: rest =>
    (match e with
     | .letE _ _ e' => okE P d e'
     | _ => okE P d e) && okL P d rest
def okA (P : Program) : Nat → List TExpr → Bool
  | 0, _ => false
  | _ + 1, [] => true
  | d + 1, e :: rest => okE P d e && okA P d rest
def okC (P : Program) : Nat → List Case → Bool
  | 0, _ => false
  | _ + 1, [] => true
  | d + 1, .mk v payload body :: rest => (v != "_" || payload.isNone) && okL P d body && okC P d rest
end

/-- A block statement: a `let`, or an expression of the fragment. -/
def okS (P : Program) (d : Nat) (e : TExpr) : Bool :=
  match e with
  | .letE _ _ e' => okE P d e'
  | _ => okE P d e


mutual
/-- Number of nodes (a sufficient nesting-depth bound for `okE`). -/
def sizeE : TExpr → Nat
  | .int _ | .str _ | .var _ | .retUnit | .brk | .cont => 1
  | .paren e | .ret e | .letE _ _ e | .assign _ e | .update _ _ e => sizeE e + 1
  | .binop _ l r => sizeE l + sizeE r + 1
  | .ifE c thn _ els => sizeE c + sizeL thn + sizeL els + 1
  | .whileE c body | .forE _ c body => sizeE c + sizeL body + 1
  | .matchE s cases => sizeE s + sizeC cases + 1
  | .list items | .tuple items | .call _ items => sizeL items + 1
def sizeL : List TExpr → Nat
  | [] => 1
  | e :: rest => sizeE e + sizeL rest + 1
def sizeC : List Case → Nat
  | [] => 1
  | .mk _ _ body :: rest => sizeL body + sizeC rest + 1
end

def progSize (P : Program) : Nat :=
  (P.funs.map (fun f => sizeL f.body)).foldl (· + ·) (sizeL P.top) + 1

/-- Membership of a whole program in the fragment of `check_sound_fragment` (depth bound `D`):
function bodies are blocks of the fragment, toplevel expressions are block statements. -/
def fragmentD (P : Program) (D : Nat) : Bool :=
  P.funs.all (fun f => okL P D f.body) && P.top.all (fun e => okS P D e)

/-- The hypothesis of `check_sound_fragment`. Every function is fully annotated by construction
of `FunDef`; `fragmentD` is what the proof uses; the remaining conjuncts (distinct, non-reserved
names, no toplevel `return`, …) are the conditions under which M8 / the reference semantics were
transcribed and are tied to the implementation by the correspondence. -/
def fullyAnnotated (P : Program) : Bool :=
  fragmentD P (progSize P) &&
  distinctNames (P.funs.map (·.name)) &&
  P.funs.all (fragFun P) &&
  fragL P P.top && !(hasRetL P.top)

end Check
