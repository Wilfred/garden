import GardenVerif.Lemmas.BigStep
/-!
# C05 — Core-language programs behave as the reference semantics says

Reference semantics: `BigStep.eval` (Model/BigStep.lean, M5), an environment-passing definitional
interpreter that shares no evaluation code with the machine model M4 (`Machine.step`), which is
compared tick-by-tick with the real evaluator (C06/C08) — and both are compared with
`garden run` on every generated program (harness/c05.py, three-way differential).

`runN n` = `n` iterations of `Machine.step`; `Machine.init p [] none none` = the state `garden run`
starts from (no interrupts, no tick / stack limit). The fragment predicates are decidable and are
evaluated by the driver on the REAL parser's tree of every generated program (harness/c05.py):
`wfProgram` (the parser's `value_is_used` flags), `exitsProgram` (break / continue in statement
position of a loop body), `levelProgram` (0: expressions, blocks, `let`, assignment, `+=`, `if`,
`match`, list / tuple literals, calls of built-ins and enum constructors; 1: + `while`, `for`,
`break`, `continue`; 2: + named functions, closures, `return`).

Outside the fragment the implementation is known to deviate (known findings C05/exit-in-operand/*).
Nothing is claimed for runs that exhaust the fuel (non-termination) or leave the fragment.
-/
namespace C05
open Machine BigStep BigStepLemmas

theorem level_toplevel (p : Program) (L : Nat) (h : levelProgram p ≤ L) : lvB p.toplevel ≤ L := by
  unfold levelProgram at h; omega

theorem wf_toplevel (p : Program) (h : wfProgram p = true) : wfAll p.toplevel = true := by
  unfold wfProgram at h; simp only [Bool.and_eq_true] at h; exact h.1

theorem exits_toplevel (p : Program) (h : exitsProgram p = true) : exB false false p.toplevel = true := by
  unfold exitsProgram at h; simp only [Bool.and_eq_true] at h; exact h.1

/-- **C05, the refinement theorem (all three stages).** For every program of the fragment (head of this
file) and every fuel: whenever the reference interpreter `BigStep.runProgram` ends with a value or an
error, the machine `Machine.step`, iterated from the state `garden run` starts in, reaches `done` with
the same value, resp. `error` with the same error kind, having printed the same output.

Proof: `sim2` (simulation for the interpreter with the fragment check made dynamic at closure
calls, by induction on the fuel) and `runProgram_checked_eq` (on programs of the fragment that
interpreter is `BigStep.eval`: every closure value carries a body of the fragment — invariant `vok`). -/
theorem machine_refines_bigstep (p : Program)
    (hwf : wfProgram p = true) (hex : exitsProgram p = true) (hlv : levelProgram p ≤ 2) (fuel : Nat) :
    match BigStep.runProgram p fuel with
    | (out, .val v) => ∃ n s, runN n (Machine.init p [] none none) = .done s v ∧ s.out = out
    | (out, .err e) => ∃ n s, runN n (Machine.init p [] none none) = .error s e ∧ s.out = out
    | _ => True := by
  have hf := funs_ok p hwf hex hlv
  rw [← runProgram_checked_eq p hf (level_toplevel p 2 hlv) (wf_toplevel p hwf) (exits_toplevel p hex) fuel]
  exact refines_of_IH (sim2 p hf fuel).1 (level_toplevel p 2 hlv) (wf_toplevel p hwf) (exits_toplevel p hex)

/-- Stage (a), `levelProgram p ≤ 0`: a corollary of `machine_refines_bigstep` under DESIGN's stage name,
like the next two. -/
theorem machine_refines_bigstep_stage_a (p : Program)
    (hwf : wfProgram p = true) (hex : exitsProgram p = true) (hlv : levelProgram p ≤ 0) (fuel : Nat) :
    match BigStep.runProgram p fuel with
    | (out, .val v) => ∃ n s, runN n (Machine.init p [] none none) = .done s v ∧ s.out = out
    | (out, .err e) => ∃ n s, runN n (Machine.init p [] none none) = .error s e ∧ s.out = out
    | _ => True :=
  machine_refines_bigstep p hwf hex (by omega) fuel

/-- Stage (b), `levelProgram p ≤ 1`. -/
theorem machine_refines_bigstep_stage_b (p : Program)
    (hwf : wfProgram p = true) (hex : exitsProgram p = true) (hlv : levelProgram p ≤ 1) (fuel : Nat) :
    match BigStep.runProgram p fuel with
    | (out, .val v) => ∃ n s, runN n (Machine.init p [] none none) = .done s v ∧ s.out = out
    | (out, .err e) => ∃ n s, runN n (Machine.init p [] none none) = .error s e ∧ s.out = out
    | _ => True :=
  machine_refines_bigstep p hwf hex (by omega) fuel

/-- Stage (c): the full theorem. -/
theorem machine_refines_bigstep_stage_c (p : Program)
    (hwf : wfProgram p = true) (hex : exitsProgram p = true) (hlv : levelProgram p ≤ 2) (fuel : Nat) :
    match BigStep.runProgram p fuel with
    | (out, .val v) => ∃ n s, runN n (Machine.init p [] none none) = .done s v ∧ s.out = out
    | (out, .err e) => ∃ n s, runN n (Machine.init p [] none none) = .error s e ∧ s.out = out
    | _ => True :=
  machine_refines_bigstep p hwf hex hlv fuel

/-- Non-vacuity: a level-0 program with a `let`, an `if`/`else` block, a `match`, a built-in call
and a tuple satisfies the three fragment predicates (flags as the parser sets them). -/
def exampleA : Program :=
  { funs := [], enums := [],
    toplevel := [
      .letE 3 true (.sym "x") (.binop 2 true .add (.int 0 true 1) (.int 1 true 2)),
      .ifE 9 true (.binop 6 true .lt (.var 4 true "x") (.int 5 true 5))
        [.assign 8 false "x" (.int 7 true 7)] none,
      .call 14 true (.var 10 true "println")
        [.call 13 true (.var 11 true "string_repr") [.tuple 16 true [.var 12 true "x", .var 15 true "None"]]],
      .matchE 20 true (.call 19 true (.var 17 true "Some") [.var 18 true "x"])
        [.mk "Some" (some (.sym "y")) [.var 21 true "y"], .mk "_" none [.int 22 true 0]]] }

example : wfProgram exampleA = true ∧ exitsProgram exampleA = true ∧ levelProgram exampleA ≤ 0 := by
  decide

/-- Non-vacuity for stage (b): `let i = 0  while True { i += 1  if i > 2 { break }  for x in [i] { continue } }  i`
(a loop with a `break` inside an `if` block followed by another loop, and a `continue`). -/
def exampleB : Program :=
  { funs := [], enums := [],
    toplevel := [
      .letE 1 true (.sym "i") (.int 0 true 0),
      .whileE 20 true (.var 2 true "True")
        [.update 4 false true "i" (.int 3 true 1),
         .ifE 9 false (.binop 7 true .gt (.var 5 true "i") (.int 6 true 2)) [.brk 8 false] none,
         .forE 14 false (.sym "x") (.list 11 true [.var 10 true "i"]) [.cont 12 false]],
      .var 21 true "i"] }

example : wfProgram exampleB = true ∧ exitsProgram exampleB = true ∧ levelProgram exampleB ≤ 1 := by
  decide

/-- Non-vacuity for stage (c):
`fun f(n) { while True { if n > 2 { return n }  n += 1 }  0 }   let k = 10   let g = fun(x) { x + k }   g(f(1))`. -/
def exampleC : Program :=
  { funs := [{ name := "f", params := ["n"], body :=
      [.whileE 10 false (.var 1 true "True")
         [.ifE 6 false (.binop 4 true .gt (.var 2 true "n") (.int 3 true 2)) [.ret 5 false (some (.var 30 true "n"))] none,
          .update 8 false true "n" (.int 7 true 1)],
       .int 11 true 0] }],
    enums := [],
    toplevel := [
      .letE 13 true (.sym "k") (.int 12 true 10),
      .letE 19 true (.sym "g") (.lambda 18 true ["x"] [.binop 17 true .add (.var 15 true "x") (.var 16 true "k")]),
      .call 25 true (.var 20 true "g") [.call 24 true (.var 21 true "f") [.int 22 true 1]]] }

example : wfProgram exampleC = true ∧ exitsProgram exampleC = true ∧ levelProgram exampleC ≤ 2 := by
  decide

def outInt : Outcome → Option Int64
  | .val (.int v) => some v
  | _ => none

def resInt : StepResult → Option Int64
  | .done _ (.int v) => some v
  | _ => none

-- Both interpreters, evaluated by the kernel on the concrete programs above: the same values.
set_option maxRecDepth 100000 in
example : outInt (runProgram exampleB 20).2 = some 3 := by decide +kernel
set_option maxRecDepth 100000 in
example : resInt (runN 200 (Machine.init exampleB [] none none)) = some 3 := by decide +kernel
set_option maxRecDepth 100000 in
example : outInt (runProgram exampleC 30).2 = some 13 := by decide +kernel
set_option maxRecDepth 100000 in
example : resInt (runN 300 (Machine.init exampleC [] none none)) = some 13 := by decide +kernel

end C05
