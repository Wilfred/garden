import GardenVerif.Model.Machine
import GardenVerif.Generated.Tables
import GardenVerif.Lemmas.MachineTicks
import GardenVerif.Model.TestRunner
/-!
# C25 — Sandboxed runs always finish within their step budget

Model: the evaluator machine M4 (`Machine.step` = one iteration of the loop in `eval`, src/eval.rs)
with `tickLimit` / `stackLimit` as `run_sandboxed_playground` (src/sandboxed_playground.rs) and
`sandboxed_tests_summary` (src/test_runner.rs) configure them; the configured numbers are
regenerated from those two files on every run (`Tables.sandboxConfigs`).

`bounded_run`: from EVERY state whose tick limit is `some L` — any program, any call stack, any
pending entries, with or without pending interrupts — iterating `step` reaches a terminal result
(`done`, `error` incl. `tickLimit` / `stackLimit` / `interrupted`, `panic`, `unsupported`) within
`2·(L − ticks) + frames.length + 1` steps. Reason (`MachineTicks.potential_decreases`): a step that
pops an entry increments `ticks` and the run ends when `ticks ≥ L`, so there are fewer than `L − ticks`
ticking steps; a frame-return step does not tick but removes a frame, and a frame is pushed only by a
ticking step (at most one per tick), so there are at most `frames.length + (L − ticks)` returns. The
bound does not even need the stack limit; the stack limit gives `frames_bounded`: the call stack
never exceeds `D + 1` frames (a push happens only on a tick whose check `frames.len() > D` failed).
`step` is a total Lean function: every built-in the model executes returns.

SCOPE OF THE LIMIT. `bounded_run` is a statement about ONE evaluation (`eval`); in it the limit is a
constant (`limits_constant`). A sandboxed run that evaluates SEVERAL things in sequence — `eval_tests`
over the tests of a file (`sandboxed-test` with the cursor outside every test; `playground-run` on a file
with tests) — is covered by `tests_one_budget` / `sandboxed_tests_ticks_bounded` over the runner model
`TestRunner.runTestsWith` (a transcription of `eval_tests`, src/eval.rs; the runner hook `testrun` of
src/verif_runner.rs is compared with it, including `env.ticks` at the end, by harness/c25.py and c26.py):
the tick counter is never reset and the limit never changes between tests, so the WHOLE run ticks at most
`L + #tests` times (a test started after the budget is exhausted costs the single tick on which the check
fires). A change that re-arms or extends the limit per test (`env.tick_limit = Some(env.ticks + limit)`
compounds to L·2^(n−1)) contradicts this theorem's model and is reported by the correspondence and by the
direct oracle `total ticks ≤ L + #tests` on the hook's end state.

What the model CANNOT exhibit (recorded by harness/c25.py as known findings with fixed probes, see
DESIGN §9): heap exhaustion inside the budget (`s = s ^ s` doubling: each tick is O(size of the
values)), native-stack overflow in the recursive `display`/`drop`/parser on deeply nested values or
expressions, and wall-clock time per tick. Those are probed on the real binary only.
-/
namespace C25
open Machine MachineTicks

theorem ticks_monotone (s s' : State) (h : step s = .cont s') :
    s.ticks ≤ s'.ticks ∧ s'.ticks ≤ s.ticks + 1 := by
  rcases stepWith_cont dispatch h with ⟨ht, _⟩ | ⟨ht, _⟩ <;> omega

theorem limits_constant (s s' : State) (h : step s = .cont s') :
    s'.tickLimit = s.tickLimit ∧ s'.stackLimit = s.stackLimit ∧ s'.prog = s.prog := by
  have hc := TestRunner.stepWith_static dispatch s s' (congrArg StepResult.state? h)
  exact ⟨hc.tl, hc.sl, hc.prog⟩

/-- A step that continues after popping an entry stayed strictly below the tick limit: the run
cannot continue past tick `L − 1`. -/
theorem ticks_below_limit (s s' : State) (L : Nat) (hL : s.tickLimit = some L)
    (h : step s = .cont s') : s'.ticks < L ∨ (s'.ticks = s.ticks ∧ s'.frames.length + 1 = s.frames.length) := by
  rcases stepWith_cont dispatch h with ⟨ht, hlim, _⟩ | ⟨ht, hl⟩
  · simp [hL, limitReached] at hlim; left; omega
  · right; exact ⟨ht, hl⟩

/-- **The call stack stays within the stack limit**: with `stackLimit = some D`, one step keeps
`frames.length ≤ D + 1` (a frame is pushed only by a step whose check `frames.len() > D` failed). -/
theorem frames_bounded (s s' : State) (D : Nat) (hD : s.stackLimit = some D)
    (hb : s.frames.length ≤ D + 1) (h : step s = .cont s') : s'.frames.length ≤ D + 1 := by
  rcases stepWith_cont dispatch h with ⟨_, _, hlim, _, hlen⟩ | ⟨_, hlen⟩
  · simp [hD, limitExceeded] at hlim; omega
  · omega

theorem run_invariants (n : Nat) : ∀ (s s' : State) (D : Nat), s.stackLimit = some D →
    s.frames.length ≤ D + 1 → runN n s = .cont s' →
    s'.frames.length ≤ D + 1 ∧ s.ticks ≤ s'.ticks ∧ s'.ticks ≤ s.ticks + n ∧
    s'.tickLimit = s.tickLimit ∧ s'.stackLimit = s.stackLimit := by
  induction n with
  | zero => intro s s' D hD hb h; simp [runN] at h; subst h; simp [hb]
  | succ n ih =>
    intro s s' D hD hb h
    unfold runN at h
    split at h
    · rename_i s1 hs1
      have hl := limits_constant s s1 hs1
      have ht := ticks_monotone s s1 hs1
      have hf := frames_bounded s s1 D hD hb hs1
      have := ih s1 s' D (hl.2.1.trans hD) hf h
      refine ⟨this.1, by omega, by omega, this.2.2.2.1.trans hl.1, this.2.2.2.2.trans hl.2.1⟩
    · rename_i r hr; exact absurd h (hr s')

/-- **C25 on the model.** From every state with a tick limit `L`, the run is over — value, Garden
error (tick limit, stack limit, interrupt included), or (not excluded here; see C02) panic /
leaving the fragment — after at most `2·(L − ticks) + frames.length + 1` iterations of the
evaluator loop. No hypothesis on the program, the pending entries, or pending interrupts. -/
theorem bounded_run (s : State) (L : Nat) (hL : s.tickLimit = some L) :
    StepResult.isTerminal (runN (2 * (L - s.ticks) + s.frames.length + 1) s) = true := by
  suffices H : ∀ (n : Nat) (s : State), s.tickLimit = some L → potential L s < n →
      StepResult.isTerminal (runN n s) = true from H _ s hL (by unfold potential; omega)
  intro n
  induction n with
  | zero => intro s _ h; omega
  | succ n ih =>
    intro s hL hp
    unfold runN
    split
    · rename_i s1 hs1
      have hd := potential_decreases L s s1 hL hs1
      exact ih s1 ((limits_constant s s1 hs1).1.trans hL) (by omega)
    · rename_i r hr
      cases r <;> simp [StepResult.isTerminal]
      all_goals exact absurd rfl (hr _)

set_option linter.unusedVariables false in -- `hD` is not needed
/-- The same as an existence statement with the explicit bound `B(L, D) = 2·L + D + 2`
for any state whose call stack respects the stack limit. -/
theorem bounded_run_exists (s : State) (L D : Nat) (hL : s.tickLimit = some L)
    (hD : s.stackLimit = some D) (hb : s.frames.length ≤ D + 1) :
    ∃ n, n ≤ 2 * L + D + 2 ∧ StepResult.isTerminal (runN n s) = true :=
  ⟨2 * (L - s.ticks) + s.frames.length + 1, by omega, bounded_run s L hL⟩

/-- A fresh run of ANY program under limits `L`, `D` ends within `2·L + 2` loop iterations. -/
theorem bounded_run_init (p : Program) (L D : Nat) :
    StepResult.isTerminal (runN (2 * L + 2) (init p [] (some L) (some D))) = true := by
  have := bounded_run (init p [] (some L) (some D)) L rfl
  simpa [init] using this

theorem terminal_kinds (r : StepResult) : StepResult.isTerminal r = true ↔
    (∃ s v, r = .done s v) ∨ (∃ s e, r = .error s e) ∨ (∃ m, r = .panic m) ∨ (∃ w, r = .unsupported w) := by
  cases r <;> simp [StepResult.isTerminal]

/-- **The obligation on the regenerated configuration.** Every sandboxed entry point found in the
sources (there are exactly the two the property names) sets BOTH limits before evaluating, is
wired to the CLI, and therefore every program run through it ends within `2·L + 2` iterations.
Setting a limit to `None` in src/sandboxed_playground.rs or src/test_runner.rs (or dropping an
entry point from the table) makes this theorem fail to check. -/
theorem bounded_run_tables :
    Tables.sandboxConfigs.map (·.entry) = ["playground-run", "sandboxed-test"] ∧
    ∀ c ∈ Tables.sandboxConfigs, c.setBeforeEval = true ∧ c.wired = true ∧
      ∃ L D, c.tickLimit = some L ∧ c.stackLimit = some D ∧
        ∀ p : Program, StepResult.isTerminal (runN (2 * L + 2) (init p [] c.tickLimit c.stackLimit)) = true := by
  refine ⟨by decide, ?_⟩
  intro c hc
  simp [Tables.sandboxConfigs] at hc
  rcases hc with rfl | rfl  -- the table has exactly these two rows (first conjunct)
  all_goals exact ⟨rfl, rfl, _, _, rfl, rfl, fun p => bounded_run_init p _ _⟩

/-- The limits in the regenerated table, as numbers (a change of the numbers in src/ is legitimate and
only requires this line and `sandboxed_tests_ticks_bounded`, which states its bound with the same
`100000`, to follow; a change to `None` breaks `bounded_run_tables`). -/
theorem configured_limits :
    Tables.sandboxConfigs.map (fun c => (c.tickLimit, c.stackLimit)) =
      [(some 100000, some 1000), (some 100000, some 1000)] := by decide

/-- **One budget for a whole multi-test run.** `eval_tests` (model `runTestsWith`, any dispatch
function, any fuel) over any list of tests from a state with tick limit `L`: when it returns, at most
`max ticks₀ L + #tests` ticks have been counted in total and the limit is still `L`. -/
theorem tests_one_budget (d : Program → Frame → St → Expr → Disp) (fuel L : Nat)
    (ts : List TestRunner.TestDef) (s s' : State) (vs : List (String × TestRunner.Verdict))
    (hL : s.tickLimit = some L) (h : TestRunner.runTestsWith d fuel s ts = .finished vs s') :
    s'.ticks ≤ max s.ticks L + ts.length ∧ s'.tickLimit = some L :=
  runTestsWith_ticks d fuel L ts (max s.ticks L) s s' hL (Nat.le_max_left ..) (Nat.le_max_right ..) (by rw [h]; rfl)

/-- `garden sandboxed-test file` (all tests, the configured limits): the whole run counts at most
`100000 + #tests` ticks, however many of the tests are runaway loops. -/
theorem sandboxed_tests_ticks_bounded (fuel : Nat) (p : Program) (tests : List TestRunner.TestDef)
    (vs : List (String × TestRunner.Verdict)) (s' : State)
    (h : TestRunner.sandboxedTest fuel p tests = .finished vs s') :
    s'.ticks ≤ 100000 + tests.length := by
  have := tests_one_budget TestRunner.dispatchX fuel 100000 tests
    (TestRunner.baseState p (some 100000) (some 1000)) s' vs rfl h
  simpa [TestRunner.baseState] using this.1

/-- The limits `TestRunner.sandboxedTest` uses are the ones regenerated from src/test_runner.rs. -/
theorem sandboxed_test_limits_match_tables :
    ∀ c ∈ Tables.sandboxConfigs, c.entry = "sandboxed-test" →
      c.tickLimit = some 100000 ∧ c.stackLimit = some 1000 := by decide

-- `while True {}` under limits 7 / 3: the hypotheses of `bounded_run` hold and 16 steps reach a
-- terminal result (which one is not shown).
def loopProg : Program :=
  { funs := [], enums := [], toplevel := [.whileE 2 false (.var 1 true "True") []] }
example : (init loopProg [] (some 7) (some 3)).tickLimit = some 7 := rfl
example : StepResult.isTerminal (runN 16 (init loopProg [] (some 7) (some 3))) = true :=
  bounded_run_init loopProg 7 3
end C25
