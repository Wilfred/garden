import GardenVerif.Model.Machine
/-!
`Machine.dispatch` (`eval_expr`) by node kind and entry state, every equation by unfolding. The arms of
binop, `let`, `+=`, `if`, `while`, `for`, `match` and the call test the entry's state, pop the operands
(crash if they are not there), compute, and build the result from the frame WITHOUT the popped values;
the last two stages are named (`binopBody` … `callBody`, the frame after the pop their first argument),
so that a proof treats the pop once and each computation by itself. Assignment looks the variable up
BEFORE the pop and fails with the value still on the stack; it, `return`, list and tuple have their
equations only.
-/

namespace Machine

variable (p : Program) (f : Frame) (st : St) (i : Nat) (u : Bool)

theorem dispatch_int (v : Int64) :
    dispatch p f st (.int i u v) = .ok (f.pushVIf u (.int v)) := rfl

theorem dispatch_str (t : String) :
    dispatch p f st (.str i u t) = .ok (f.pushVIf u (.str t)) := rfl

theorem dispatch_var (n : String) :
    dispatch p f st (.var i u n) =
      match getVar p f n with
      | some v => .ok (f.pushVIf u v)
      | none => .err f st [] (.noSuchVar n) := rfl

theorem dispatch_lambda (ps : List String) (body : List Expr) :
    dispatch p f st (.lambda i u ps body) = .ok (f.pushVIf u (.closure f.blocks ps body)) := rfl

theorem dispatch_paren (inner : Expr) :
    dispatch p f st (.paren i u inner) = .ok (f.pushE .N inner) := rfl

theorem dispatch_invalid :
    dispatch p f st (.invalid i u) = .err f st [] .invalidSyntax := rfl

theorem dispatch_unsup (w : String) :
    dispatch p f st (.unsup i u w) = .unsupported w := rfl


def binopBody (g : Frame) (used : Bool) (op : BinOp) (lv rv : Value) : Disp :=
  match op with
  | .eq => .ok (g.pushVIf used (vBool (valueEq lv rv)))
  | .ne => .ok (g.pushVIf used (vBool (!valueEq lv rv)))
  | .and | .or =>
    match lv.asBool, rv.asBool with
    | none, _ => .err g .E [lv, rv] (.typeError "Bool")
    | some _, none => .err g .E [lv, rv] (.typeError "Bool")
    | some a, some b => .ok (g.pushVIf used (vBool (if op == .and then a && b else a || b)))
  | .concat =>
    match lv, rv with
    | .str a, .str b => .ok (g.pushVIf used (.str (a ++ b)))
    | _, _ => .err g .E [lv, rv] (.typeError "String")
  | .floatOp => .unsupported "float operator"
  | _ =>
    match lv, rv with
    | .int a, .int b =>
      match intBinop op a b with
      | .ok v => .ok (g.pushVIf used v)
      | .err er => .err g .E [lv, rv] er
      | .panic site => .panic site
    | _, _ => .err g .E [lv, rv] (.typeError "Int")

theorem dispatch_binop_E (op : BinOp) (l r : Expr) :
    dispatch p f .E (.binop i u op l r) =
      match f.values with
      | rv :: lv :: vals => binopBody { f with values := vals } u op lv rv
      | _ => .panic "Popped an empty value stack for binary operator" := rfl

theorem dispatch_binop_of_ne {st : St} (h : st ≠ .E) (p : Program) (f : Frame) (i : Nat) (u : Bool)
    (op : BinOp) (l r : Expr) :
    dispatch p f st (.binop i u op l r) =
      .ok (((f.pushE .E (.binop i u op l r)).pushE .N r).pushE .N l) := by
  cases st <;> first | rfl | exact absurd rfl h


def letBody (g : Frame) (used : Bool) (dest : Dest) (v : Value) : Disp :=
  match dest with
  | .sym n => .ok ({ g with blocks := addNew g.blocks n v }.pushVIf used vUnit)
  | .destr names =>
    match v with
    | .tuple items =>
      if items.length != names.length then .err g .E [v] (.tupleSize names.length items.length)
      else .ok ({ g with blocks := (names.zip items).foldl (fun bs (kv : String × Value) => addNew bs kv.1 kv.2) g.blocks }.pushVIf used vUnit)
    | _ => .err g .E [v] (.typeError "Tuple")

theorem dispatch_let_E (dest : Dest) (inner : Expr) :
    dispatch p f .E (.letE i u dest inner) =
      match f.values with
      | v :: vals => letBody { f with values := vals } u dest v
      | [] => .panic "Popped an empty value stack for let value" := rfl

theorem dispatch_let_of_ne {st : St} (h : st ≠ .E) (p : Program) (f : Frame) (i : Nat) (u : Bool)
    (dest : Dest) (inner : Expr) :
    dispatch p f st (.letE i u dest inner) = .ok ((f.pushE .E (.letE i u dest inner)).pushE .N inner) := by
  cases st <;> first | rfl | exact absurd rfl h

theorem dispatch_assign_E (name : String) (inner : Expr) :
    dispatch p f .E (.assign i u name inner) =
      if (lookupBlocks f.blocks name).isNone then .err f .E [] (.notBound name)
      else match f.values with
        | v :: vals =>
          match setExisting f.blocks name v with
          | some bs => .ok ({ f with values := vals, blocks := bs }.pushVIf u vUnit)
          | none => .panic "unreachable set_existing"
        | [] => .panic "Popped an empty value stack for let value" := rfl

theorem dispatch_assign_of_ne {st : St} (h : st ≠ .E) (p : Program) (f : Frame) (i : Nat) (u : Bool)
    (name : String) (inner : Expr) :
    dispatch p f st (.assign i u name inner) = .ok ((f.pushE .E (.assign i u name inner)).pushE .N inner) := by
  cases st <;> first | rfl | exact absurd rfl h

def updateBody (g : Frame) (used : Bool) (isAdd : Bool) (name : String) (cur : Int64) (rv : Value) : Disp :=
  match rv with
  | .int d =>
    match setExisting g.blocks name (.int (if isAdd then cur + d else cur - d)) with
    | some bs => .ok ({ g with blocks := bs }.pushVIf used vUnit)
    | none => .panic "unreachable set_existing"
  | _ => .err g .E [rv] (.typeError "Int")

theorem dispatch_update_E (isAdd : Bool) (name : String) (inner : Expr) :
    dispatch p f .E (.update i u isAdd name inner) =
      match getVar p f name with
      | none => .err f .E [] (.notBound name)
      | some (.int cur) =>
        match f.values with
        | rv :: vals => updateBody { f with values := vals } u isAdd name cur rv
        | [] => .panic "Popped an empty value stack for update"
      | some _ => .err f .E [] (.typeError "Int") := rfl

theorem dispatch_update_of_ne {st : St} (h : st ≠ .E) (p : Program) (f : Frame) (i : Nat) (u : Bool)
    (isAdd : Bool) (name : String) (inner : Expr) :
    dispatch p f st (.update i u isAdd name inner) =
      .ok ((f.pushE .E (.update i u isAdd name inner)).pushE .N inner) := by
  cases st <;> first | rfl | exact absurd rfl h


theorem dispatch_ret_E (inner : Option Expr) :
    dispatch p f .E (.ret i u inner) = .ok { f with exprs := [] } := rfl

theorem dispatch_ret_of_ne {st : St} (h : st ≠ .E) (p : Program) (f : Frame) (i : Nat) (u : Bool)
    (inner : Option Expr) :
    dispatch p f st (.ret i u inner) =
      match inner with
      | some x => .ok ((f.pushE .E (.ret i u inner)).pushE .N x)
      | none => .ok ((f.pushE .E (.ret i u inner)).pushV vUnit) := by
  cases st <;> first | rfl | exact absurd rfl h

theorem dispatch_list_E (items : List Expr) :
    dispatch p f .E (.list i u items) =
      match popN items.length f.values with
      | some (got, vals) => .ok ({ f with values := vals }.pushVIf u (.list got))
      | none => .panic "Value stack should have sufficient items for the list literal" := rfl

theorem dispatch_list_of_ne {st : St} (h : st ≠ .E) (p : Program) (f : Frame) (i : Nat) (u : Bool)
    (items : List Expr) :
    dispatch p f st (.list i u items) =
      .ok (items.foldl (fun f x => f.pushE .N x) (f.pushE .E (.list i u items))) := by
  cases st <;> first | rfl | exact absurd rfl h

theorem dispatch_tuple_E (items : List Expr) :
    dispatch p f .E (.tuple i u items) =
      match popN items.length f.values with
      | some (got, vals) => .ok ({ f with values := vals }.pushVIf u (.tuple got))
      | none => .panic "Value stack should have sufficient items for the tuple literal" := rfl

theorem dispatch_tuple_of_ne {st : St} (h : st ≠ .E) (p : Program) (f : Frame) (i : Nat) (u : Bool)
    (items : List Expr) :
    dispatch p f st (.tuple i u items) =
      .ok (items.foldl (fun f x => f.pushE .N x) (f.pushE .E (.tuple i u items))) := by
  cases st <;> first | rfl | exact absurd rfl h


/-- `args` are in pop order, so `args.reverse` restores them. -/
def callBody (s : Program) (g : Frame) (callId : Nat) (used : Bool) (recv : Value) (args : List Value) : Disp :=
  match recv with
  | .closure env params body =>
    if params.length != args.length then .err g .E (recv :: args.reverse) (.arity params.length args.length)
    else
      .newFrame g { exprs := body.map (fun x => (St.N, x)), values := [vUnit],
                    blocks := (params.zip args).foldl
                      (fun b kv => if kv.1 == "_" then b else blockSet b kv.1 kv.2) ([] : Block) :: env,
                    nextBlock := [], callerUses := used, kind := .closure, callerId := some callId }
  | .fn name =>
    match s.funs.find? (fun d => d.name == name) with
    | none => .panic "function value without definition"
    | some d =>
      if d.params.length != args.length then .err g .E (recv :: args.reverse) (.arity d.params.length args.length)
      else
        .newFrame g { exprs := d.body.map (fun x => (St.N, x)), values := [vUnit],
                      blocks := [(d.params.zip args).foldl
                        (fun b kv => if kv.1 == "_" then b else blockSet b kv.1 kv.2) ([] : Block)],
                      nextBlock := [], callerUses := used, kind := .fn name, callerId := some callId }
  | .builtin name =>
    if args.length != 1 then .err g .E (recv :: args.reverse) (.arity 1 args.length)
    else match name, args with
      | "println", [.str t] => .okOut (g.pushVIf used vUnit) (t ++ "\n")
      | "print", [.str t] => .okOut (g.pushVIf used vUnit) t
      | "println", _ => .err g .E (recv :: args.reverse) (.typeError "String")
      | "print", _ => .err g .E (recv :: args.reverse) (.typeError "String")
      | "string_repr", [v] => .ok (g.pushVIf used (.str (display s v)))
      | _, _ => .unsupported ("builtin " ++ name)
  | .enumC ty idx =>
    if args.length != 1 then .err g .E (recv :: args.reverse) (.arity 1 args.length)
    else match args with
      | [a] => .ok (g.pushVIf used (.enumV ty idx (some a)))
      | _ => .panic "unreachable"
  | _ => .err g .E (recv :: args.reverse) (.typeError "Function")

theorem evalCall_eq (s : Program) (f : Frame) (callId : Nat) (used : Bool) (nargs : Nat) :
    evalCall s f callId used nargs =
      match popN nargs f.values with
      | none => .panic "Popped an empty value for stack for call arguments"
      | some (args, vals) =>
        match vals with
        | [] => .panic "Popped an empty value stack for call receiver"
        | recv :: vals => callBody s { f with values := vals } callId used recv args := rfl

theorem dispatch_call_N (recv : Expr) (args : List Expr) :
    dispatch p f .N (.call i u recv args) = .ok ((f.pushE .PN (.call i u recv args)).pushE .N recv) := rfl

theorem dispatch_call_E (recv : Expr) (args : List Expr) :
    dispatch p f .E (.call i u recv args) = evalCall p f i u args.length := rfl

theorem dispatch_call_args {st : St} (hN : st ≠ .N) (hE : st ≠ .E) (p : Program) (f : Frame) (i : Nat)
    (u : Bool) (recv : Expr) (args : List Expr) :
    dispatch p f st (.call i u recv args) =
      .ok (args.foldl (fun f x => f.pushE .N x) (f.pushE .E (.call i u recv args))) := by
  cases st <;> first | rfl | exact absurd rfl hN | exact absurd rfl hE


/-- The continuations that run when a block has been left: `if`, `for`, `match` in state E, `while`,
`for` in state PD (wider than `ownsBlock`). -/
def afterBlock (f : Frame) (k : Frame → Frame) : Disp :=
  match popBlock f with
  | none => .panic "pop_block: bindings empty"
  | some f => .ok (k f)

theorem dispatch_if_N (c : Expr) (thn : List Expr) (els : Option (List Expr)) :
    dispatch p f .N (.ifE i u c thn els) = .ok ((f.pushE .PW (.ifE i u c thn els)).pushE .N c) := rfl

theorem dispatch_if_E (c : Expr) (thn : List Expr) (els : Option (List Expr)) :
    dispatch p f .E (.ifE i u c thn els) = afterBlock f fun f => f.pushVIf (u && els.isNone) vUnit := rfl

def ifBody (g : Frame) (st : St) (e : Expr) (used : Bool) (thn : List Expr) (els : Option (List Expr))
    (cv : Value) : Disp :=
  match cv.asBool with
  | none => .err g st [cv] (.typeError "Bool")
  | some b =>
    if b then .ok (evalBlock (g.pushE .E e) (used && els.isSome) thn)
    else match els with
      | some eb => .ok (evalBlock (g.pushE .E e) (used && els.isSome) eb)
      | none => .ok { g.pushE .E e with blocks := [] :: (g.pushE .E e).blocks }

theorem dispatch_if_run {st : St} (hN : st ≠ .N) (hE : st ≠ .E) (p : Program) (f : Frame) (i : Nat)
    (u : Bool) (c : Expr) (thn : List Expr) (els : Option (List Expr)) :
    dispatch p f st (.ifE i u c thn els) =
      match f.values with
      | cv :: vals => ifBody { f with values := vals } st (.ifE i u c thn els) u thn els cv
      | [] => .panic "Popped an empty value stack for if condition" := by
  cases st <;> first | rfl | exact absurd rfl hN | exact absurd rfl hE

theorem dispatch_while_N (c : Expr) (body : List Expr) :
    dispatch p f .N (.whileE i u c body) = .ok ((f.pushE .PW (.whileE i u c body)).pushE .N c) := rfl

def whileBody (g : Frame) (e : Expr) (used : Bool) (body : List Expr) (cv : Value) : Disp :=
  match cv.asBool with
  | none => .err g .PW [cv] (.typeError "Bool")
  | some true => .ok (evalBlock (g.pushE .PD e) false body)
  | some false => .ok ((g.pushE .E e).pushVIf used vUnit)

theorem dispatch_while_PW (c : Expr) (body : List Expr) :
    dispatch p f .PW (.whileE i u c body) =
      match f.values with
      | cv :: vals => whileBody { f with values := vals } (.whileE i u c body) u body cv
      | [] => .panic "Popped an empty value stack for while loop" := rfl

theorem dispatch_while_PD (c : Expr) (body : List Expr) :
    dispatch p f .PD (.whileE i u c body) =
      afterBlock f fun f => (f.pushE .PW (.whileE i u c body)).pushE .N c := rfl

theorem dispatch_while_PN (c : Expr) (body : List Expr) :
    dispatch p f .PN (.whileE i u c body) = .panic "unreachable: While in NotBlock" := rfl

theorem dispatch_while_E (c : Expr) (body : List Expr) :
    dispatch p f .E (.whileE i u c body) = .ok f := rfl

theorem dispatch_for_N (dest : Dest) (iter : Expr) (body : List Expr) :
    dispatch p f .N (.forE i u dest iter body) =
      .ok (((f.pushV (.int 0)).pushE .PW (.forE i u dest iter body)).pushE .N iter) := rfl

def forBody (g : Frame) (e : Expr) (used : Bool) (dest : Dest) (body : List Expr) (iv idxv : Value) : Disp :=
  match idxv with
  | .int idx =>
    match iv with
    | .list items =>
      if idx.toInt.toNat ≥ items.length ∨ idx.toInt < 0 then
        .ok (({ g with blocks := [] :: g.blocks }.pushE .E e).pushVIf used vUnit)
      else
        match items[idx.toInt.toNat]? with
        | none => .panic "unreachable index"
        | some elem =>
          match bindDest dest elem with
          | .error er => .err g .PW [idxv, iv] er
          | .ok bs =>
            .ok (evalBlock { ((g.pushE .PD e).pushV (.int (idx + 1))).pushV iv with nextBlock := bs } false body)
    | _ => .err g .PW [idxv, iv] (.typeError "List")
  | _ => .panic "`for` loop index should always be an `Int`"

theorem dispatch_for_PW (dest : Dest) (iter : Expr) (body : List Expr) :
    dispatch p f .PW (.forE i u dest iter body) =
      match f.values with
      | iv :: idxv :: vals => forBody { f with values := vals } (.forE i u dest iter body) u dest body iv idxv
      | _ => .panic "Popped an empty value stack for `for` loop" := rfl

theorem dispatch_for_PD (dest : Dest) (iter : Expr) (body : List Expr) :
    dispatch p f .PD (.forE i u dest iter body) =
      afterBlock f fun f => f.pushE .PW (.forE i u dest iter body) := rfl

theorem dispatch_for_PN (dest : Dest) (iter : Expr) (body : List Expr) :
    dispatch p f .PN (.forE i u dest iter body) = .panic "unreachable: ForIn in NotBlock" := rfl

theorem dispatch_for_E (dest : Dest) (iter : Expr) (body : List Expr) :
    dispatch p f .E (.forE i u dest iter body) = afterBlock f id := rfl

theorem dispatch_match_N (scrut : Expr) (cases : List Case) :
    dispatch p f .N (.matchE i u scrut cases) = .ok ((f.pushE .PW (.matchE i u scrut cases)).pushE .N scrut) := rfl

theorem dispatch_match_E (scrut : Expr) (cases : List Case) :
    dispatch p f .E (.matchE i u scrut cases) = afterBlock f id := rfl

def matchBody (s : Program) (g : Frame) (st : St) (e : Expr) (used : Bool) (cases : List Case)
    (sv : Value) : Disp :=
  match sv with
  | .enumV ty idx payload =>
    match matchCases s (g.pushE .E e) used ty idx payload cases with
    | .ok f => .ok f
    | .error er => .err g st [sv] er
  | _ => .err g st [sv] .notEnum

theorem dispatch_match_run {st : St} (hN : st ≠ .N) (hE : st ≠ .E) (p : Program) (f : Frame) (i : Nat)
    (u : Bool) (scrut : Expr) (cases : List Case) :
    dispatch p f st (.matchE i u scrut cases) =
      match f.values with
      | sv :: vals => matchBody p { f with values := vals } st (.matchE i u scrut cases) u cases sv
      | [] => .panic "Popped an empty value stack for match" := by
  cases st <;> first | rfl | exact absurd rfl hN | exact absurd rfl hE


theorem dispatch_brk :
    dispatch p f st (.brk i u) =
      match evalBreakLoop f.exprs f.values f.blocks with
      | none => .panic "eval_break: value or block stack underflow"
      | some (exprs, vals, blocks) =>
        .ok ({ f with exprs := exprs, values := vals, blocks := blocks }.pushVIf
          (match exprs with | (_, l) :: _ => l.isLoop && l.used | [] => false) vUnit) := rfl

theorem dispatch_cont :
    dispatch p f st (.cont i u) =
      match evalContinueLoop f.exprs f.values f.blocks with
      | none => .panic "eval_continue: value or block stack underflow"
      | some (exprs, vals, blocks) => .ok { f with exprs := exprs, values := vals, blocks := blocks } := rfl

theorem evalBreakLoop_other {e : Expr} (h : e.isLoop = false) (st : St) (rest : List (St × Expr))
    (vals : List Value) (blocks : List Block) :
    evalBreakLoop ((st, e) :: rest) vals blocks =
      if ownsBlock st e then
        match popBlocks1 blocks with
        | some bs => evalBreakLoop rest vals bs
        | none => none
      else evalBreakLoop rest vals blocks := by
  cases e <;> first | rfl | cases h

theorem evalContinueLoop_other {e : Expr} (h : e.isLoop = false) (st : St) (rest : List (St × Expr))
    (vals : List Value) (blocks : List Block) :
    evalContinueLoop ((st, e) :: rest) vals blocks =
      if ownsBlock st e then
        match popBlocks1 blocks with
        | some bs => evalContinueLoop rest vals bs
        | none => none
      else evalContinueLoop rest vals blocks := by
  cases e <;> first | rfl | cases h

theorem evalContinueLoop_while (c : Expr) (body : List Expr)
    (rest : List (St × Expr)) (vals : List Value) (blocks : List Block) :
    evalContinueLoop ((st, .whileE i u c body) :: rest) vals blocks =
      if st == St.N then evalContinueLoop rest vals blocks
      else some ((st, .whileE i u c body) :: rest, vals, blocks) := by
  cases st <;> rfl

theorem evalContinueLoop_for (dest : Dest) (iter : Expr) (body : List Expr)
    (rest : List (St × Expr)) (vals : List Value) (blocks : List Block) :
    evalContinueLoop ((st, .forE i u dest iter body) :: rest) vals blocks =
      if st == St.N then evalContinueLoop rest vals blocks
      else if st == St.PW then
        match vals with
        | _ :: vals' => evalContinueLoop rest vals' blocks
        | [] => none
      else some ((st, .forE i u dest iter body) :: rest, vals, blocks) := by
  cases st <;> rfl

end Machine
