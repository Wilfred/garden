import GardenVerif.Lemmas.StringLit
import GardenVerif.Lemmas.Display
/-!
# C12 — Printed values read back as equal values

Models: `StringLit` (escape_string_literal, STRING_RE, unescape_string) and `Display`
(Value::display and a reader for the literal fragment), tied to the Rust by harness/c12.py.
`scanString` is the deterministic scanner for `STRING_RE = ^"(\\.|[^"])*("|\z)`, the regex with
patches/strings-fix-string-re.diff applied; `scanStringOld` is the same for the pinned tree's
`^"(\\"|[^"])*("|\z)`, in which only `\"` is an escape.

The theorems up to `fuel_bound` restate lemmas of Lemmas/StringLit.lean and Lemmas/Display.lean, where
`wf`, `need`, `okRest` are defined.
-/
namespace C12
open StringLit Display

/-- Reading the printed form of a string gives the string back, with no diagnostics. -/
theorem unescape_escape (s : List Char) :
    unescapeString (escapeStringLiteral s) = some (s, 0) :=
  unescapeString_escape s

example : unescapeString (escapeStringLiteral ['a', '\\', '"', '\n', '\t', 'é']) =
    some (['a', '\\', '"', '\n', '\t', 'é'], 0) := unescape_escape _

/-- The regex matches exactly the printed literal, whatever follows it. -/
theorem scan_escape (s rest : List Char) :
    scanString (escapeStringLiteral s ++ rest) = some (escapeStringLiteral s).length :=
  scanString_escape s rest

/-- … and the lexer makes exactly that text the token, without "Unclosed string literal.". -/
theorem lex_escape (s rest : List Char) :
    lexString (escapeStringLiteral s ++ rest) = some (escapeStringLiteral s, false) :=
  lexString_escape s rest

example : lexString (escapeStringLiteral ['a', '\\'] ++ " \"b\"".toList) =
    some ("\"a\\\\\"".toList, false) := lex_escape _ _

/-- With only `\"` as an escape the regex does not have this property: the printed form of `a\`
followed by another string literal is scanned as the 7-character match `"a\\" "`, which runs on to the
opening quote of the next literal, instead of the 5-character literal. -/
theorem scan_escape_fails_on_pinned_regex :
    ∃ s rest, scanStringOld (escapeStringLiteral s ++ rest) ≠ some (escapeStringLiteral s).length :=
  ⟨['a', '\\'], " \"b\"".toList, by decide⟩

/-! ## Values

`wf sig v` says which values exist at run time for signature `sig`. `FloatRepr F` is the assumption
about Rust's `{}` / `parse`, made of EVERY element of `F` (it prints as `-?digits.digits` and parses
back), and `wf` puts no condition on a float: `F` stands for the finite floats only, there is no
`FloatRepr` for all of `f64`. The one instance constructed here is the one-point `unitFloat`. -/

/-- The reader, started anywhere a printed value can stand (`okRest`), with any fuel `≥ need v`, reads
exactly the printed text and returns the value. -/
theorem display_read {F} (fr : FloatRepr F) (sig : Sig) (v : DValue F) (hw : wf sig v)
    (fuel : Nat) (rest : List Char) (hf : need v ≤ fuel) (hr : okRest rest = true) :
    readValue fr.toFloatOps sig fuel (display fr.shw v ++ rest) = some (v, rest) :=
  readValue_display fr sig v hw fuel rest hf hr

/-- Printed values read back as equal values: lexing, parsing and evaluating (the model of) the
text that `display` prints gives the original value — for all integers, strings, lists, tuples
(0-, 1- and n-tuples), dicts, enum values with and without payload, structs, nested to any
depth, and the floats of a type `F` with a `FloatRepr` (finite floats, see above). -/
theorem display_roundtrip {F} (fr : FloatRepr F) (sig : Sig) (v : DValue F) (hw : wf sig v) :
    readTop fr.toFloatOps sig (display fr.shw v) = some v :=
  readTop_display fr sig v hw

/-- The fuel bound used by `readTop`. -/
theorem fuel_bound {F} (fr : FloatRepr F) (sig : Sig) (v : DValue F) (hw : wf sig v) :
    need v ≤ (display fr.shw v).length :=
  need_le_length fr sig v hw

/-- `FloatRepr` is satisfiable (a one-point float type printing as `0.0`). -/
def unitFloat : FloatRepr Unit where
  shw _ := ['0', '.', '0']
  read _ := some ()
  neg _ := false
  ipart _ := ['0']
  fpart _ := ['0']
  shape _ := rfl
  ipart_digits _ := by decide
  fpart_digits _ := by decide
  read_shw _ := rfl

def exampleSig : Sig where
  variant := preludeVariant
  structFields n := if n = "Pt".toList then some ["a".toList] else none

/-- A non-trivial well-formed value: `(-5, "a\\", Dict["" => None, "a\\" => Some([])], Pt{ a: (1,) })`. -/
def exampleValue : DValue Unit :=
  .tuple [.int (-5), .str ['a', '\\'],
          .dict [([], .enum0 "None".toList), (['a', '\\'], .enum1 "Some".toList (.list []))],
          .struct "Pt".toList [("a".toList, .tuple [.int 1])]]

theorem exampleValue_wf : wf exampleSig exampleValue := by
  simp only [exampleValue, wf, wfItems, wfPairs, ascending, List.map, and_true, true_and]
  exact ⟨by decide, ⟨by decide, by decide⟩, by decide, by decide, ⟨["a".toList], by decide⟩,
    by decide, by decide⟩

example : readTop unitFloat.toFloatOps exampleSig (display unitFloat.shw exampleValue) = some exampleValue :=
  display_roundtrip unitFloat exampleSig exampleValue exampleValue_wf

end C12
