import GardenVerif.Lemmas.Nrepl
/-!
# C30 — nREPL delivers one final `done` per request, after all its output

Model: M10 (`Model/Nrepl.lean`), an interleaving transition system of the reader, the session
workers and the output flushers at the granularity of the Rust's channel / atomic / mutex
operations.  `Nrepl.Inv` (`Lemmas/Nrepl.lean`) is an *inductive invariant*: it holds initially and
is preserved by every transition, whatever the label (so for every client, every program, every
interleaving; no bound on steps, requests, sessions or output).  The property's first two sentences
are corollaries; the third (`sessions_isolated`) holds of every single step, invariant or not.

Safety only.  That `done` is eventually sent needs the eval to finish (C02/C25 are premises) and
fair scheduling; what is proved is: once the worker has sent the last element of `responses`
for `r` (request state `finished`), exactly one `done r` is in the queue and it is last.
Request ids are the reader's message counter: the client is assumed not to reuse ids.
-/

namespace C30
open Nrepl

theorem inv_init : Inv init := Inv_init

theorem inv_step (s s' : State) (l : Label) (h : Inv s) (hs : step s l = some s') : Inv s' :=
  Inv_step h hs

theorem inv_reachable (s : State) (h : Reachable s) : Inv s := Inv_reachable h

def NoDone (r : Nat) (q : List Msg) : Prop := ∀ m ∈ q, m.rid = r → m.isDone = false

def OneDoneLast (r : Nat) (q : List Msg) : Prop :=
  ∃ pre st post, q = pre ++ Msg.done r st :: post ∧ NoDone r pre ∧ ∀ m ∈ post, m.rid ≠ r

theorem phase_char (r : Nat) (q : List Msg) :
    (phase r q = .open → NoDone r q) ∧ (phase r q = .closed → OneDoneLast r q) :=
  ⟨fun h => ((foldl_phase r q .open).1 h).2,
   fun h => ((foldl_phase r q .open).2 h).elim (fun h => nomatch h.1) (·.2)⟩

theorem RInv_phase {s : State} {r : Nat} (h : RInv s r) :
    phase r s.respQ = .open ∨ s.rstat r = .finished ∧ phase r s.respQ = .closed := by
  unfold RInv at h
  split at h <;> simp_all

/-- **Sentence 1.** In every reachable state and for every request id: either no `done` with
that id has been sent yet, or exactly one has and it is the last message with that id. -/
theorem one_done_last (s : State) (h : Reachable s) (r : Nat) :
    NoDone r s.respQ ∨ OneDoneLast r s.respQ :=
  (RInv_phase ((Inv_reachable h).req r)).imp (phase_char r _).1 fun hp => (phase_char r _).2 hp.2

/-- Safety form of "every request gets a `done`": once the handling of `r` has ended (the reader
sent its reply, or the worker sent the last element of `responses`), exactly one `done r` is in
the queue and it is last. -/
theorem finished_has_one_done (s : State) (h : Reachable s) (r : Nat)
    (hf : s.rstat r = .finished) : OneDoneLast r s.respQ := by
  have := (Inv_reachable h).req r
  unfold RInv at this
  simp only [hf] at this
  exact (phase_char r _).2 this.1

theorem done_finished {s : State} (h : Inv s) {r : Nat} {st : Status}
    (hd : Msg.done r st ∈ s.respQ) : s.rstat r = .finished :=
  ((RInv_phase (h.req r)).resolve_left fun hp => by
    have := (phase_char r _).1 hp _ hd rfl
    simp [Msg.isDone] at this).1

/-- **Sentence 2, accounting part.** While `r` is being handled, everything its eval has
printed is, per stream and in order: delivered chunks, then what the flusher holds in flight, then
what the final drain holds in flight, then the buffer — nothing lost, duplicated or reordered. -/
theorem nothing_lost (s : State) (h : Reachable s) (r i : Nat) (k : Stream)
    (ha : s.rstat r = .active i) :
    s.produced k r =
      deliv k r s.respQ ++ inflF k (s.sess i).fpc ++ inflW k (s.sess i).wpc ++ (s.sess i).buf k := by
  have := (Inv_reachable h).req r
  unfold RInv at this
  simp only [ha] at this
  exact this.2.2 k

/-- **Sentence 2.** If `done r` is in the queue, then the `out` (`err`) chunks with id `r`
*before it* concatenate to exactly what the eval printed on that stream (and nothing with id `r`
follows it). -/
theorem output_complete_before_done (s : State) (h : Reachable s) (r : Nat) (st : Status)
    (pre post : List Msg) (hq : s.respQ = pre ++ Msg.done r st :: post) (k : Stream) :
    deliv k r pre = s.produced k r ∧ ∀ m ∈ post, m.rid ≠ r := by
  have hI := Inv_reachable h
  have hf : s.rstat r = .finished := done_finished hI (st := st) (by rw [hq]; simp)
  have hreq := hI.req r
  unfold RInv at hreq
  simp only [hf] at hreq
  have hph := hreq.1
  rw [hq] at hph
  unfold phase at hph
  rw [List.foldl_append, List.foldl_cons] at hph
  have hne : stepPhase r (List.foldl (stepPhase r) .open pre) (Msg.done r st) ≠ .open := by
    cases List.foldl (stepPhase r) Phase.open pre <;> simp [stepPhase, Msg.rid, Msg.isDone]
  -- read the automaton on `post`, from the state after `done r st`, which is not `open`
  have hpost := ((foldl_phase r post _).2 hph).elim (·.2) (fun h => absurd h.1 hne)
  refine ⟨?_, hpost⟩
  rw [hreq.2 k, hq, deliv_append]
  simp [deliv, chunkOf, deliv_none k r post hpost]

/-- **Sentence 2, quiescence.** Once `done r` is in the queue no worker holds `r` and no flusher
runs for `r`. -/
theorem done_quiescent (s : State) (h : Reachable s) (r : Nat) (st : Status)
    (hd : Msg.done r st ∈ s.respQ) (i : Nat) :
    cur (s.sess i).wpc ≠ some r ∧ fRid (s.sess i).fpc ≠ some r := by
  have hI := Inv_reachable h
  have hf := done_finished hI hd
  have hc : cur (s.sess i).wpc ≠ some r := by
    intro hc
    have := (hI.sess i).curr r hc
    rw [hf] at this; cases this
  exact ⟨hc, fun hfr => hc (((hI.sess i).pc.of_fRid hfr).1)⟩

/-- **Sentence 3.** A transition changes the definitions of session `j` only if it is an
evaluation step *of session `j`* that defines something, or a `clone` (the hypothesis excludes every
`clone`, although only the one that creates `j` writes `j`'s record). -/
theorem sessions_isolated (s s' : State) (l : Label) (hs : step s l = some s') (j : Nat)
    (hl : ∀ x v, l ≠ .wAct j (.define x v)) (hc : l ≠ .client .clone) :
    (s'.sess j).defs = (s.sess j).defs := by
  rcases step_sess hs j with h | ⟨_, _, _, hss, -⟩ | ⟨h, -⟩
  · exact (step_own h hs).2.1.resolve_right fun ⟨x, v, h⟩ => hl x v h
  · rw [hss]
  · exact absurd h hc

-- one request that prints `a` and evaluates to `1`: the flusher delivers the chunk before `done`
example : (run init [.client .clone, .client (.evalLike 1 .eval), .wDequeue 1, .wReset 1,
      .wStart 1 (.ok none), .wSpawn 1, .wTest 1, .wAct 1 (.print .out ['a']), .fTakeOut 1,
      .wFinish 1 (.lit ['1']), .wStop 1, .fSendOut 1, .fTakeErr 1, .fSendErr 1, .fStop 1, .wJoin 1,
      .wTakeOut 1, .wSendOut 1, .wTakeErr 1, .wSendErr 1, .wSend 1, .wSend 1]).map (·.respQ) =
    some [.done 0 (.newSession 1), .chunk .out 1 ['a'], .res 1 (.value ['1']), .done 1 .ok] := by
  decide +kernel

end C30
