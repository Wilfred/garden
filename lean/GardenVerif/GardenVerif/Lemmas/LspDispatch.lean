import GardenVerif.Model.LspDispatch
/-!
Helper lemmas for C28 about the LSP dispatch model (`Model/LspDispatch.lean`). `handle_cases` is the
one split of `handle` (not an envelope / no method / unknown method / known method) that the
per-step lemmas go through: what one step answers and when it stops. `run_cons` and
`run_exited_start` unfold the `run` loop for the inductions in C28.
-/

namespace LspDispatch

theorem lookup_name {tbl : List LspMethod} {n : String} {e : LspMethod}
    (h : lookup tbl n = some e) : e.name = n := by
  unfold lookup at h
  have := List.find?_some h
  simpa using this

theorem lookup_mem {tbl : List LspMethod} {n : String} {e : LspMethod}
    (h : lookup tbl n = some e) : e ∈ tbl := by
  unfold lookup at h
  exact List.mem_of_find?_eq_some h

theorem wf_exit {tbl : List LspMethod} (wf : wfTable tbl = true) {e : LspMethod}
    (he : e ∈ tbl) (hk : e.kind = .exit) : e.name = "exit" := by
  unfold wfTable at wf
  simp only [Bool.and_eq_true, List.all_eq_true] at wf
  have := wf.1.1 e he
  simp [hk] at this
  exact this

theorem wf_has_exit {tbl : List LspMethod} (wf : wfTable tbl = true) :
    ∃ e, lookup tbl "exit" = some e ∧ e.kind = .exit := by
  unfold wfTable at wf
  simp only [Bool.and_eq_true] at wf
  have h := wf.1.2
  cases hl : lookup tbl "exit" with
  | none => simp [hl] at h
  | some e => simp [hl] at h; exact ⟨e, rfl, h⟩

theorem gardenMethods_wf : wfTable gardenMethods = true := by decide +kernel

theorem answer_respId (st : State) (e : LspMethod) (i : Id) (p : Params) :
    ∃ r, answer st e i p = .response i r := by
  unfold answer
  split
  · exact ⟨_, rfl⟩
  · exact ⟨_, rfl⟩
  · split
    · split
      · exact ⟨_, rfl⟩
      · split <;> exact ⟨_, rfl⟩
    · exact ⟨_, rfl⟩

theorem responseIds_append (a b : List Out) :
    responseIds (a ++ b) = responseIds a ++ responseIds b := by
  simp [responseIds]

theorem handleKnown_responseIds (st : State) (e : LspMethod) (m : Msg) :
    responseIds (handleKnown st e m).2 = (if e.isRequest then m.id else none).toList := by
  obtain ⟨n, k, d⟩ := e
  have ha := answer_respId st ⟨n, .request, d⟩
  unfold handleKnown
  cases k <;> simp only [LspMethod.isRequest] <;>
    first
    | (cases hi : m.id with
       | none => simp [responseIds, Out.respId?]
       | some i => obtain ⟨r, hr⟩ := ha i m.params; simp [responseIds, Out.respId?, hr])
    | (cases hs : m.sync <;> simp [responseIds, Out.respId?])
    | simp [responseIds, Out.respId?]

theorem handle_cases {P : State × List Out → Prop} (tbl : List LspMethod) (st : State) (m : Msg)
    (bad : m.envelopeOk = false →
      P (st, (m.rawId.map fun i => Out.response i (.error .invalidRequest)).toList))
    (noMethod : m.envelopeOk = true → m.method = none → P (st, []))
    (unknown : ∀ name, m.envelopeOk = true → m.method = some name → lookup tbl name = none →
      P (st, (m.id.map fun i => Out.response i (.error .methodNotFound)).toList))
    (known : ∀ name e, m.envelopeOk = true → m.method = some name → lookup tbl name = some e →
      P (handleKnown st e m)) : P (handle tbl st m) := by
  unfold handle
  cases hE : m.envelopeOk with
  | false =>
    simp only [Bool.not_false, ↓reduceIte]
    have := bad hE
    cases hr : m.rawId <;> simpa [hr] using this
  | true =>
    simp only [Bool.not_true, Bool.false_eq_true, ↓reduceIte]
    cases hm : m.method with
    | none => exact noMethod hE hm
    | some name =>
      simp only
      cases hl : lookup tbl name with
      | none =>
        have := unknown name hE hm hl
        cases hi : m.id <;> simpa [hi] using this
      | some e => exact known name e hE hm hl

theorem handle_responseIds (tbl : List LspMethod) (st : State) (m : Msg) :
    responseIds (handle tbl st m).2 = (expectedId tbl m).toList := by
  refine handle_cases (P := fun x => responseIds x.2 = (expectedId tbl m).toList) tbl st m
    (fun hE => ?_) (fun hE hm => ?_) (fun name hE hm hl => ?_) (fun name e hE hm hl => ?_)
  · cases hr : m.rawId <;> simp [expectedId, hE, hr, responseIds, Out.respId?]
  · simp [expectedId, hE, hm, responseIds]
  · cases hi : m.id <;> simp [expectedId, hE, hm, hl, hi, responseIds, Out.respId?]
  · simpa [expectedId, hE, hm, hl] using handleKnown_responseIds st e m

theorem handleKnown_flags (st : State) (e : LspMethod) (m : Msg) :
    (handleKnown st e m).1.exited =
      (if e.kind == .exit then some (if st.shutdown then 0 else 1) else st.exited) ∧
    (handleKnown st e m).1.shutdown = (st.shutdown || e.kind == .shutdown) := by
  obtain ⟨n, k, d⟩ := e
  unfold handleKnown
  cases k <;> simp only [] <;> cases m.id <;> cases m.sync <;> simp [State.insert, State.remove]

theorem handle_exited (tbl : List LspMethod) (st : State) (m : Msg) :
    (handle tbl st m).1.exited =
      if isExit tbl m then some (if st.shutdown then 0 else 1) else st.exited := by
  refine handle_cases (P := fun x => x.1.exited =
      if isExit tbl m then some (if st.shutdown then 0 else 1) else st.exited) tbl st m
    (fun hE => ?_) (fun hE hm => ?_) (fun name hE hm hl => ?_) (fun name e hE hm hl => ?_)
  · simp [isExit, hE]
  · simp [isExit, hm]
  · simp [isExit, hm, hl]
  · simpa [isExit, hE, hm, hl] using (handleKnown_flags st e m).1

theorem run_exited_start (tbl : List LspMethod) (st : State) (ms : List Msg)
    (h : st.exited.isSome = true) : run tbl st ms = (st, []) := by
  cases ms <;> simp [run, h]

theorem run_cons (tbl : List LspMethod) (st : State) (m : Msg) (ms : List Msg)
    (h : st.exited = none) :
    run tbl st (m :: ms) =
      ((run tbl (handle tbl st m).1 ms).1,
       (handle tbl st m).2 ++ (run tbl (handle tbl st m).1 ms).2) := by
  simp [run, h]

end LspDispatch
