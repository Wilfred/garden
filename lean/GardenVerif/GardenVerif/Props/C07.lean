import GardenVerif.Model.Resume
import GardenVerif.Props.C08
import GardenVerif.Lemmas.MachineDispatch
import GardenVerif.Generated.Tables
/-!
C07 — Resuming after a runtime error reproduces the same error.

Model: M4 (`Machine.step`, src/eval.rs) + the session's `:resume` (= `eval` on the stack as it
is, `Resume.resume`). A runtime error makes `eval` push back ("restore") the values the failed
step popped and the entry it popped (`restore_stack_frame`).

* `error_restore_fixpoint`: if the restore puts the call stack back exactly as it was before the
  failed step (`RestoresExactly`), the next step fails with the same error and restores exactly
  again; `resume_any_number`: hence ANY number of `:resume`s answer with the same error, at the
  same node, with the failed step applied to the same receiver and arguments (the frames are equal).
* `every_site_restores`: EVERY error site of `Machine.dispatch` (operators, let / assign / update,
  variable lookup, `if` / `while` / `for` / `match`, calls of closures, functions, enum constructors,
  built-ins, non-callables) hands `restore` exactly what it popped (`SiteRestores`, at the level of
  `dispatch`); `step_restores_of_site` lifts this to `RestoresExactly` of the step, hence
  `resume_same_error`: after ANY error step of the machine, any number of `:resume`s answer with the
  same error and an unchanged call stack. The examples `1 + "a"`, `println(1)`, `"a"(println)`,
  `if 1 {2}`, `match 1 {…}`, `for x in 1 {…}`, `for (a, b) in [1] {…}` exercise the error sites of
  operators, built-in calls, non-callables, `if`, `match` and `for`.
  For the built-in arms outside the model the table `Tables.builtinArms[*].restoreShapes`, which is
  regenerated from src/eval.rs on every run (DESIGN.md §3, tie "T"), is checked by `decide`
  (`builtin_arms_restore_shape`).
-/

namespace C07
open Machine Resume

/-- A JSON session has no tick limit; no interrupt is pending or scheduled. -/
def Calm (s : State) : Prop := s.tickLimit = none ∧ C08.quiet s

/-- The error step `s → s'` put the call stack back exactly as it was. (Output, program, limits are
untouched by an error step: `Machine.step_error`; ticks advance.) -/
def RestoresExactly (s s' : State) : Prop := s'.frames = s.frames

theorem calm_step {s s' : State} (hc : Calm s) (h : (step s).state? = some s') : Calm s' :=
  ⟨(C08.tickLimit_step s s' h).trans hc.1, C08.quiet_step s s' hc.2 h⟩

/-- **Fixpoint.** After an error step that restored exactly, the next step (what `:resume` runs
first) fails with the same error, and again restores exactly. -/
theorem error_restore_fixpoint (s s' : State) (e : Err) (hc : Calm s)
    (h : step s = .error s' e) (hr : RestoresExactly s s') :
    ∃ s'', step s' = .error s'' e ∧ RestoresExactly s' s'' ∧ Calm s'' := by
  have hc' : Calm s' := calm_step hc (by rw [h]; rfl)
  -- `s` and `s'` differ in the tick counter only, which a calm session does not look at; C08's `step_sim`
  -- is "equal up to ticks, flag and schedule, no refusal: same step". `Calm` is needed: with a tick limit
  -- or a scheduled interrupt the later tick may be refused (`tickLimit`, `interrupted`) instead
  have hcore : C08.core s = C08.core s' := by
    obtain ⟨fr, rfl⟩ := step_error h
    exact (C08.core_eq_iff _ _).mpr ⟨rfl, hr.symm, rfl, rfl, rfl, rfl⟩
  have sim := C08.step_sim s s' hcore hc.1 (C08.quiet_not_fires s hc.2) (C08.quiet_not_fires s' hc'.2)
  rw [h, C08.mapState_eq] at sim
  obtain ⟨s'', hs, h1⟩ := TestRunner.mapState_inv sim.symm
  exact ⟨s'', hs, ((C08.core_eq_iff _ _).mp h1).2.1, calm_step hc' (by rw [hs]; rfl)⟩

/-- **Any number of `:resume`s.** Every response of `eval`, `:resume` × k on the restored state
is the same error, and the call stack (entry, receiver, arguments, everything) is the one the
first failure saw. -/
theorem resume_any_number (fuel : Nat) (e : Err) : ∀ (k : Nat) (s s' : State), Calm s →
    step s = .error s' e → RestoresExactly s s' →
    ∀ o ∈ resumes (fuel + 1) k s', ∃ s'', o = .error s'' e ∧ s''.frames = s.frames := by
  intro k
  induction k with
  | zero =>
    intro s s' hc h hr o ho
    obtain ⟨s'', h1, h2, _⟩ := error_restore_fixpoint s s' e hc h hr
    simp [resumes, Resume.eval, h1] at ho
    exact ⟨s'', ho, by rw [h2, hr]⟩
  | succ k ih =>
    intro s s' hc h hr o ho
    obtain ⟨s'', h1, h2, h3⟩ := error_restore_fixpoint s s' e hc h hr
    simp [resumes, Resume.eval, h1] at ho
    rcases ho with ho | ho
    · exact ⟨s'', ho, by rw [h2, hr]⟩
    · obtain ⟨t, ht1, ht2⟩ := ih s' s'' (calm_step hc (by rw [h]; rfl)) h1 h2 o ho
      exact ⟨t, ht1, by rw [ht2, hr]⟩

/-- `f`: the current frame after the entry `(st, e)` was popped. -/
def SiteRestores (p : Program) (f : Frame) (st : St) (e : Expr) : Prop :=
  ∀ f' st' vals er, dispatch p f st e = .err f' st' vals er → restore f' st' e vals = f.pushE st e

/-- If the entry on top restores exactly at the `dispatch` level, the error step does at the
`step` level (the interrupt and limit errors pop nothing). -/
theorem step_restores_of_site (s s' : State) (er : Err) (h : step s = .error s' er)
    (hs : ∀ f callers st e rest, s.frames = f :: callers → f.exprs = (st, e) :: rest →
      SiteRestores s.prog { f with exprs := rest } st e) : RestoresExactly s s' := by
  obtain ⟨f, callers, st, e, rest, hf, he, rfl | ⟨f', st', vals, hd, rfl⟩⟩ := step_error_inv h
  · rfl
  · have horig : ({ f with exprs := rest } : Frame).pushE st e = f := by
      cases f; simp_all [Frame.pushE]
    exact (congrArg (· :: callers) ((hs f callers st e rest hf he f' st' vals er hd).trans horig)).trans hf.symm

/-- `popped`: top first; `g`: the frame they were taken off. -/
def ErrVals (g : Frame) (st : St) (popped : List Value) : Disp → Prop
  | .err f' st' vals _ => f' = g ∧ st' = st ∧ vals.reverse = popped
  | _ => True

theorem restore_of_errVals {f : Frame} {st : St} {e : Expr} {popped rest : List Value} {d : Disp}
    (hv : f.values = popped ++ rest) (hd : ErrVals { f with values := rest } st popped d) :
    ∀ f' st' vals er, d = .err f' st' vals er → restore f' st' e vals = f.pushE st e := by
  rintro f' st' vals er rfl
  obtain ⟨rfl, rfl, rfl⟩ := hd
  rw [restore_eq]
  simp only [Frame.pushE, ← hv]

theorem binopBody_errVals (g : Frame) (u : Bool) (op : BinOp) (lv rv : Value) :
    ErrVals g .E [rv, lv] (binopBody g u op lv rv) := by
  unfold binopBody
  repeat' split
  all_goals first | trivial | exact ⟨rfl, rfl, rfl⟩

theorem letBody_errVals (g : Frame) (u : Bool) (dest : Dest) (v : Value) :
    ErrVals g .E [v] (letBody g u dest v) := by
  unfold letBody
  repeat' split
  all_goals first | trivial | exact ⟨rfl, rfl, rfl⟩

theorem updateBody_errVals (g : Frame) (u isAdd : Bool) (name : String) (cur : Int64) (rv : Value) :
    ErrVals g .E [rv] (updateBody g u isAdd name cur rv) := by
  unfold updateBody
  repeat' split
  all_goals first | trivial | exact ⟨rfl, rfl, rfl⟩

theorem ifBody_errVals (g : Frame) (st : St) (e : Expr) (u : Bool) (thn : List Expr)
    (els : Option (List Expr)) (cv : Value) : ErrVals g st [cv] (ifBody g st e u thn els cv) := by
  unfold ifBody
  repeat' split
  all_goals first | trivial | exact ⟨rfl, rfl, rfl⟩

theorem whileBody_errVals (g : Frame) (e : Expr) (u : Bool) (body : List Expr) (cv : Value) :
    ErrVals g .PW [cv] (whileBody g e u body cv) := by
  unfold whileBody
  repeat' split
  all_goals first | trivial | exact ⟨rfl, rfl, rfl⟩

theorem forBody_errVals (g : Frame) (e : Expr) (u : Bool) (dest : Dest) (body : List Expr) (iv idxv : Value) :
    ErrVals g .PW [iv, idxv] (forBody g e u dest body iv idxv) := by
  unfold forBody
  repeat' split
  all_goals first | trivial | exact ⟨rfl, rfl, rfl⟩

theorem matchBody_errVals (p : Program) (g : Frame) (st : St) (e : Expr) (u : Bool) (cs : List Case)
    (sv : Value) : ErrVals g st [sv] (matchBody p g st e u cs sv) := by
  unfold matchBody
  repeat' split
  all_goals first | trivial | exact ⟨rfl, rfl, rfl⟩

/-- Every error path of `eval_call` restores `[receiver, argₙ … arg₁]`: exactly what it popped. -/
theorem callBody_errVals (p : Program) (g : Frame) (cid : Nat) (u : Bool) (recv : Value) (args : List Value) :
    ErrVals g .E (args ++ [recv]) (callBody p g cid u recv args) := by
  have hrev : (recv :: args.reverse).reverse = args ++ [recv] := by simp
  unfold callBody
  repeat' split
  all_goals first | trivial | exact ⟨rfl, rfl, hrev⟩

theorem evalCall_restores (p : Program) (f : Frame) (e : Expr) (id : Nat) (used : Bool) (nargs : Nat) :
    ∀ f' st' vals er, evalCall p f id used nargs = .err f' st' vals er →
      restore f' st' e vals = f.pushE .E e := by
  rw [evalCall_eq]
  cases hp : popN nargs f.values with
  | none => intro _ _ _ _ h; cases h
  | some pr =>
    obtain ⟨args, vals0⟩ := pr
    cases vals0 with
    | nil => intro _ _ _ _ h; cases h
    | cons recv vals1 =>
      have hv : f.values = (args ++ [recv]) ++ vals1 := by simpa using (popN_eq_some.mp hp).1
      exact restore_of_errVals hv (callBody_errVals p _ id used recv args)

theorem restore_nil (f : Frame) (st : St) (e : Expr) : restore f st e [] = f.pushE st e := by
  rw [restore_eq]; rfl

theorem every_site_restores (p : Program) (f : Frame) (st : St) (e : Expr) :
    SiteRestores p f st e := by
  intro f' st' vals er h
  cases e with
  | int | str | lambda | paren | unsup => cases h
  | brk i u => rw [dispatch_brk] at h; split at h <;> cases h
  | cont i u => rw [dispatch_cont] at h; split at h <;> cases h
  | var i u n =>
    rw [dispatch_var] at h
    split at h <;> cases h
    exact restore_nil _ _ _
  | invalid i u => cases h; exact restore_nil _ _ _
  | binop i u op l r =>
    by_cases hs : st = .E
    · subst hs
      rw [dispatch_binop_E] at h
      split at h
      · rename_i rv lv vals0 hv
        exact restore_of_errVals (popped := [rv, lv]) hv (binopBody_errVals _ u op lv rv) _ _ _ _ h
      · cases h
    · rw [dispatch_binop_of_ne hs] at h; cases h
  | letE i u dest inner =>
    by_cases hs : st = .E
    · subst hs
      rw [dispatch_let_E] at h
      split at h
      · rename_i v vals0 hv
        exact restore_of_errVals (popped := [v]) hv (letBody_errVals _ u dest v) _ _ _ _ h
      · cases h
    · rw [dispatch_let_of_ne hs] at h; cases h
  | assign i u name inner =>
    by_cases hs : st = .E
    · subst hs
      rw [dispatch_assign_E] at h
      split at h
      · cases h; exact restore_nil _ _ _
      · split at h
        · split at h <;> cases h
        · cases h
    · rw [dispatch_assign_of_ne hs] at h; cases h
  | update i u isAdd name inner =>
    by_cases hs : st = .E
    · subst hs
      rw [dispatch_update_E] at h
      split at h
      · cases h; exact restore_nil _ _ _
      · split at h
        · rename_i rv vals0 hv
          exact restore_of_errVals (popped := [rv]) hv (updateBody_errVals _ u isAdd name _ rv) _ _ _ _ h
        · cases h
      · cases h; exact restore_nil _ _ _
    · rw [dispatch_update_of_ne hs] at h; cases h
  | ret i u inner =>
    by_cases hs : st = .E
    · subst hs; cases h
    · rw [dispatch_ret_of_ne hs] at h; split at h <;> cases h
  | list i u items =>
    by_cases hs : st = .E
    · subst hs; rw [dispatch_list_E] at h; split at h <;> cases h
    · rw [dispatch_list_of_ne hs] at h; cases h
  | tuple i u items =>
    by_cases hs : st = .E
    · subst hs; rw [dispatch_tuple_E] at h; split at h <;> cases h
    · rw [dispatch_tuple_of_ne hs] at h; cases h
  | call i u recv args =>
    by_cases hN : st = .N
    · subst hN; cases h
    · by_cases hE : st = .E
      · subst hE; exact evalCall_restores p f _ _ _ _ f' st' vals er h
      · rw [dispatch_call_args hN hE] at h; cases h
  | ifE i u c thn els =>
    by_cases hN : st = .N
    · subst hN; cases h
    · by_cases hE : st = .E
      · subst hE; rw [dispatch_if_E, afterBlock] at h; split at h <;> cases h
      · rw [dispatch_if_run hN hE] at h
        split at h
        · rename_i cv vals0 hv
          exact restore_of_errVals (popped := [cv]) hv (ifBody_errVals _ st _ u thn els cv) _ _ _ _ h
        · cases h
  | matchE i u scrut cs =>
    by_cases hN : st = .N
    · subst hN; cases h
    · by_cases hE : st = .E
      · subst hE; rw [dispatch_match_E, afterBlock] at h; split at h <;> cases h
      · rw [dispatch_match_run hN hE] at h
        split at h
        · rename_i sv vals0 hv
          exact restore_of_errVals (popped := [sv]) hv (matchBody_errVals p _ st _ u cs sv) _ _ _ _ h
        · cases h
  | whileE i u c body =>
    cases st with
    | N | PN | E => cases h
    | PD => rw [dispatch_while_PD, afterBlock] at h; split at h <;> cases h
    | PW =>
      rw [dispatch_while_PW] at h
      split at h
      · rename_i cv vals0 hv
        exact restore_of_errVals (popped := [cv]) hv (whileBody_errVals _ _ u body cv) _ _ _ _ h
      · cases h
  | forE i u dest iter body =>
    cases st with
    | N | PN => cases h
    | PD => rw [dispatch_for_PD, afterBlock] at h; split at h <;> cases h
    | E => rw [dispatch_for_E, afterBlock] at h; split at h <;> cases h
    | PW =>
      rw [dispatch_for_PW] at h
      split at h
      · rename_i iv idxv vals0 hv
        exact restore_of_errVals (popped := [iv, idxv]) hv (forBody_errVals _ _ u dest body iv idxv) _ _ _ _ h
      · cases h

/-- **C07 over the model.** After ANY error step of a calm session (any node kind, any frame,
including the stack-limit error), every response to `eval`, `:resume` × k is the same error and the
call stack — pending entry, receiver, arguments, everything — is the one the first failure saw. -/
theorem resume_same_error (fuel k : Nat) (s s' : State) (e : Err) (hc : Calm s)
    (h : step s = .error s' e) :
    ∀ o ∈ resumes (fuel + 1) k s', ∃ s'', o = .error s'' e ∧ s''.frames = s.frames :=
  resume_any_number fuel e k s s' hc h
    (step_restores_of_site s s' e h (fun _ _ st e0 _ _ _ =>
      every_site_restores s.prog _ st e0))

def start (e : Expr) : State := init { funs := [], enums := [], toplevel := [e] } [] none none

/-- `1 + "a"` stops at an error and three `:resume`s observe the same error at the same entry with
the same stack sizes. -/
theorem binop_resume_example :
    observe 20 3 (start (.binop 3 true .add (.int 1 true 1) (.str 2 true "a"))) =
      [.error (.typeError "Int") (some (.E, 3)) 1 3, .error (.typeError "Int") (some (.E, 3)) 1 3,
       .error (.typeError "Int") (some (.E, 3)) 1 3, .error (.typeError "Int") (some (.E, 3)) 1 3] := by
  decide

/-- `println(1)`. -/
theorem println_resume_example :
    observe 20 2 (start (.call 3 true (.var 1 true "println") [.int 2 true 1])) =
      [.error (.typeError "String") (some (.E, 3)) 1 3, .error (.typeError "String") (some (.E, 3)) 1 3,
       .error (.typeError "String") (some (.E, 3)) 1 3] := by
  decide

/-- `"a"(println)`. -/
theorem expected_function_resume_example :
    observe 20 2 (start (.call 3 true (.str 1 true "a") [.var 2 true "println"])) =
      [.error (.typeError "Function") (some (.E, 3)) 1 3, .error (.typeError "Function") (some (.E, 3)) 1 3,
       .error (.typeError "Function") (some (.E, 3)) 1 3] := by
  decide

/-- `if 1 { 2 }`. -/
theorem if_resume_example :
    observe 20 2 (start (.ifE 3 true (.int 1 true 1) [.int 2 true 2] none)) =
      [.error (.typeError "Bool") (some (.PW, 3)) 1 2, .error (.typeError "Bool") (some (.PW, 3)) 1 2,
       .error (.typeError "Bool") (some (.PW, 3)) 1 2] := by
  decide

/-- `match 1 { Some(x) => x }`. -/
theorem match_resume_example :
    observe 20 3 (start (.matchE 3 true (.int 1 true 1) [.mk "Some" (some (.sym "x")) [.var 2 true "x"]])) =
      [.error .notEnum (some (.PW, 3)) 1 2, .error .notEnum (some (.PW, 3)) 1 2,
       .error .notEnum (some (.PW, 3)) 1 2, .error .notEnum (some (.PW, 3)) 1 2] := by
  decide

/-- `for x in 1 { 2 }`. -/
theorem for_resume_example :
    observe 20 2 (start (.forE 3 true (.sym "x") (.int 1 true 1) [.int 2 true 2])) =
      [.error (.typeError "List") (some (.PW, 3)) 1 3, .error (.typeError "List") (some (.PW, 3)) 1 3,
       .error (.typeError "List") (some (.PW, 3)) 1 3] := by
  decide

/-- `for (a, b) in [1] { 2 }`. -/
theorem for_destructure_resume_example :
    observe 20 2 (start (.forE 3 true (.destr ["a", "b"]) (.list 4 true [.int 1 true 1]) [.int 2 true 2])) =
      [.error (.typeError "Tuple") (some (.PW, 3)) 1 3, .error (.typeError "Tuple") (some (.PW, 3)) 1 3,
       .error (.typeError "Tuple") (some (.PW, 3)) 1 3] := by
  decide

/-- Arms of `eval_built_in_call` / `eval_built_in_method_call` whose error paths are allowed to
build `saved_values` in another order than `[receiver, argₙ … arg₁]`: none. The harness
(harness/c07.py) reports the arms listed here as known findings instead of failing. -/
def knownBad : List String := []

/-- The shapes the extractor (tools/extract_tables.py) assigns to a `saved_values` construction:
`receiverFirst` = the receiver, then the arguments in reverse pop order; `argsOnly` = argument
values only, the construction mentions no receiver. -/
def shapeOk (sh : String) : Bool := sh == "receiverFirst" || sh == "argsOnly"

/-- Every `saved_values` construction of every built-in arm (regenerated from src/eval.rs on every
run) pushes the receiver first, then the arguments in reverse pop order — the order `eval_call` /
`eval_method_call` popped them in (`evalCall_restores` shows this order restores exactly). -/
theorem builtin_arms_restore_shape :
    ∀ arm ∈ Tables.builtinArms, arm.restoreShapes.all shapeOk = true ∨ arm.name ∈ knownBad := by
  decide

end C07
