import GardenVerif.Lemmas.TestRunner
/-!
For C25: what ONE iteration of the evaluator loop does to the tick counter and the call-stack depth
(`ContShape`), the bounded iteration `runN`, and the tick budget of a whole test run.
-/
namespace MachineTicks
open Machine TestRunner

/-- The run is over: `eval` returned (value or error), or the Rust would panic, or the program left
the modelled fragment. -/
def StepResult.isTerminal : StepResult → Bool
  | .cont _ => false
  | _ => true

def runN : Nat → State → StepResult
  | 0, s => .cont s
  | n + 1, s =>
    match step s with
    | .cont s' => runN n s'
    | r => r

/-- A ticking step: popped an entry, the tick limit not reached, the stack check passed, at most one frame
more; a returning step: no tick, one frame fewer. -/
def ContShape (s s' : State) : Prop :=
  (s'.ticks = s.ticks + 1 ∧ limitReached s.tickLimit (s.ticks + 1) = false ∧
     limitExceeded s.stackLimit s.frames.length = false ∧
     s.frames.length ≤ s'.frames.length ∧ s'.frames.length ≤ s.frames.length + 1) ∨
  (s'.ticks = s.ticks ∧ s'.frames.length + 1 = s.frames.length)

theorem stepWith_cont (d : Program → Frame → St → Expr → Disp) {s s' : State}
    (h : stepWith d s = .cont s') : ContShape s s' := by
  match hf : s.frames with
  | [] => rw [stepWith_nil d hf] at h; cases h
  | f :: callers =>
    match he : f.exprs with
    | [] =>
      rw [stepWith_idle d hf he] at h
      cases callers with
      | nil => rw [step_finish hf he] at h; split at h <;> cases h
      | cons caller rest =>
        rw [step_return hf he] at h
        split at h
        · cases h
        · split at h <;> cases h
          exact Or.inr ⟨rfl, by rw [hf]; rfl⟩
    | (st, e) :: rest =>
      rw [stepWith_entry d hf he] at h
      split at h
      · cases h
      · rename_i hr
        obtain ⟨_, hl, hsl⟩ := refusal_eq_none.mp hr
        obtain ⟨fr, o, rfl, hlen⟩ := post_cont h
        refine Or.inl ⟨rfl, hl, hsl, ?_⟩
        show s.frames.length ≤ fr.length ∧ fr.length ≤ s.frames.length + 1
        rw [hf, List.length_cons]
        omega

theorem runN_terminal_mono (n : Nat) : ∀ (s : State), StepResult.isTerminal (runN n s) = true →
    StepResult.isTerminal (runN (n + 1) s) = true := by
  induction n with
  | zero => intro s h; simp [runN, StepResult.isTerminal] at h
  | succ n ih =>
    intro s h
    unfold runN at h ⊢
    split
    · rename_i s' hs; simp only [hs] at h; exact ih s' h
    · rename_i r hr
      split at h
      · rename_i s' hs; exact absurd hs (hr s')
      · exact h

theorem runN_terminal_le (n m : Nat) (hnm : n ≤ m) (s : State)
    (h : StepResult.isTerminal (runN n s) = true) : StepResult.isTerminal (runN m s) = true := by
  induction hnm with
  | refl => exact h
  | step _ ih => exact runN_terminal_mono _ _ ih

/-- The potential that every continuing step strictly decreases: two units per remaining tick
(one for the ticking step itself, one to pay for the return of the frame it may push) plus one
unit per frame currently on the call stack. -/
def potential (L : Nat) (s : State) : Nat := 2 * (L - s.ticks) + s.frames.length

theorem potential_decreases (L : Nat) (s s' : State) (hL : s.tickLimit = some L)
    (h : step s = .cont s') : potential L s' < potential L s := by
  unfold potential
  rcases stepWith_cont dispatch h with ⟨ht, hlim, _, _, hlen⟩ | ⟨ht, hlen⟩
  · rw [hL] at hlim
    have : ¬s.ticks + 1 ≥ L := of_decide_eq_false hlim
    omega
  · omega


/-- While the loop goes on the counter stays below the limit, and the last step adds at most one. -/
theorem runWith_ticks (d : Program → Frame → St → Expr → Disp) (L M : Nat) (n : Nat) (s s' : State)
    (hL : s.tickLimit = some L) (hs : s.ticks ≤ M) (hLM : L ≤ M) (h : endState (runWith d n s) = some s') :
    s'.ticks ≤ M + 1 ∧ s'.tickLimit = some L := by
  have hinv := runWith_inv d (P := fun a => a.tickLimit = some L ∧ a.ticks ≤ M)
    (fun a a' ⟨haL, hat⟩ hstep => by
      refine ⟨(stepWith_static d a a' (by rw [hstep]; rfl)).tl.trans haL, ?_⟩
      rcases stepWith_cont d hstep with ⟨ht, hlim, _⟩ | ⟨ht, _⟩
      · rw [haL] at hlim
        have : ¬a.ticks + 1 ≥ L := of_decide_eq_false hlim
        omega
      · omega)
    n s ⟨hL, hs⟩
  have last : ∀ a, (a.tickLimit = some L ∧ a.ticks ≤ M) → (stepWith d a).state? = some s' →
      s'.ticks ≤ M + 1 ∧ s'.tickLimit = some L := by
    intro a ⟨haL, hat⟩ hs'
    obtain ⟨hst, _, ht⟩ := stepWith_result d hs'
    exact ⟨by omega, hst.tl.trans haL⟩
  cases hr : runWith d n s <;> rw [hr] at h hinv <;> cases h
  · obtain ⟨a, ha, hstep⟩ := hinv
    exact last a ha (by rw [hstep]; rfl)
  · obtain ⟨a, ha, hstep⟩ := hinv
    exact last a ha (by rw [hstep]; rfl)

theorem evalWith_ticks (d : Program → Frame → St → Expr → Disp) (L M : Nat) (n : Nat) (s s' : State)
    (hL : s.tickLimit = some L) (hs : s.ticks ≤ M) (hLM : L ≤ M) (h : endState (evalWith d n s) = some s') :
    s'.ticks ≤ M + 1 ∧ s'.tickLimit = some L := by
  have key : evalWith d n s = runWith d n s ∨ evalWith d n s = .done s vUnit := by
    unfold evalWith
    split
    · split
      · exact Or.inr rfl
      · exact Or.inl rfl
    · exact Or.inl rfl
  rcases key with k | k <;> rw [k] at h
  · exact runWith_ticks d L M n s s' hL hs hLM h
  · cases h; exact ⟨Nat.le_succ_of_le hs, hL⟩

theorem popToToplevel_ticks (s : State) :
    (popToToplevel s).ticks = s.ticks ∧ (popToToplevel s).tickLimit = s.tickLimit := by
  unfold popToToplevel; split <;> exact ⟨rfl, rfl⟩

def finishedState : TestRunner.Outcome → Option State
  | .finished _ s => some s
  | _ => none

theorem finishedState_cons (x : String × Verdict) (o : Outcome) :
    finishedState (o.cons x) = finishedState o := by
  cases o <;> rfl

/-- `eval_tests` returns normally only if the first test got a verdict; it then returns at once
(the test was interrupted) or goes on with the other tests from `pop_to_toplevel`. -/
theorem finishedState_runTestsWith_cons (d : Program → Frame → St → Expr → Disp) (fuel : Nat) (s s' : State)
    (t : TestDef) (ts : List TestDef) (h : finishedState (runTestsWith d fuel s (t :: ts)) = some s') :
    ∃ s1, endState (evalWith d fuel (pushTestFrame s t)) = some s1 ∧
      (s' = s1 ∨ finishedState (runTestsWith d fuel (popToToplevel s1) ts) = some s') := by
  rw [runTestsWith] at h
  cases hr : evalWith d fuel (pushTestFrame s t) <;> rw [hr] at h <;> dsimp only at h
  · rw [finishedState_cons] at h
    exact ⟨_, rfl, Or.inr h⟩
  · split at h
    · cases h; exact ⟨_, rfl, Or.inl rfl⟩
    · rw [finishedState_cons] at h
      exact ⟨_, rfl, Or.inr h⟩
  all_goals cases h

/-- **One budget for the whole test run.** `eval_tests` over ANY list of tests, with any dispatch
function, from a state whose tick counter and tick limit `L` are both at most `M`: when it returns,
the tick counter is at most `M + #tests` (each test started after the budget is exhausted costs
exactly the one tick on which the limit check fires), and the limit is still `L`. -/
theorem runTestsWith_ticks (d : Program → Frame → St → Expr → Disp) (fuel L : Nat) :
    ∀ (ts : List TestDef) (M : Nat) (s s' : State), s.tickLimit = some L → s.ticks ≤ M → L ≤ M →
    finishedState (runTestsWith d fuel s ts) = some s' →
    s'.ticks ≤ M + ts.length ∧ s'.tickLimit = some L
  | [], M, s, s', hL, hs, _, h => by
    cases h
    exact ⟨hs, hL⟩
  | t :: ts, M, s, s', hL, hs, hLM, h => by
    obtain ⟨s1, hend, hor⟩ := finishedState_runTestsWith_cons d fuel s s' t ts h
    obtain ⟨ht1, hL1⟩ := evalWith_ticks d L M fuel (pushTestFrame s t) s1 hL hs hLM hend
    rcases hor with rfl | hrest
    · exact ⟨by rw [List.length_cons]; omega, hL1⟩
    · have hp := popToToplevel_ticks s1
      obtain ⟨ht', hL'⟩ := runTestsWith_ticks d fuel L ts (M + 1) (popToToplevel s1) s' (hp.2.trans hL1)
        (by rw [hp.1]; exact ht1) (Nat.le_succ_of_le hLM) hrest
      exact ⟨by rw [List.length_cons]; omega, hL'⟩

end MachineTicks
