import GardenVerif.Lemmas.ExtractHoistSim
/-! Lemmas for `C20.fun_extract_sound_partial`: a call of the new function with the free variables as
arguments evaluates like the extracted expression. -/

namespace Extract
open Machine (Expr Case Dest BinOp Program FunDef EnumDef)
open RefSem Validators

theorem hitsOf_zero {t id : Nat} (h : hitsOf t id = 0) : (id == t) = false := by
  unfold hitsOf at h; split at h <;> simp_all

theorem fin_miss (x : FX) (id : Nat) (core : Expr) (h : (id == x.t) = false) : fin x.cfg id core = core := by
  simp [fin, FX.cfg, h]

mutual
theorem W_arith0 (x : FX) : ∀ e : Expr, arithE e = true → hits x.t e = 0 → W x.cfg e = W stripCfg e
  | .int id u v, _, h | .str id u v, _, h | .var id u v, _, h => fin_miss x id _ (hitsOf_zero h)
  | .binop id u op l r, ha, h => by
      simp only [arithE, Bool.and_eq_true] at ha
      simp only [hits, Nat.add_eq_zero_iff] at h
      rw [W, W_arith0 x l ha.1 h.1.2, W_arith0 x r ha.2 h.2]
      exact fin_miss x id _ (hitsOf_zero h.1.1)
  | .paren id u e, ha, h => by
      simp only [arithE] at ha
      simp only [hits, Nat.add_eq_zero_iff] at h
      rw [W, W_arith0 x e ha h.2]
      exact fin_miss x id _ (hitsOf_zero h.1)
  | .list id u es, ha, h | .tuple id u es, ha, h => by
      simp only [arithE] at ha
      simp only [hits, Nat.add_eq_zero_iff] at h
      rw [W, WSeq_arith0 x es ha h.2]
      exact fin_miss x id _ (hitsOf_zero h.1)
  | .letE .., h, _ | .assign .., h, _ | .update .., h, _ | .ifE .., h, _ | .whileE .., h, _ | .forE .., h, _
  | .matchE .., h, _ | .ret .., h, _ | .brk .., h, _ | .cont .., h, _ | .call .., h, _ | .lambda .., h, _
  | .invalid .., h, _ | .unsup .., h, _ => nomatch h
theorem WSeq_arith0 (x : FX) : ∀ es : List Expr, arithL es = true → hitsSeq x.t es = 0 → WSeq x.cfg es = WSeq stripCfg es
  | [], _, _ => rfl
  | e :: rest, ha, h => by
      simp only [arithL, Bool.and_eq_true] at ha
      simp only [hitsSeq, Nat.add_eq_zero_iff] at h
      simp only [WSeq, W_arith0 x e ha.1 h.1, WSeq_arith0 x rest ha.2 h.2]
end

theorem hitsOf_one {t id : Nat} (h : (id == t) = true) : hitsOf t id = 1 := by simp [hitsOf, h]

theorem fin_hit (x : FX) (id : Nat) (core : Expr) (h : (id == x.t) = true) :
    fin x.cfg id core = x.cfg.wrap core := by
  simp [fin, FX.cfg, h]

theorem W_sel (x : FX) (e : Expr) (ha : arithE e = true) (hid : (e.id == x.t) = true) (h1 : hits x.t e = 1) :
    W x.cfg e = x.cfg.wrap (W stripCfg e) := by
  cases e <;> first | exact Bool.noConfusion ha | simp only [Expr.id] at hid
  case int id u v => exact fin_hit x id _ hid
  case str id u v => exact fin_hit x id _ hid
  case var id u v => exact fin_hit x id _ hid
  case binop id u op l r =>
    simp only [arithE, Bool.and_eq_true] at ha
    simp only [hits, hitsOf_one hid] at h1
    rw [W, W_arith0 x l ha.1 (by omega), W_arith0 x r ha.2 (by omega)]
    exact fin_hit x id _ hid
  case paren id u y =>
    simp only [hits, hitsOf_one hid] at h1
    rw [W, W_arith0 x y ha (by omega)]
    exact fin_hit x id _ hid
  case list id u es =>
    simp only [hits, hitsOf_one hid] at h1
    rw [W, WSeq_arith0 x es ha (by omega)]
    exact fin_hit x id _ hid
  case tuple id u es =>
    simp only [hits, hitsOf_one hid] at h1
    rw [W, WSeq_arith0 x es ha (by omega)]
    exact fin_hit x id _ hid

structure AUnb (cl : Bool) (p : Program) (j : Nat) : Prop where
  ev : ∀ env s e y, arithE e = true → y ∈ varsE e → lookupVar p env s.store y = none →
    bad (eval cl p j env s e).1 = true
  lst : ∀ env s es y, arithL es = true → y ∈ varsL es → lookupVar p env s.store y = none →
    bad (evalList cl p j env s es).1 = true

theorem arith_unbound (cl : Bool) (p : Program) : ∀ j, AUnb cl p j
  | 0 => ⟨fun _ _ _ _ _ _ _ => rfl, fun _ _ _ _ _ _ _ => rfl⟩
  | j + 1 => by
    have ih := arith_unbound cl p j
    constructor
    · intro env s e y he hy hn
      cases e <;> simp only [arithE, Bool.and_eq_true, Bool.false_eq_true] at he <;> simp only [varsE] at hy
      case int => simp at hy
      case str => simp at hy
      case var id u z =>
        simp only [List.mem_singleton] at hy; subst hy
        simp only [eval, hn]; rfl
      case binop id u op l r =>
        simp only [eval]
        rcases List.mem_append.mp hy with h | h
        · exact bad_bind (ih.ev _ _ _ _ he.1 h hn)
        · exact ((arithPure cl p j).ev _ _ _ he.1).bad_bind fun v => bad_bind (ih.ev _ _ _ _ he.2 h hn)
      case paren id u x => simp only [eval]; exact ih.ev _ _ _ _ he hy hn
      case list id u es => simp only [eval]; exact ih.lst _ _ _ _ he hy hn
      case tuple id u es => simp only [eval]; exact bad_bind (ih.lst _ _ _ _ he hy hn)
    · intro env s es y he hy hn
      cases es with
      | nil => simp [varsL] at hy
      | cons e rest =>
        simp only [arithL, Bool.and_eq_true] at he
        simp only [varsL] at hy
        simp only [evalList]
        rcases List.mem_append.mp hy with h | h
        · exact bad_bind (ih.ev _ _ _ _ he.1 h hn)
        · exact ((arithPure cl p j).ev _ _ _ he.1).bad_bind fun v => bad_bind (ih.lst _ _ _ _ he.2 h hn)


def lookups (q : Program) (env : Env) (st : List Val) : List String → Option (List Val)
  | [] => some []
  | y :: rest =>
    match lookupVar q env st y with
    | none => none
    | some v => (lookups q env st rest).map (v :: ·)

theorem lookups_length {q env st} : ∀ {ps : List String} {vs : List Val}, lookups q env st ps = some vs → vs.length = ps.length
  | [], vs, h => by simp [lookups] at h; subst h; rfl
  | y :: rest, vs, h => by
      simp only [lookups] at h
      split at h
      · cases h
      · cases hr : lookups q env st rest with
        | none => rw [hr] at h; cases h
        | some vr =>
          rw [hr] at h; simp only [Option.map_some, Option.some.injEq] at h; subst h
          simp [lookups_length hr]

theorem evalList_vars (cl : Bool) (q : Program) (env : Env) (s : RefSem.St) :
    ∀ (ps : List String) (f : Nat), ps.length + 1 ≤ f →
      evalList cl q f env s (ps.map fun y => .var 0 false y) =
        match lookups q env s.store ps with
        | some vs => (.val (.list vs), s)
        | none => (.err .noSuchVar, s)
  | [], f, h => by
      obtain ⟨f', rfl⟩ : ∃ f', f = f' + 1 := ⟨f - 1, by omega⟩
      simp [evalList, lookups]
  | y :: rest, f, h => by
      obtain ⟨f', rfl⟩ : ∃ f', f = f' + 1 := ⟨f - 1, by omega⟩
      obtain ⟨f'', rfl⟩ : ∃ f'', f' = f'' + 1 := ⟨f' - 1, by simp at h; omega⟩
      have ih := evalList_vars cl q env s rest (f'' + 1) (by simp at h; omega)
      simp only [List.map_cons, evalList, eval, lookups]
      cases lookupVar q env s.store y with
      | none => simp [RefSem.bind]
      | some v =>
        simp only [RefSem.bind]
        rw [ih]
        cases lookups q env s.store rest <;> simp

theorem frame_lookup (q : Program) (envL : Env) (stL : List Val) :
    ∀ (ps : List String) (vs : List Val) (env0 : Env) (s0 : RefSem.St),
      lookups q envL stL ps = some vs → ps.all (· != "_") = true → WF env0 s0.store →
      ∀ y, lookupVar q (bindNames ps vs env0 s0).1 (bindNames ps vs env0 s0).2.store y =
        if ps.contains y then lookupVar q envL stL y else lookupVar q env0 s0.store y
  | [], vs, env0, s0, h, _, _, y => by
      simp [lookups] at h; subst h; simp [bindNames]
  | y0 :: rest, vs, env0, s0, h, hu, w, y => by
      simp only [lookups] at h
      cases hl : lookupVar q envL stL y0 with
      | none => rw [hl] at h; cases h
      | some v0 =>
        rw [hl] at h
        cases hr : lookups q envL stL rest with
        | none => rw [hr] at h; cases h
        | some vr =>
          rw [hr] at h; simp only [Option.map_some, Option.some.injEq] at h; subst h
          simp only [List.all_cons, Bool.and_eq_true, bne_iff_ne, ne_eq] at hu
          have hy0 : (y0 == "_") = false := by simpa using hu.1
          simp only [bindNames, hy0, Bool.false_eq_true, if_false]
          have w1 : WF ((y0, s0.store.length) :: env0) (s0.store ++ [v0]) := wf_push w y0 v0
          rw [frame_lookup q envL stL rest vr _ _ hr (by simpa using hu.2) w1 y]
          simp only [List.contains_cons]
          by_cases hin : rest.contains y = true
          · have hm : y ∈ rest := by simpa using hin
            simp [hm]
          · simp only [hin, Bool.false_eq_true, if_false, Bool.or_false]
            rw [lookupVar_cons]
            by_cases he : (y0 == y) = true
            · have : y0 = y := by simpa using he
              subst this
              simp [hl]
            · have he' : (y == y0) = false := by
                simp only [beq_eq_false_iff_ne, ne_eq]; intro h; exact he (by simp [h])
              simp only [he, Bool.false_eq_true, if_false, he']
              exact lookupVar_ext q w (List.prefix_append _ _) y


/-- `q` defines the new function `x.n` and, under every other name, what `p` with the node replaced
defines; `x.n` means nothing in `p`. -/
structure FCtx (x : FX) (p q : Program) : Prop where
  hn : x.n ≠ "_"
  psu : x.ps.all (· != "_") = true
  psf : x.ps.all x.f = true
  enums : q.enums = p.enums
  find_n : q.funs.find? (fun d => d.name == x.n) = some { name := x.n, params := x.ps, body := [x.bS] }
  find_o : ∀ name, name ≠ x.n →
    q.funs.find? (fun d => d.name == name) = (p.funs.find? (fun d => d.name == name)).map (WFun x.cfg)
  names : ∀ y, (funNames q).contains y = ((funNames p).contains y || y == x.n)
  nfree : nsLookup (funNames p) p.enums x.n = none
  gfuns : ∀ d ∈ p.funs, GFFun x d = true

theorem FCtx.ns {x p q} (hc : FCtx x p q) {y : String} (hy : y ≠ x.n) :
    nsLookup (funNames q) q.enums y = nsLookup (funNames p) p.enums y := by
  have : (y == x.n) = false := by simpa using hy
  simp only [nsLookup, hc.names y, this, Bool.or_false, hc.enums]

theorem FCtx.ns_n {x p q} (hc : FCtx x p q) : nsLookup (funNames q) q.enums x.n = some (.fn x.n) := by
  have : (funNames q).contains x.n = true := by rw [hc.names]; simp
  have hm : x.n ∈ funNames q := by simpa using this
  simp [nsLookup, hm]

theorem FCtx.lookupVar {x p q} (hc : FCtx x p q) (env : Env) (st : List Val) {y : String} (hy : y ≠ x.n) :
    lookupVar q env st y = lookupVar p env st y := by
  simp only [RefSem.lookupVar, hc.ns hy]

theorem FCtx.patKey {x p q} (hc : FCtx x p q) (v : String) : patKey q v = patKey p v := by
  by_cases hv : v = x.n
  · subst hv; simp [RefSem.patKey, hc.ns_n, hc.nfree]
  · simp only [RefSem.patKey, hc.ns hv]

theorem FCtx.agree_nil {x p q} (hc : FCtx x p q) (st st' : List Val) : Agree x.n p q [] st [] st' := by
  intro y hy
  simp only [RefSem.lookupVar, lookup, hc.ns hy]

theorem lookups_none {q env st} : ∀ {ps : List String}, lookups q env st ps = none →
    ∃ y, y ∈ ps ∧ lookupVar q env st y = none
  | [], h => by simp [lookups] at h
  | y :: rest, h => by
      simp only [lookups] at h
      cases hl : lookupVar q env st y with
      | none => exact ⟨y, List.mem_cons_self .., hl⟩
      | some v =>
        rw [hl] at h
        cases hr : lookups q env st rest with
        | none =>
          obtain ⟨z, hz, hzn⟩ := lookups_none hr
          exact ⟨z, List.mem_cons_of_mem _ hz, hzn⟩
        | some vr => rw [hr] at h; cases h

/-- As for hoisting, and no binder in scope is the new function's name or a global the extracted expression uses. -/
structure Ok2 (x : FX) (p q : Program) (env : Env) (s : RefSem.St) (env' : Env) (s' : RefSem.St) : Prop
    extends Ok x.n p q env s env' s' where
  ok : EnvOK x.f env
  ok' : EnvOK x.f env'

theorem Ok2.step {x p q env s env' s' s1 s1'} (h : Ok2 x p q env s env' s') (e : relH.E s s' s1 s1') :
    Ok2 x p q env s1 env' s1' :=
  ⟨h.toOk.step e, h.ok, h.ok'⟩

theorem f_n (x : FX) : x.f x.n = false := by simp [FX.f]

theorem f_gl (x : FX) {y : String} (h : x.gl.contains y = true) : x.f y = false := by
  have : y ∈ x.gl := by simpa using h
  simp [FX.f, this]

theorem call_eval {x : FX} {p q : Program} (hc : FCtx x p q) {env' : Env} {s' : RefSem.St}
    (hok : EnvOK x.f env') (m3 : Nat) (hm : x.ps.length ≤ m3) (hbl : isLet x.bS = false) :
    eval false q (m3 + 3) env' s' (callOf x.n x.ps) =
      match lookups q env' s'.store x.ps with
      | none => (.err .noSuchVar, s')
      | some vs => funResult (eval false q m3 (bindNames x.ps vs [] s').1 (bindNames x.ps vs [] s').2 x.bS) := by
  have hln : lookupVar q env' s'.store x.n = some (.fn x.n) := by
    simp only [RefSem.lookupVar, lookup_none_of_f hok (f_n x), hc.ns_n]
  simp only [callOf, eval, hln, RefSem.bind]
  rw [evalList_vars false q env' s' x.ps (m3 + 2) (by omega)]
  cases hlk : lookups q env' s'.store x.ps with
  | none => rfl
  | some vs =>
    have hlen := lookups_length hlk
    have hlen' : (x.ps.length != vs.length) = false := by simp [hlen]
    simp only [applyVal, hc.find_n, hlen', Bool.false_eq_true, if_false]
    rw [evalSeq_cons_nonlet false q m3 _ _ [] hbl]

theorem arithE_notLet {e : Expr} (h : arithE e = true) : isLet e = false := by
  cases e <;> first | rfl | nomatch h

/-- Where the original evaluates the pure expression `e`, the extracted program
evaluates the call `n(ps…)`; same value, same output, the store only grows by the parameters. Fuel: three
levels for the call (`call_eval`), `ps.length + 1` for the argument list, `k + 1` for the body; `k + 5`
leaves one to spare. -/
theorem call_step {x : FX} {p q : Program} (hc : FCtx x p q) {env s env' s'} (hk : Ok2 x p q env s env' s')
    (e : Expr) (ha : arithE e = true) (hb : W stripCfg e = x.bS)
    (hv1 : ∀ y, y ∈ varsE e → x.ps.contains y = true ∨ x.gl.contains y = true)
    (hv2 : ∀ y, y ∈ x.ps → y ∈ varsE e) (hvn : ∀ y, y ∈ varsE e → y ≠ x.n)
    (k m : Nat) (hm1 : k + 5 ≤ m) (hm2 : x.ps.length + 3 ≤ m) :
    RelH s s' (eval false p (k + 1) env s e) (eval false q m env' s' (callOf x.n x.ps)) := by
  obtain ⟨m3, rfl⟩ : ∃ m3, m = m3 + 3 := ⟨m - 3, by omega⟩
  have hbl : isLet x.bS = false := by
    rw [← hb]; exact isLet_W (fun id y h => Bool.noConfusion h) (arithE_notLet ha)
  rw [call_eval hc hk.ok' m3 (by omega) hbl]
  cases hlk : lookups q env' s'.store x.ps with
  | none =>
    obtain ⟨y, hy, hyn⟩ := lookups_none hlk
    have hyf : x.f y = true := by
      have := hc.psf; simp only [List.all_eq_true] at this; exact this y hy
    have hyne : y ≠ x.n := by intro e0; subst e0; rw [f_n] at hyf; cases hyf
    have : lookupVar p env s.store y = none := by rw [hk.agree y hyne]; exact hyn
    exact RelH.bad ((arith_unbound false p (k + 1)).ev _ _ _ _ ha (hv2 y hy) this)
  | some vs =>
    simp only []
    have hfl := frame_lookup q env' s'.store x.ps vs [] s' hlk hc.psu WF.nil
    have hbo := bindNames_out x.ps vs [] s'
    have hsame := (arith_agree false p q (k + 1)).ev env s (bindNames x.ps vs [] s').1 (bindNames x.ps vs [] s').2 e ha
      (by
        intro y hy
        rw [hfl y]
        have hyne := hvn y hy
        by_cases hin : x.ps.contains y = true
        · simp only [hin, if_true]; exact hk.agree y hyne
        · simp only [hin, Bool.false_eq_true, if_false]
          have hg : x.gl.contains y = true := by
            rcases hv1 y hy with h | h
            · exact absurd h hin
            · exact h
          simp only [RefSem.lookupVar, lookup_none_of_f hk.ok (f_gl x hg), lookup, hc.ns hyne])
    rw [hb] at hsame
    obtain ⟨hs1, hs2, hvb⟩ := hsame
    have hmono := eval_mono q (show k + 1 ≤ m3 by omega) (bindNames x.ps vs [] s').1 (bindNames x.ps vs [] s').2 x.bS
    rw [hs1] at hmono
    cases hA : eval false p (k + 1) env s e with
    | mk ra sa =>
      rw [hA] at hmono hs2 hvb
      simp only at hmono hs2 hvb
      subst hs2
      -- a pure expression ends in a value (then the frame's evaluation agrees, with more fuel) or badly
      rcases vb_cases hvb with ⟨v, rfl⟩ | hbad
      · rw [← hmono.eq_of_not_to rfl]
        exact Or.inr ⟨rfl, by show sa.out = (bindNames x.ps vs [] s').2.out; rw [hbo.1]; exact hk.out,
          List.prefix_refl _, hbo.2⟩
      · exact RelH.bad hbad

end Extract
