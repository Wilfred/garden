import GardenVerif.Model.BigStep
import GardenVerif.Lemmas.MachineStep
import GardenVerif.Lemmas.MachineDispatch
import GardenVerif.Lemmas.MachineFrame
/-! C05: the machine model M4 refines the big-step reference interpreter M5.

`MS` relates call stacks by machine steps (`MS_sound`); `Concl` / `Holds` state the simulation for one
expression in an arbitrary frame context, with clauses for value, error, `break`, `continue`, `return`.
The reference interpreter is read node by node through `Res.bind` (`evalWith_*`). The proof steps are
taken where the machine stands, the run so far being an argument (`IH.bind`, `IH.bindRtl`, `IH.seq`,
`IH.block`, `IH.loopNext`, `Concl.leaf`, `Concl.nonval`). Stage, level and (a) / (b) / (c) are one
index, the `L` of `IH` and `Node`, computed by `lvE`: (a) = 0, (b) = 1, (c) = 2.

Second part (from `vokL_mem` on): `runProgram_checked_eq`, on fragment programs the interpreter with the
closure-body check at calls is `BigStep.eval`. It reads the interpreter and the fragment through the
first part's equations and inversions, and takes one fact from the simulation (`binop_okO`). -/
namespace BigStepLemmas
open Machine BigStep

/-- Machine state of an uninterrupted run without limits (what `Machine.init p [] none none`
starts and every step keeps). -/
def Q (p : Program) (fs : List Frame) (t : Nat) (out : String) : State :=
  { prog := p, frames := fs, ticks := t, out := out, interrupted := false, tickLimit := none,
    stackLimit := none, interruptAt := [], stopAt := none }

def runN : Nat → State → StepResult
  | 0, s => .cont s
  | n + 1, s => match step s with
    | .cont s' => runN n s'
    | r => r

theorem runN_add (a b : Nat) (s s' : State) (h : runN a s = .cont s') : runN (a + b) s = runN b s' := by
  induction a generalizing s with
  | zero => simp [runN] at h; subst h; simp
  | succ n ih =>
    have : n + 1 + b = (n + b) + 1 := by omega
    rw [this]
    simp only [runN] at h ⊢
    cases hs : step s <;> simp [hs] at h ⊢
    · exact ih _ h

theorem runN_step_cont (s s' s'' : State) (n : Nat) (h : step s = .cont s') (h2 : runN n s' = .cont s'') :
    runN (n + 1) s = .cont s'' := by
  simp [runN, h, h2]

theorem runN_last (s s' : State) (n : Nat) (r : StepResult) (h : runN n s = .cont s') (hr : step s' = r)
    (hnc : ∀ x, r ≠ .cont x) : runN (n + 1) s = r := by
  rw [runN_add n 1 _ _ h]
  cases r <;> simp_all [runN]

def F (b : Frame) (K : List (St × Expr)) (V : List Value) (σ : List Block) : Frame :=
  { exprs := K, values := V, blocks := σ, nextBlock := [], callerUses := b.callerUses, kind := b.kind,
    callerId := b.callerId }

theorem F_values (b : Frame) (K : List (St × Expr)) (V : List Value) (σ : List Block) : (F b K V σ).values = V := rfl
theorem F_values0 (b : Frame) (K : List (St × Expr)) (V : List Value) (σ : List Block) : (F b K V σ).values = V := rfl
theorem F_exprs (b : Frame) (K : List (St × Expr)) (V : List Value) (σ : List Block) : (F b K V σ).exprs = K := rfl
theorem F_blocks (b : Frame) (K : List (St × Expr)) (V : List Value) (σ : List Block) : (F b K V σ).blocks = σ := rfl

inductive MS (p : Program) : List Frame → String → List Frame → String → Prop
  | refl (fs : List Frame) (out : String) : MS p fs out fs out
  | ok {f : Frame} {cs : List Frame} {st : St} {e : Expr} {rest : List (St × Expr)} {f' : Frame}
      {T : List Frame} {out out' : String} :
      f.exprs = (st, e) :: rest → dispatch p { f with exprs := rest } st e = .ok f' →
      MS p (f' :: cs) out T out' → MS p (f :: cs) out T out'
  | okOut {f : Frame} {cs : List Frame} {st : St} {e : Expr} {rest : List (St × Expr)} {f' : Frame}
      {T : List Frame} {o out out' : String} :
      f.exprs = (st, e) :: rest → dispatch p { f with exprs := rest } st e = .okOut f' o →
      MS p (f' :: cs) (out ++ o) T out' → MS p (f :: cs) out T out'
  | call {f : Frame} {cs : List Frame} {st : St} {e : Expr} {rest : List (St × Expr)} {f' callee : Frame}
      {T : List Frame} {out out' : String} :
      f.exprs = (st, e) :: rest → dispatch p { f with exprs := rest } st e = .newFrame f' callee →
      MS p (callee :: f' :: cs) out T out' → MS p (f :: cs) out T out'
  | ret {f caller : Frame} {cs : List Frame} {rv : Value} {vs : List Value}
      {T : List Frame} {out out' : String} :
      f.exprs = [] → f.values = rv :: vs →
      MS p ((if f.callerUses then caller.pushV rv else caller) :: cs) out T out' →
      MS p (f :: caller :: cs) out T out'

theorem MS.trans {p : Program} {A B C : List Frame} {o1 o2 o3 : String}
    (a : MS p A o1 B o2) (b : MS p B o2 C o3) : MS p A o1 C o3 := by
  induction a with
  | refl => exact b
  | ok he hd _ ih => exact MS.ok he hd (ih b)
  | okOut he hd _ ih => exact MS.okOut he hd (ih b)
  | call he hd _ ih => exact MS.call he hd (ih b)
  | ret he hv _ ih => exact MS.ret he hv (ih b)

theorem MS.one {p : Program} {b : Frame} {cs : List Frame} {st : St} {e : Expr} {K : List (St × Expr)}
    {V : List Value} {σ : List Block} {f' : Frame} {out : String}
    (hd : dispatch p (F b K V σ) st e = .ok f') :
    MS p (F b ((st, e) :: K) V σ :: cs) out (f' :: cs) out :=
  MS.ok (f := F b ((st, e) :: K) V σ) (rest := K) rfl hd (MS.refl _ _)

def MErr (p : Program) (f : Frame) (er : Err) : Prop :=
  ∃ st ex rest f' st' vals, f.exprs = (st, ex) :: rest ∧
    dispatch p { f with exprs := rest } st ex = .err f' st' vals er

theorem step_Q {p : Program} {f : Frame} {cs : List Frame} {t : Nat} {out : String} {st : St} {e : Expr}
    {rest : List (St × Expr)} (he : f.exprs = (st, e) :: rest) :
    step (Q p (f :: cs) t out) =
      post (Q p (f :: cs) (t + 1) out) cs st e (dispatch p { f with exprs := rest } st e) :=
  step_popped (s := Q p (f :: cs) t out) rfl he

theorem step_ret (p : Program) (f caller : Frame) (cs : List Frame) (t : Nat) (out : String) (rv : Value)
    (vs : List Value) (he : f.exprs = []) (hv : f.values = rv :: vs) :
    step (Q p (f :: caller :: cs) t out) =
      .cont (Q p ((if f.callerUses then caller.pushV rv else caller) :: cs) t out) := by
  rw [step_return (s := Q p (f :: caller :: cs) t out) rfl he, hv]
  cases f.callerId <;> rfl

theorem step_err (p : Program) (f : Frame) (cs : List Frame) (t : Nat) (out : String) (er : Err)
    (h : MErr p f er) : ∃ s', step (Q p (f :: cs) t out) = .error s' er ∧ s'.out = out := by
  obtain ⟨st, ex, rest, f', st', vals, he, hd⟩ := h
  exact ⟨_, by rw [step_Q he, hd]; rfl, rfl⟩

theorem MS_sound {p : Program} {A B : List Frame} {out out' : String} (h : MS p A out B out') :
    ∀ (t : Nat), ∃ n t', runN n (Q p A t out) = .cont (Q p B t' out') := by
  induction h with
  | refl => intro t; exact ⟨0, t, rfl⟩
  | ok he hd _ ih =>
    intro t
    obtain ⟨n, t', hn⟩ := ih (t + 1)
    exact ⟨n + 1, t', runN_step_cont _ _ _ _ (by rw [step_Q he, hd]; rfl) hn⟩
  | okOut he hd _ ih =>
    intro t
    obtain ⟨n, t', hn⟩ := ih (t + 1)
    exact ⟨n + 1, t', runN_step_cont _ _ _ _ (by rw [step_Q he, hd]; rfl) hn⟩
  | call he hd _ ih =>
    intro t
    obtain ⟨n, t', hn⟩ := ih (t + 1)
    exact ⟨n + 1, t', runN_step_cont _ _ _ _ (by rw [step_Q he, hd]; rfl) hn⟩
  | ret he hv _ ih =>
    intro t
    obtain ⟨n, t', hn⟩ := ih t
    exact ⟨n + 1, t', runN_step_cont _ _ _ _ (step_ret _ _ _ _ t _ _ _ he hv) hn⟩

theorem finish_done (p : Program) (s0 : State) (b : Frame) (n t : Nat) (v : Value) (V' : List Value)
    (σ' : List Block) (out' : String)
    (hn : runN n s0 = .cont (Q p [F b [] (v :: V') σ'] t out')) :
    ∃ m s, runN m s0 = .done s v ∧ s.out = out' :=
  ⟨n + 1, _, runN_last _ _ n _ hn (step_finish (s := Q p [F b [] (v :: V') σ'] t out') rfl rfl)
    (fun _ h => nomatch h), rfl⟩

def pushIf (c : Bool) (v : Value) (V : List Value) : List Value := if c then v :: V else V

theorem F_pushVIf (b : Frame) (K : List (St × Expr)) (V : List Value) (σ : List Block) (c : Bool) (v : Value) :
    (F b K V σ).pushVIf c v = F b K (pushIf c v V) σ := by
  cases c <;> rfl

/-- The simulation conclusion for a big-step result `r`: the machine started at stack `A` with output
`out`; its continuation is pending entries `K`, values `V` (a value is pushed iff `used`), `n` scopes,
callers `cs`. An error may be reached in a callee's frame; for `break` / `continue` the machine reaches
whatever frame dispatching one with that continuation produces; for `return` the finished frame. -/
def Concl (p : Program) (bk ck : Bool) (A : List Frame) (b : Frame) (cs : List Frame)
    (K : List (St × Expr)) (V : List Value) (n : Nat) (out : String) (used : Bool) (r : Res) : Prop :=
  match r.outcome with
  | .val v => r.scopes.length = n ∧ MS p A out (F b K (pushIf used v V) r.scopes :: cs) r.out
  | .err er => ∃ T g, MS p A out (g :: T) r.out ∧ MErr p g er
  | .brk => bk = true ∧ r.scopes.length = n ∧
      ∀ G, dispatch p (F b K V r.scopes) .N (.brk 0 false) = .ok G → MS p A out (G :: cs) r.out
  | .cont => ck = true ∧ r.scopes.length = n ∧
      ∀ G, dispatch p (F b K V r.scopes) .N (.cont 0 false) = .ok G → MS p A out (G :: cs) r.out
  | .ret v => ∃ V' B', MS p A out (F b [] (v :: V') B' :: cs) r.out
  | _ => True

def Holds (p : Program) (bk ck : Bool) (e : Expr) (σ : List Block) (out : String) (r : Res) : Prop :=
  ∀ (b : Frame) (cs : List Frame) (K : List (St × Expr)) (V : List Value),
    Concl p bk ck (F b ((St.N, e) :: K) V σ :: cs) b cs K V σ.length out e.used r

/-- The induction hypothesis: the evaluator `ev` is simulated on every expression of stage `L`
(with the parser's use flags and exits in statement position), in any non-empty scopes. -/
def IH (p : Program) (L : Nat) (ev : Ev) : Prop :=
  ∀ (bk ck : Bool) (e : Expr) (σ : List Block) (out : String), σ ≠ [] → lvE e ≤ L → wfE e = true →
    exE bk ck e = true → Holds p bk ck e σ out (ev σ out e)

def Node (L : Nat) (bk ck : Bool) (e : Expr) : Prop := lvE e ≤ L ∧ wfE e = true ∧ exE bk ck e = true

def Operand (L : Nat) (e : Expr) : Prop := e.used = true ∧ Node L false false e

/-- Arguments of a call, items of a list or tuple, toplevel expressions. -/
def Operands (L : Nat) (es : List Expr) : Prop := lvB es ≤ L ∧ wfAll es = true ∧ exAll es = true

def Stmts (L : Nat) (u bk ck : Bool) (body : List Expr) : Prop :=
  lvB body ≤ L ∧ wfB u body = true ∧ exB bk ck body = true

def CasesOK (L : Nat) (u bk ck : Bool) (cases : List Case) : Prop :=
  lvCases cases ≤ L ∧ wfCases u cases = true ∧ exCases bk ck cases = true

section
variable {L : Nat} {bk ck u : Bool} {id : Nat} {e inner l r c : Expr} {rest items body t : List Expr}

theorem Operands.cons (h : Operands L (e :: rest)) : Operand L e ∧ Operands L rest := by
  obtain ⟨hl, hw, hx⟩ := h
  change max (lvE e) (lvB rest) ≤ L at hl
  change (e.used && wfE e && wfAll rest) = true at hw
  change (exE false false e && exAll rest) = true at hx
  simp only [Bool.and_eq_true] at hw hx
  exact ⟨⟨hw.1.1, by omega, hw.1.2, hx.1⟩, by omega, hw.2, hx.2⟩

theorem Stmts.cons (h : Stmts L u bk ck (e :: rest)) :
    e.used = (u && rest.isEmpty) ∧ Node L bk ck e ∧ Stmts L u bk ck rest := by
  obtain ⟨hl, hw, hx⟩ := h
  change max (lvE e) (lvB rest) ≤ L at hl
  change ((e.used == (u && rest.isEmpty)) && wfE e && wfB u rest) = true at hw
  change (exE bk ck e && exB bk ck rest) = true at hx
  simp only [Bool.and_eq_true, beq_iff_eq] at hw hx
  exact ⟨hw.1.1, ⟨by omega, hw.1.2, hx.1⟩, by omega, hw.2, hx.2⟩

theorem CasesOK.cons {vn : String} {d : Option Dest} {cs : List Case} (h : CasesOK L u bk ck (.mk vn d body :: cs)) :
    Stmts L u bk ck body ∧ CasesOK L u bk ck cs := by
  obtain ⟨hl, hw, hx⟩ := h
  change max (lvB body) (lvCases cs) ≤ L at hl
  change (wfB u body && wfCases u cs) = true at hw
  change (exB bk ck body && exCases bk ck cs) = true at hx
  simp only [Bool.and_eq_true] at hw hx
  exact ⟨⟨by omega, hw.1, hx.1⟩, by omega, hw.2, hx.2⟩

theorem Node.paren (h : Node L bk ck (.paren id u inner)) : inner.used = u ∧ Node L false false inner := by
  obtain ⟨hl, hw, hx⟩ := h
  change ((inner.used == u) && wfE inner) = true at hw
  simp only [Bool.and_eq_true, beq_iff_eq] at hw
  exact ⟨hw.1, hl, hw.2, hx⟩

theorem Node.binop {op : BinOp} (h : Node L bk ck (.binop id u op l r)) : Operand L l ∧ Operand L r := by
  obtain ⟨hl, hw, hx⟩ := h
  change max (if op == .floatOp then 3 else 0) (max (lvE l) (lvE r)) ≤ L at hl
  change (l.used && r.used && wfE l && wfE r) = true at hw
  change (exE false false l && exE false false r) = true at hx
  simp only [Bool.and_eq_true] at hw hx
  exact ⟨⟨hw.1.1.1, by omega, hw.1.2, hx.1⟩, hw.1.1.2, by omega, hw.2, hx.2⟩

theorem Node.unary (h : Node L bk ck e)
    (he : (∃ d, e = .letE id u d inner) ∨ (∃ n, e = .assign id u n inner) ∨ (∃ a n, e = .update id u a n inner) ∨
      e = .ret id u (some inner)) : Operand L inner := by
  obtain ⟨hl, hw, hx⟩ := h
  have hw' : (inner.used && wfE inner) = true := by
    rcases he with ⟨d, rfl⟩ | ⟨n, rfl⟩ | ⟨a, n, rfl⟩ | rfl <;> exact hw
  have hx' : exE false false inner = true := by
    rcases he with ⟨d, rfl⟩ | ⟨n, rfl⟩ | ⟨a, n, rfl⟩ | rfl <;> exact hx
  have hl' : lvE inner ≤ L := by
    rcases he with ⟨d, rfl⟩ | ⟨n, rfl⟩ | ⟨a, n, rfl⟩ | rfl
    · exact hl
    · exact hl
    · exact hl
    · change max 2 (lvE inner) ≤ L at hl; omega
  simp only [Bool.and_eq_true] at hw'
  exact ⟨hw'.1, hl', hw'.2, hx'⟩

theorem Node.list (h : Node L bk ck (.list id u items)) : Operands L items := by
  obtain ⟨hl, hw, hx⟩ := h
  change max (if items.length < 9223372036854775808 then 0 else 3) (lvB items) ≤ L at hl
  exact ⟨by omega, hw, hx⟩

theorem Node.tuple (h : Node L bk ck (.tuple id u items)) : Operands L items := h

theorem Node.call (h : Node L bk ck (.call id u e items)) : Operand L e ∧ Operands L items :=
  Operands.cons h

theorem Node.ifE {els : Option (List Expr)} (h : Node L bk ck (.ifE id u c t els)) :
    Operand L c ∧ Stmts L (u && els.isSome) bk ck t ∧ ∀ eb, els = some eb → Stmts L (u && els.isSome) bk ck eb := by
  obtain ⟨hl, hw, hx⟩ := h
  cases els with
  | none =>
    change max (lvE c) (lvB t) ≤ L at hl
    change (c.used && wfE c && wfB false t) = true at hw
    change (exE false false c && exB bk ck t) = true at hx
    simp only [Bool.and_eq_true] at hw hx
    exact ⟨⟨hw.1.1, by omega, hw.1.2, hx.1⟩, ⟨by omega, by simpa using hw.2, hx.2⟩, fun _ h => nomatch h⟩
  | some eb =>
    change max (lvE c) (max (lvB t) (lvB eb)) ≤ L at hl
    change (c.used && wfE c && wfB u t && wfB u eb) = true at hw
    change (exE false false c && exB bk ck t && exB bk ck eb) = true at hx
    simp only [Bool.and_eq_true] at hw hx
    exact ⟨⟨hw.1.1.1, by omega, hw.1.1.2, hx.1.1⟩, ⟨by omega, by simpa using hw.1.2, hx.1.2⟩,
      fun _ h => by cases h; exact ⟨by omega, by simpa using hw.2, hx.2⟩⟩

theorem Node.matchE {cases : List Case} (h : Node L bk ck (.matchE id u c cases)) :
    Operand L c ∧ CasesOK L u bk ck cases := by
  obtain ⟨hl, hw, hx⟩ := h
  change max (lvE c) (lvCases cases) ≤ L at hl
  change (c.used && wfE c && wfCases u cases) = true at hw
  change (exE false false c && exCases bk ck cases) = true at hx
  simp only [Bool.and_eq_true] at hw hx
  exact ⟨⟨hw.1.1, by omega, hw.1.2, hx.1⟩, by omega, hw.2, hx.2⟩

theorem Node.loop (h : Node L bk ck e)
    (he : e = .whileE id u c body ∨ ∃ d, e = .forE id u d c body) :
    Operand L c ∧ Stmts L false true true body ∧ 1 ≤ L := by
  obtain ⟨hl, hw, hx⟩ := h
  have hl' : max 1 (max (lvE c) (lvB body)) ≤ L := by rcases he with rfl | ⟨d, rfl⟩ <;> exact hl
  have hw' : (c.used && wfE c && wfB false body) = true := by rcases he with rfl | ⟨d, rfl⟩ <;> exact hw
  have hx' : (exE false false c && exB true true body) = true := by rcases he with rfl | ⟨d, rfl⟩ <;> exact hx
  simp only [Bool.and_eq_true] at hw' hx'
  exact ⟨⟨hw'.1.1, by omega, hw'.1.2, hx'.1⟩, ⟨by omega, hw'.2, hx'.2⟩, by omega⟩

theorem Node.lambda {ps : List String} (h : Node L bk ck (.lambda id u ps body)) :
    Stmts L true false false body ∧ 2 ≤ L := by
  obtain ⟨hl, hw, hx⟩ := h
  change max 2 (lvB body) ≤ L at hl
  exact ⟨⟨by omega, hw, hx⟩, by omega⟩

theorem Stmts.mono {L' : Nat} (h : Stmts L u bk ck body) (hL : L ≤ L') : Stmts L' u bk ck body :=
  ⟨Nat.le_trans h.1 hL, h.2⟩

theorem bodyOK_iff : bodyOK body = true ↔ Stmts 2 true false false body := by
  unfold bodyOK Stmts
  simp only [Bool.and_eq_true, decide_eq_true_eq]
  exact ⟨fun h => ⟨h.2, h.1.1, h.1.2⟩, fun h => ⟨⟨h.2.1, h.2.2⟩, h.1⟩⟩

theorem exAll_eq : ∀ es : List Expr, exAll es = exB false false es
  | [] => rfl
  | e :: rest => by
      change (exE false false e && exAll rest) = (exE false false e && exB false false rest)
      rw [exAll_eq rest]

end

theorem forall_mem_of_cons {α : Type} {P : List α → Prop} {Q : α → Prop}
    (hcons : ∀ x xs, P (x :: xs) → Q x ∧ P xs) : ∀ l, P l → ∀ x ∈ l, Q x
  | [], _, _, h => nomatch h
  | y :: ys, hl, x, h => by
      rcases List.mem_cons.mp h with rfl | h1
      · exact (hcons _ _ hl).1
      · exact forall_mem_of_cons hcons ys (hcons _ _ hl).2 x h1

theorem CasesOK.mem {L : Nat} {u bk ck : Bool} {cases : List Case} {vn : String} {d : Option Dest}
    {body : List Expr} (h : CasesOK L u bk ck cases) (hm : Case.mk vn d body ∈ cases) : Stmts L u bk ck body :=
  forall_mem_of_cons (P := CasesOK L u bk ck) (Q := fun c => match c with | .mk _ _ body => Stmts L u bk ck body)
    (fun c _ h => by obtain ⟨vn, d, body⟩ := c; exact h.cons) cases h _ hm

theorem evalContinueLoop_skipNs (K : List (St × Expr)) (V : List Value) (B : List Block) (xs : List Expr) :
    evalContinueLoop (xs.map (fun e => (St.N, e)) ++ K) V B = evalContinueLoop K V B := by
  induction xs with
  | nil => rfl
  | cons x xs ih => simp only [List.map, List.cons_append, evalContinueLoop_N, ih]

theorem two_of_len {α : Type} (l : List α) (n : Nat) (h : l.length = n + 1) (hn : 1 ≤ n) :
    ∃ x y B, l = x :: y :: B ∧ (y :: B).length = n := by
  match l, h with
  | x :: y :: B, h => exact ⟨x, y, B, rfl, by simp at h ⊢; omega⟩
  | [x], h => simp at h; omega

section
variable {p : Program} {bk ck bk' ck' : Bool} {A A0 : List Frame} {b : Frame} {cs : List Frame}
  {K K' : List (St × Expr)} {V V' V0 : List Value} {n n' : Nat} {out out0 o : String}
  {used used' : Bool} {r r' : Res} {σ σ' : List Block} {st st' : St} {e : Expr} {v : Value} {er : Err}

theorem Concl.prepend (h0 : MS p A0 out0 A out) (h : Concl p bk ck A b cs K V n out used r) :
    Concl p bk ck A0 b cs K V n out0 used r := by
  unfold Concl at h ⊢
  cases hr : r.outcome <;> simp only [hr] at h ⊢
  · exact ⟨h.1, h0.trans h.2⟩
  · exact ⟨h.1, h.2.1, fun G hG => h0.trans (h.2.2 G hG)⟩
  · exact ⟨h.1, h.2.1, fun G hG => h0.trans (h.2.2 G hG)⟩
  · obtain ⟨V', B', h1⟩ := h; exact ⟨V', B', h0.trans h1⟩
  · obtain ⟨T, g, h1, h2⟩ := h; exact ⟨T, g, h0.trans h1, h2⟩

/-- What the result `d` of one `dispatch`, reached with output log `o`, has to be when the reference
interpreter ends the node with `r`: about `dispatch` and the reference clause alone, no run. -/
def Leaf (b : Frame) (K : List (St × Expr)) (V : List Value) (used : Bool) (n : Nat) (o : String)
    (d : Disp) (r : Res) : Prop :=
  match r.outcome with
  | .val v => r.scopes.length = n ∧
      ((d = .ok ((F b K V r.scopes).pushVIf used v) ∧ r.out = o) ∨
        ∃ w, d = .okOut ((F b K V r.scopes).pushVIf used v) w ∧ r.out = o ++ w)
  | .err er => r.out = o ∧ ∃ f' st' vals, d = .err f' st' vals er
  | .unsupported _ => True
  | _ => False

theorem Leaf.val {d : Disp} (hd : d = .ok ((F b K V σ').pushVIf used v)) (hn : σ'.length = n) :
    Leaf b K V used n o d ⟨σ', o, .val v⟩ := ⟨hn, .inl ⟨hd, rfl⟩⟩

theorem Leaf.print {d : Disp} {w : String} (hd : d = .okOut ((F b K V σ').pushVIf used v) w)
    (hn : σ'.length = n) : Leaf b K V used n o d ⟨σ', o ++ w, .val v⟩ := ⟨hn, .inr ⟨w, hd, rfl⟩⟩

theorem Leaf.err {d : Disp} {f' : Frame} {vals : List Value} (hd : d = .err f' st' vals er) :
    Leaf b K V used n o d ⟨σ', o, .err er⟩ := ⟨rfl, f', st', vals, hd⟩

theorem Leaf.unsupported {d : Disp} {w : String} : Leaf b K V used n o d ⟨σ', out, .unsupported w⟩ := trivial

theorem Concl.leaf (hms : MS p A out (F b ((st, e) :: K) V0 σ :: cs) o)
    (h : Leaf b K V used n o (dispatch p (F b K V0 σ) st e) r) : Concl p bk ck A b cs K V n out used r := by
  obtain ⟨s, o', oc⟩ := r
  cases oc <;> try exact h.elim
  case val v =>
    obtain ⟨hn, ⟨hd, rfl⟩ | ⟨w, hd, rfl⟩⟩ := h
    · exact ⟨hn, hms.trans (MS.one (F_pushVIf b K V s used v ▸ hd))⟩
    · exact ⟨hn, hms.trans (MS.okOut (f := F b ((st, e) :: K) V0 σ) rfl (F_pushVIf b K V s used v ▸ hd) (MS.refl _ _))⟩
  case err er =>
    obtain ⟨rfl, f', st', vals, hd⟩ := h
    exact ⟨_, _, hms, st, e, K, f', st', vals, rfl, hd⟩
  case unsupported => trivial

theorem d_brk_eq (h : evalBreakLoop K V σ = evalBreakLoop K' V' σ') :
    dispatch p (F b K V σ) .N (.brk 0 false) = dispatch p (F b K' V' σ') .N (.brk 0 false) := by
  simp only [dispatch_brk, F_exprs, F_values, F_blocks, h]
  rfl

theorem d_cont_eq (h : evalContinueLoop K V σ = evalContinueLoop K' V' σ') :
    dispatch p (F b K V σ) .N (.cont 0 false) = dispatch p (F b K' V' σ') .N (.cont 0 false) := by
  simp only [dispatch_cont, F_exprs, F_values, F_blocks, h]
  rfl

/-- An outcome that is not a value says nothing of the value to push, and of the continuation only
what `break` / `continue` make of it: the conclusion carries over to any continuation on which
`evalBreakLoop` / `evalContinueLoop` give the same. -/
theorem Concl.nonval (h : Concl p bk ck A b cs K V n out used r) (hnv : ∀ v, r.outcome ≠ .val v)
    (ho : r'.out = r.out) (hc : r'.outcome = r.outcome)
    (hb : r.outcome = .brk → bk = true → r.scopes.length = n →
      bk' = true ∧ r'.scopes.length = n' ∧ evalBreakLoop K V r.scopes = evalBreakLoop K' V' r'.scopes)
    (hct : r.outcome = .cont → ck = true → r.scopes.length = n →
      ck' = true ∧ r'.scopes.length = n' ∧ evalContinueLoop K V r.scopes = evalContinueLoop K' V' r'.scopes) :
    Concl p bk' ck' A b cs K' V' n' out used' r' := by
  unfold Concl at h ⊢
  rw [hc, ho]
  cases hr : r.outcome <;> simp only [hr] at h ⊢
  · exact absurd hr (hnv _)
  · obtain ⟨h1, h2, h3⟩ := hb hr h.1 h.2.1
    exact ⟨h1, h2, fun G hG => h.2.2 G (d_brk_eq h3 ▸ hG)⟩
  · obtain ⟨h1, h2, h3⟩ := hct hr h.1 h.2.1
    exact ⟨h1, h2, fun G hG => h.2.2 G (d_cont_eq h3 ▸ hG)⟩
  · exact h
  · exact h

theorem Concl.operand_nonval (h : Concl p false false A b cs K V n out used r)
    (hnv : ∀ v, r.outcome ≠ .val v) : Concl p bk ck A b cs K' V' n' out used' r :=
  h.nonval hnv rfl rfl (fun _ h => absurd h (by decide)) (fun _ h => absurd h (by decide))

theorem Concl.weaken (h : Concl p false false A b cs K V n out used r) :
    Concl p bk ck A b cs K V n out used r := by
  unfold Concl at h ⊢
  cases hr : r.outcome <;> simp only [hr] at h ⊢
  · exact h
  · exact absurd h.1 (by decide)
  · exact absurd h.1 (by decide)
  · exact h
  · exact h

theorem Concl.skipNs {xs : List Expr}
    (h : Concl p bk ck A b cs (xs.map (fun e => (St.N, e)) ++ K) V n out used r)
    (hnv : ∀ v, r.outcome ≠ .val v) : Concl p bk ck A b cs K V n out used' r :=
  h.nonval hnv rfl rfl (fun _ hb hn => ⟨hb, hn, evalBreakLoop_congr (evalContinueLoop_skipNs K V _ xs)⟩)
    (fun _ hc hn => ⟨hc, hn, evalContinueLoop_skipNs K V _ xs⟩)

theorem Concl.indep (h : Concl p bk ck A b cs K V n out used r) (ho : r'.out = r.out)
    (hc : r'.outcome = r.outcome) (hnv : ∀ v, r.outcome ≠ .val v) (hnb : r.outcome ≠ .brk)
    (hnc : r.outcome ≠ .cont) : Concl p bk' ck' A b cs K' V' n' out used' r' :=
  h.nonval hnv ho hc (fun hb => absurd hb hnb) (fun hc => absurd hc hnc)

theorem Concl.leave_block (ho : ownsBlock .E e = true) (hn : 1 ≤ n)
    (h : Concl p bk ck A b cs ((St.E, e) :: K) V (n + 1) out used r) (hnv : ∀ v, r.outcome ≠ .val v) :
    Concl p bk ck A b cs K V n out used' ⟨r.scopes.drop 1, r.out, r.outcome⟩ := by
  refine h.nonval hnv rfl rfl (fun _ hb hlen => ?_) (fun _ hc hlen => ?_) <;>
    obtain ⟨x, y, B, hs, hl'⟩ := two_of_len _ _ hlen hn
  · exact ⟨hb, hs ▸ hl', hs ▸ evalBreakLoop_congr (evalContinueLoop_owner ho K V x y B)⟩
  · exact ⟨hc, hs ▸ hl', hs ▸ evalContinueLoop_owner ho K V x y B⟩

end

def _root_.BigStep.Res.bind (r : Res) (k : Value → List Block → String → Res) : Res :=
  match r.outcome with
  | .val v => k v r.scopes r.out
  | _ => r

def _root_.BigStep.ResL.bind (r : ResL) (k : List Value → List Block → String → Res) : Res :=
  match r.result with
  | .ok vs => k vs r.scopes r.out
  | .error o => ⟨r.scopes, r.out, o⟩

def _root_.BigStep.Res.mapVal (f : Value → Value) (r : Res) : Res :=
  match r.outcome with
  | .val v => ⟨r.scopes, r.out, .val (f v)⟩
  | _ => r

theorem Res.mapVal_id (r : Res) : r.mapVal id = r := by
  obtain ⟨s, o, oc⟩ := r
  cases oc <;> rfl

/-- `letK` … `forK`: the rest of a node's clause in `evalWith` after its operand yielded a value, as a
continuation for `Res.bind`. -/
def letK (dest : Dest) (v : Value) (s : List Block) (o : String) : Res :=
  match destructure dest v (.typeError "Tuple") with
  | .ok binds => ⟨declareAll s binds, o, .val vUnit⟩
  | .error er => ⟨s, o, .err er⟩

def assignK (name : String) (v : Value) (s : List Block) (o : String) : Res :=
  match setExisting s name v with
  | some σ' => ⟨σ', o, .val vUnit⟩
  | none => ⟨s, o, .err (.notBound name)⟩

def updateK (p : Program) (isAdd : Bool) (name : String) (dv : Value) (s : List Block) (o : String) : Res :=
  match lookupVar p s name with
  | none => ⟨s, o, .err (.notBound name)⟩
  | some (.int cur) =>
    match dv with
    | .int d =>
      match setExisting s name (.int (if isAdd then cur + d else cur - d)) with
      | some σ' => ⟨σ', o, .val vUnit⟩
      | none => ⟨s, o, .err (.notBound name)⟩
    | _ => ⟨s, o, .err (.typeError "Int")⟩
  | some _ => ⟨s, o, .err (.typeError "Int")⟩

def unitIfNoElse (els : Option (List Expr)) (rb : Res) : Res :=
  match rb.outcome, els with
  | .val _, none => ⟨rb.scopes, rb.out, .val vUnit⟩
  | _, _ => rb

def ifK (ev : Ev) (thn : List Expr) (els : Option (List Expr)) (cv : Value) (s : List Block) (o : String) : Res :=
  match cv.asBool with
  | none => ⟨s, o, .err (.typeError "Bool")⟩
  | some true => unitIfNoElse els (runBlock ev [] thn s o)
  | some false =>
    match els with
    | none => ⟨s, o, .val vUnit⟩
    | some eb => runBlock ev [] eb s o

def matchK (p : Program) (ev : Ev) (cases : List Case) (sv : Value) (s : List Block) (o : String) : Res :=
  match sv with
  | .enumV ty idx payload =>
    match selectCase p s ty idx payload cases with
    | .take binds body => runBlock ev binds body s o
    | .fail er => ⟨s, o, .err er⟩
  | _ => ⟨s, o, .err .notEnum⟩

def loopNext (rb : Res) (next : List Block → String → Res) : Res :=
  match rb.outcome with
  | .val _ => next rb.scopes rb.out
  | .cont => next rb.scopes rb.out
  | .brk => ⟨rb.scopes, rb.out, .val vUnit⟩
  | _ => rb

def whileK (ev : Ev) (e : Expr) (body : List Expr) (cv : Value) (s : List Block) (o : String) : Res :=
  match cv.asBool with
  | none => ⟨s, o, .err (.typeError "Bool")⟩
  | some false => ⟨s, o, .val vUnit⟩
  | some true => loopNext (runBlock ev [] body s o) fun s' o' => ev s' o' e

def forK (ev : Ev) (dest : Dest) (body : List Expr) (iv : Value) (s : List Block) (o : String) : Res :=
  match iv with
  | .list items =>
    if items.length < 9223372036854775808 then forLoop ev dest body items s o
    else ⟨s, o, .unsupported "list of 2^63 or more items"⟩
  | _ => ⟨s, o, .err (.typeError "List")⟩

/-- `match` and `for` look into the value of their operand with a nested pattern; in this shape the
interpreter's clause is `Res.bind` with `matchK` / `forK`. -/
theorem bind_matchK (p : Program) (ev : Ev) (cases : List Case) (r : Res) :
    (match r.outcome with
      | .val (.enumV ty idx payload) =>
        match selectCase p r.scopes ty idx payload cases with
        | .take binds body => runBlock ev binds body r.scopes r.out
        | .fail er => ⟨r.scopes, r.out, .err er⟩
      | .val _ => ⟨r.scopes, r.out, .err .notEnum⟩
      | _ => r) = r.bind (matchK p ev cases) := by
  obtain ⟨s, o, oc⟩ := r
  cases oc <;> first | rfl | (rename_i v; cases v <;> rfl)

theorem bind_forK (ev : Ev) (dest : Dest) (body : List Expr) (r : Res) :
    (match r.outcome with
      | .val (.list items) =>
        if items.length < 9223372036854775808 then forLoop ev dest body items r.scopes r.out
        else ⟨r.scopes, r.out, .unsupported "list of 2^63 or more items"⟩
      | .val _ => ⟨r.scopes, r.out, .err (.typeError "List")⟩
      | _ => r) = r.bind (forK ev dest body) := by
  obtain ⟨s, o, oc⟩ := r
  cases oc <;> first | rfl | (rename_i v; cases v <;> rfl)

section
variable (ap : Ap) (p : Program) (n : Nat) (σ : List Block) (out : String) (id : Nat) (u : Bool)

theorem evalWith_var (name : String) :
    evalWith ap p (n + 1) σ out (.var id u name) =
      match lookupVar p σ name with
      | some v => ⟨σ, out, .val v⟩
      | none => ⟨σ, out, .err (.noSuchVar name)⟩ := rfl

theorem evalWith_paren (inner : Expr) :
    evalWith ap p (n + 1) σ out (.paren id u inner) = evalWith ap p n σ out inner := rfl

theorem evalWith_binop (op : BinOp) (l r : Expr) :
    evalWith ap p (n + 1) σ out (.binop id u op l r) =
      (evalWith ap p n σ out l).bind fun lv s1 o1 =>
      (evalWith ap p n s1 o1 r).bind fun rv s2 o2 => ⟨s2, o2, BigStep.binop op lv rv⟩ := rfl

theorem evalWith_let (dest : Dest) (inner : Expr) :
    evalWith ap p (n + 1) σ out (.letE id u dest inner) = (evalWith ap p n σ out inner).bind (letK dest) := rfl

theorem evalWith_assign (name : String) (inner : Expr) :
    evalWith ap p (n + 1) σ out (.assign id u name inner) =
      (evalWith ap p n σ out inner).bind (assignK name) := rfl

theorem evalWith_update (isAdd : Bool) (name : String) (inner : Expr) :
    evalWith ap p (n + 1) σ out (.update id u isAdd name inner) =
      (evalWith ap p n σ out inner).bind (updateK p isAdd name) := rfl

theorem evalWith_if (c : Expr) (thn : List Expr) (els : Option (List Expr)) :
    evalWith ap p (n + 1) σ out (.ifE id u c thn els) =
      (evalWith ap p n σ out c).bind (ifK (evalWith ap p n) thn els) := rfl

theorem evalWith_match (scrut : Expr) (cases : List Case) :
    evalWith ap p (n + 1) σ out (.matchE id u scrut cases) =
      (evalWith ap p n σ out scrut).bind (matchK p (evalWith ap p n) cases) :=
  bind_matchK p (evalWith ap p n) cases (evalWith ap p n σ out scrut)

theorem evalWith_while (c : Expr) (body : List Expr) :
    evalWith ap p (n + 1) σ out (.whileE id u c body) =
      (evalWith ap p n σ out c).bind (whileK (evalWith ap p n) (.whileE id u c body) body) := rfl

theorem evalWith_for (dest : Dest) (iter : Expr) (body : List Expr) :
    evalWith ap p (n + 1) σ out (.forE id u dest iter body) =
      (evalWith ap p n σ out iter).bind (forK (evalWith ap p n) dest body) :=
  bind_forK (evalWith ap p n) dest body (evalWith ap p n σ out iter)

theorem evalWith_ret (x : Expr) :
    evalWith ap p (n + 1) σ out (.ret id u (some x)) =
      (evalWith ap p n σ out x).bind fun v s o => ⟨s, o, .ret v⟩ := rfl

theorem evalWith_list (items : List Expr) :
    evalWith ap p (n + 1) σ out (.list id u items) =
      (evalRtl (evalWith ap p n) items σ out).bind fun vs s o => ⟨s, o, .val (.list vs)⟩ := rfl

theorem evalWith_tuple (items : List Expr) :
    evalWith ap p (n + 1) σ out (.tuple id u items) =
      (evalRtl (evalWith ap p n) items σ out).bind fun vs s o => ⟨s, o, .val (.tuple vs)⟩ := rfl

theorem evalWith_call (recv : Expr) (args : List Expr) :
    evalWith ap p (n + 1) σ out (.call id u recv args) =
      (evalWith ap p n σ out recv).bind fun fv s1 o1 =>
      (evalRtl (evalWith ap p n) args s1 o1).bind fun vs s2 o2 => ap (evalWith ap p n) s2 o2 fv vs := rfl

end

theorem evalSeq_cons (ev : Ev) (last : Value) (e : Expr) (rest : List Expr) (σ : List Block) (out : String) :
    evalSeq ev last (e :: rest) σ out = (ev σ out e).bind fun v s o => evalSeq ev v rest s o := rfl

theorem evalRtl_cons_bind (ev : Ev) (e : Expr) (rest : List Expr) (σ : List Block) (o : String)
    (k : List Value → List Block → String → Res) :
    (evalRtl ev (e :: rest) σ o).bind k =
      (evalRtl ev rest σ o).bind fun vs s o' => (ev s o' e).bind fun v s' o'' => k (v :: vs) s' o'' := by
  simp only [evalRtl]
  generalize evalRtl ev rest σ o = r
  obtain ⟨s, o', res⟩ := r
  cases res with
  | error oc => rfl
  | ok vs =>
    simp only [ResL.bind]
    generalize ev s o' e = r1
    obtain ⟨s1, o1, oc⟩ := r1
    cases oc <;> rfl

theorem forLoop_cons (ev : Ev) (dest : Dest) (body : List Expr) (x : Value) (xs : List Value) (σ : List Block)
    (out : String) :
    forLoop ev dest body (x :: xs) σ out =
      match destructure dest x (.typeError "Tuple") with
      | .error e => ⟨σ, out, .err e⟩
      | .ok binds => loopNext (runBlock ev binds body σ out) (forLoop ev dest body xs) := rfl

theorem declareAll_length (kvs : List (String × Value)) (bs : List Block) :
    (declareAll bs kvs).length = bs.length :=
  foldl_addNew_length kvs bs

theorem getVar_F (p : Program) (b : Frame) (K : List (St × Expr)) (V : List Value) (σ : List Block) (bs : Block)
    (name : String) : getVar p { F b K V σ with nextBlock := bs } name = lookupVar p σ name := by
  simp only [getVar, lookupVar, F]; cases lookupBlocks σ name <;> rfl

theorem popN_append (vs V : List Value) : popN vs.length (vs ++ V) = some (vs, V) :=
  popN_eq_some.2 ⟨rfl, rfl⟩

theorem evalBlock_F (b : Frame) (K : List (St × Expr)) (V : List Value) (σ : List Block) (bs : Block)
    (used : Bool) (body : List Expr) :
    evalBlock { F b K V σ with nextBlock := bs } used body =
      F b (body.map (fun e => (St.N, e)) ++ K) (pushIf (used && body.isEmpty) vUnit V)
        (declareAll ([] :: σ) bs) :=
  evalBlock_eq _ used body

theorem foldl_addNew_filter (kvs : List (String × Value)) (σ : List Block) :
    (kvs.filter (fun kv => kv.1 != "_")).foldl (fun bs kv => addNew bs kv.1 kv.2) σ =
      kvs.foldl (fun bs kv => addNew bs kv.1 kv.2) σ := by
  induction kvs generalizing σ with
  | nil => rfl
  | cons kv rest ih =>
    by_cases h : kv.1 = "_"
    · have h1 : (kv.1 != "_") = false := by simp [h]
      have h2 : addNew σ kv.1 kv.2 = σ := by simp [addNew, h]
      simp only [List.filter_cons, h1, List.foldl_cons, h2, Bool.false_eq_true, if_false]; exact ih σ
    · have h1 : (kv.1 != "_") = true := by simp [h]
      simp only [List.filter_cons, h1, if_true, List.foldl_cons]; exact ih _

section
variable {p : Program} {L : Nat} {ev : Ev} {bk ck : Bool} {A : List Frame} {b : Frame} {cs : List Frame}
  {K K' : List (St × Expr)} {V V' : List Value} {n : Nat} {out : String} {used : Bool} {σ : List Block}

theorem pos_ne (hn : σ.length = n) (hpos : 0 < n) : σ ≠ [] := by
  rintro rfl; subst hn; cases hpos

/-- The number `n` of scopes is the same before and after every expression, so it is fixed once for
a whole node. -/
theorem IH.after (ih : IH p L ev) {e : Expr} {o : String} (he : Node L bk ck e) (hn : σ.length = n) (hpos : 0 < n)
    (hms : MS p A out (F b ((.N, e) :: K) V σ :: cs) o) :
    Concl p bk ck A b cs K V n out e.used (ev σ o e) :=
  hn ▸ (ih bk ck e σ o (pos_ne hn hpos) he.1 he.2.1 he.2.2 b cs K V).prepend hms

theorem IH.bind (ih : IH p L ev) {e : Expr} {o : String} {k : Value → List Block → String → Res}
    (ho : Operand L e) (hn : σ.length = n) (hpos : 0 < n)
    (hms : MS p A out (F b ((.N, e) :: K') V' σ :: cs) o)
    (hk : ∀ v s o', s.length = n → MS p A out (F b K' (v :: V') s :: cs) o' →
      Concl p bk ck A b cs K V n out used (k v s o')) :
    Concl p bk ck A b cs K V n out used ((ev σ o e).bind k) := by
  have h := ho.1 ▸ ih.after ho.2 hn hpos hms
  generalize ev σ o e = r at h ⊢
  obtain ⟨s, o', oc⟩ := r
  cases oc
  case val v => exact hk v s o' h.1 h.2
  all_goals exact h.operand_nonval (by intro v hv; cases hv)

/-- Evaluated last to first, so that the first value ends on top. -/
theorem IH.bindRtl (ih : IH p L ev) (hpos : 0 < n) :
    ∀ (items : List Expr) {K' : List (St × Expr)} {k : List Value → List Block → String → Res}
      {σ : List Block} {o : String}, Operands L items → σ.length = n →
      MS p A out (F b (items.reverse.map (fun e => (St.N, e)) ++ K') V' σ :: cs) o →
      (∀ vs s o', vs.length = items.length → s.length = n → MS p A out (F b K' (vs ++ V') s :: cs) o' →
        Concl p bk ck A b cs K V n out used (k vs s o')) →
      Concl p bk ck A b cs K V n out used ((evalRtl ev items σ o).bind k)
  | [], _, _, σ, o, _, hn, hms, hk => hk [] σ o rfl hn hms
  | e :: rest, K', k, σ, o, hg, hn, hms, hk => by
      rw [evalRtl_cons_bind]
      rw [show (e :: rest).reverse.map (fun e => (St.N, e)) ++ K' =
        rest.reverse.map (fun e => (St.N, e)) ++ ((St.N, e) :: K') by simp] at hms
      exact ih.bindRtl hpos rest hg.cons.2 hn hms fun vs s o' hl hs h1 =>
        ih.bind hg.cons.1 hs hpos h1 fun v s' o'' hs' h2 => hk (v :: vs) s' o'' (congrArg (· + 1) hl) hs' h2

end

section
variable {p : Program} {L : Nat} {ev : Ev} {bk ck : Bool} {A : List Frame} {b : Frame} {cs : List Frame}
  {K : List (St × Expr)} {V : List Value} {n : Nat} {out : String}

/-- Of the values only the last is pushed, and only if `u` (`wfB`). -/
theorem IH.seq (ih : IH p L ev) (u : Bool) (hpos : 0 < n) :
    ∀ (body : List Expr) (last : Value) {σ : List Block} {o : String}, Stmts L u bk ck body → σ.length = n →
      MS p A out (F b (body.map (fun e => (St.N, e)) ++ K) V σ :: cs) o →
      Concl p bk ck A b cs K V n out (u && !body.isEmpty) (evalSeq ev last body σ o)
  | [], last, σ, o, _, hn, hms => ⟨hn, by simpa [pushIf, evalSeq] using hms⟩
  | e :: rest, last, σ, o, hg, hn, hms => by
      obtain ⟨hu, he, hr⟩ := hg.cons
      have h1 := ih.after he hn hpos hms
      rw [evalSeq_cons]
      generalize ev σ o e = r1 at h1 ⊢
      obtain ⟨s1, o1, oc⟩ := r1
      cases oc
      case val v =>
        cases rest with
        | nil => exact ⟨h1.1, by simpa [hu, evalSeq, Res.bind] using h1.2⟩
        | cons x xs => exact ih.seq u hpos (x :: xs) v hr h1.1 (by simpa [hu, pushIf] using h1.2)
      all_goals exact h1.skipNs (by intro v hv; cases hv)

/-- `hE`: the step of the pending `(E, e)` pops the block and turns the block's value `v` into the
node's value `post v`. -/
theorem IH.block (ih : IH p L ev) {e : Expr} (ho : ownsBlock .E e = true) {ub used : Bool}
    {post : Value → Value}
    (hE : ∀ v x y B, dispatch p (F b K (pushIf ub v V) (x :: y :: B)) .E e =
      .ok (F b K (pushIf used (post v) V) (y :: B)))
    {binds : List (String × Value)} {body : List Expr} {s1 : List Block} {o1 : String}
    (hg : Stmts L ub bk ck body) (hn : s1.length = n) (hpos : 0 < n)
    (hms : MS p A out (F b (body.map (fun e => (St.N, e)) ++ (.E, e) :: K) (pushIf (ub && body.isEmpty) vUnit V)
      (declareAll ([] :: s1) binds) :: cs) o1) :
    Concl p bk ck A b cs K V n out used ((runBlock ev binds body s1 o1).mapVal post) := by
  have hseq := ih.seq ub (Nat.succ_pos n) body vUnit hg
    (by simp [declareAll_length, hn] : (declareAll ([] :: s1) binds).length = n + 1) hms
  simp only [runBlock]
  generalize hrs : evalSeq ev vUnit body (declareAll ([] :: s1) binds) o1 = rs at hseq ⊢
  obtain ⟨s2, o2, oc2⟩ := rs
  cases oc2
  case val v =>
    obtain ⟨x, y, B, rfl, hlen2⟩ := two_of_len _ _ hseq.1 hpos
    refine ⟨hlen2, hseq.2.trans ?_⟩
    have hpv : pushIf (ub && !body.isEmpty) v (pushIf (ub && body.isEmpty) vUnit V) = pushIf ub v V := by
      cases body with
      | nil => simp [evalSeq] at hrs; simp [pushIf, hrs.2.2]
      | cons x xs => simp [pushIf]
    rw [hpv]
    exact MS.one (hE v x y B)
  all_goals
    cases body with
    | nil => simp [evalSeq] at hrs
    | cons x xs =>
      rw [show pushIf (ub && (x :: xs).isEmpty) vUnit V = V by simp [pushIf]] at hseq
      exact hseq.leave_block ho hpos (by intro v hv; cases hv)

end

mutual
/-- Every closure inside the value has a body inside the fragment (`bodyOK`), recursively
through lists, tuples, payloads and captured scopes. -/
def vok : Value → Bool
  | .int _ | .str _ | .fn _ | .builtin _ | .enumC _ _ => true
  | .list items => vokL items
  | .tuple items => vokL items
  | .enumV _ _ none => true
  | .enumV _ _ (some v) => vok v
  | .closure env _ body => bodyOK body && vokE env
def vokL : List Value → Bool
  | [] => true
  | v :: vs => vok v && vokL vs
def vokE : List (List (String × Value)) → Bool
  | [] => true
  | b :: bs => vokB b && vokE bs
def vokB : List (String × Value) → Bool
  | [] => true
  | kv :: r => vok kv.2 && vokB r
end

theorem vBool_ok (b : Bool) : vok (vBool b) = true := by cases b <;> rfl

theorem intBinop_ok (op : BinOp) (a b : Int64) (v : Value) (h : intBinop op a b = .ok v) : vok v = true := by
  cases op
  case add | sub | mul | bitand | bitor => cases h; rfl
  case lt | le | gt | ge => cases h; exact vBool_ok _
  case div | mod =>
    simp only [intBinop] at h
    split at h
    · cases h
    · split at h <;> cases h
      rfl
  case pow =>
    simp only [intBinop] at h
    split at h
    · cases h
    · split at h
      · cases h
      · split at h <;> cases h
        rfl
  all_goals cases h

def okO : Outcome → Bool
  | .val v => vok v
  | .ret v => vok v
  | _ => true

/-- The arithmetic and comparison operators: both operands must be `Int`. -/
def arith : BinOp → Bool
  | .eq | .ne | .and | .or | .concat | .floatOp => false
  | _ => true

theorem binop_int (op : BinOp) (h : arith op = true) (a c : Int64) :
    BigStep.binop op (.int a) (.int c) =
      match intBinop op a c with
      | .ok v => .val v
      | .err e => .err e
      | .panic site => .unsupported ("panic " ++ site) := by
  cases op <;> first | rfl | exact absurd h (by decide)

theorem binop_nonint (op : BinOp) (h : arith op = true) (lv rv : Value)
    (hn : ∀ a c, lv = .int a → rv = .int c → False) :
    BigStep.binop op lv rv = .err (.typeError "Int") := by
  cases op
  case eq | ne | and | or | concat | floatOp => exact absurd h (by decide)
  -- `hn` is the side condition of the catch-all equation of the `match`; `simp` finds it in the context
  all_goals simp only [BigStep.binop]

theorem binopBody_int (g : Frame) (u : Bool) (op : BinOp) (h : arith op = true) (a c : Int64) :
    binopBody g u op (.int a) (.int c) =
      match intBinop op a c with
      | .ok v => .ok (g.pushVIf u v)
      | .err er => .err g .E [.int a, .int c] er
      | .panic site => .panic site := by
  cases op <;> first | rfl | exact absurd h (by decide)

theorem binopBody_nonint (g : Frame) (u : Bool) (op : BinOp) (h : arith op = true) (lv rv : Value)
    (hn : ∀ a c, lv = .int a → rv = .int c → False) :
    binopBody g u op lv rv = .err g .E [lv, rv] (.typeError "Int") := by
  cases op
  case eq | ne | and | or | concat | floatOp => exact absurd h (by decide)
  all_goals simp only [binopBody]

/-- `g` = the frame without the operands. The reference has no other outcomes, and its values hold
no closures. -/
theorem binopBody_spec (g : Frame) (u : Bool) (op : BinOp) (lv rv : Value) :
    match BigStep.binop op lv rv with
    | .val v => vok v = true ∧ binopBody g u op lv rv = .ok (g.pushVIf u v)
    | .err er => binopBody g u op lv rv = .err g .E [lv, rv] er
    | .unsupported _ => True
    | _ => False := by
  cases ha : arith op
  · cases op
    case floatOp => trivial
    case eq | ne => exact ⟨vBool_ok _, rfl⟩
    case and | or =>
      simp only [BigStep.binop, binopBody]
      cases lv.asBool <;> cases rv.asBool <;> first | rfl | exact ⟨vBool_ok _, rfl⟩
    case concat =>
      by_cases hs : ∃ a c, lv = .str a ∧ rv = .str c
      · obtain ⟨a, c, rfl, rfl⟩ := hs
        exact ⟨rfl, rfl⟩
      · have hn : ∀ a c, lv = .str a → rv = .str c → False := fun a c h1 h2 => hs ⟨a, c, h1, h2⟩
        -- both catch-all equations take `hn` from the context
        simp only [BigStep.binop, binopBody]
    all_goals exact absurd ha (by decide)
  · by_cases hi : ∃ a c, lv = .int a ∧ rv = .int c
    · obtain ⟨a, c, rfl, rfl⟩ := hi
      rw [binop_int op ha, binopBody_int g u op ha]
      cases h : intBinop op a c <;> first | exact ⟨intBinop_ok op a c _ h, rfl⟩ | rfl | trivial
    · have hn : ∀ a c, lv = .int a → rv = .int c → False := fun a c h1 h2 => hi ⟨a, c, h1, h2⟩
      rw [binop_nonint op ha lv rv hn, binopBody_nonint g u op ha lv rv hn]

theorem binop_okO (op : BinOp) (lv rv : Value) : okO (BigStep.binop op lv rv) = true := by
  -- `binopBody_spec` has gone through the operators once and records `vok` of every value; any frame will do
  have h := binopBody_spec (initFrame []) false op lv rv
  cases hb : BigStep.binop op lv rv <;> rw [hb] at h <;> first | exact h.1 | rfl | exact h.elim

section
variable {p : Program} {b : Frame} {K : List (St × Expr)} {V : List Value} {n : Nat} {o : String} {σ : List Block}
  {id : Nat} {u : Bool}

theorem binop_leaf (op : BinOp) (lv rv : Value) (hn : σ.length = n) :
    Leaf b K V u n o (binopBody (F b K V σ) u op lv rv) ⟨σ, o, BigStep.binop op lv rv⟩ := by
  have key := binopBody_spec (F b K V σ) u op lv rv
  cases hb : BigStep.binop op lv rv <;> rw [hb] at key
  case val => exact Leaf.val key.2 hn
  case err => exact Leaf.err key
  case unsupported => exact Leaf.unsupported
  all_goals exact key.elim

theorem let_leaf (dest : Dest) (v : Value) (hn : σ.length = n) :
    Leaf b K V u n o (letBody (F b K V σ) u dest v) (letK dest v σ o) := by
  cases dest with
  | sym name => exact Leaf.val rfl ((addNew_length σ name v).trans hn)
  | destr names =>
    cases v
    case tuple items =>
      simp only [letK, destructure, letBody]
      cases hc : items.length != names.length <;> simp only [Bool.false_eq_true, if_false, if_true]
      · exact Leaf.val rfl ((declareAll_length _ _).trans hn)
      · exact Leaf.err rfl
    all_goals exact Leaf.err rfl

theorem assign_leaf (name : String) (inner : Expr) (v : Value) (hn : σ.length = n) :
    Leaf b K V u n o (dispatch p (F b K (v :: V) σ) .E (.assign id u name inner)) (assignK name v σ o) := by
  have hs := setExisting_isSome σ name v
  rw [dispatch_assign_E]
  unfold assignK
  cases h : setExisting σ name v <;> cases h2 : lookupBlocks σ name <;> rw [h, h2] at hs <;>
    simp only [F_values, F_blocks, h, h2, Option.isNone_none, Option.isNone_some, if_true, if_false,
      Bool.false_eq_true]
  · exact Leaf.err rfl
  · cases hs
  · cases hs
  · exact Leaf.val rfl ((setExisting_length h).trans hn)

theorem update_leaf (isAdd : Bool) (name : String) (inner : Expr) (dv : Value) (hn : σ.length = n) :
    Leaf b K V u n o (dispatch p (F b K (dv :: V) σ) .E (.update id u isAdd name inner))
      (updateK p isAdd name dv σ o) := by
  rw [dispatch_update_E,
    show getVar p (F b K (dv :: V) σ) name = lookupVar p σ name from getVar_F p b K (dv :: V) σ [] name]
  unfold updateK
  cases hlk : lookupVar p σ name
  case none => exact Leaf.err rfl
  case some cv =>
    cases cv
    case int cur =>
      cases dv
      case int d =>
        -- an `Int` is never found in the namespace, so the variable is in a scope and can be set
        have hset := setExisting_of_lookup name (.int (if isAdd then cur + d else cur - d)) σ
          (lookupBlocks_of_getVar_int p (F b K (.int d :: V) σ) name cur ((getVar_F p b K _ σ [] name).trans hlk))
        simp only [F_values, F_blocks, updateBody]
        cases hse : setExisting σ name (.int (if isAdd then cur + d else cur - d))
        · exact absurd hse hset
        · exact Leaf.val rfl ((setExisting_length hse).trans hn)
      all_goals exact Leaf.err rfl
    all_goals exact Leaf.err rfl

end

def ifValue (els : Option (List Expr)) (v : Value) : Value :=
  match els with
  | none => vUnit
  | some _ => v

theorem unitIfNoElse_eq (els : Option (List Expr)) (r : Res) :
    unitIfNoElse els r = r.mapVal (ifValue els) := by
  obtain ⟨s, o, oc⟩ := r
  cases els <;> cases oc <;> rfl

theorem if_E (p : Program) (b : Frame) (K : List (St × Expr)) (V : List Value) (x y : Block) (B : List Block)
    (id : Nat) (u : Bool) (c : Expr) (t : List Expr) (els : Option (List Expr)) (v : Value) :
    dispatch p (F b K (pushIf (u && els.isSome) v V) (x :: y :: B)) .E (.ifE id u c t els) =
      .ok (F b K (pushIf u (ifValue els v) V) (y :: B)) := by
  cases els <;> cases u <;> rfl

theorem if_run {p : Program} {L : Nat} {ev : Ev} (ih : IH p L ev) {bk ck : Bool} {A : List Frame} {b : Frame}
    {cs : List Frame} {K : List (St × Expr)} {V : List Value} {n : Nat} {out o1 : String} {s1 : List Block}
    {id : Nat} {u : Bool} {c : Expr} {t : List Expr} {els : Option (List Expr)} {cv : Value}
    (hg : Node L bk ck (.ifE id u c t els)) (hn : s1.length = n) (hpos : 0 < n)
    (hms : MS p A out (F b ((.PW, .ifE id u c t els) :: K) (cv :: V) s1 :: cs) o1) :
    Concl p bk ck A b cs K V n out u (ifK ev t els cv s1 o1) := by
  have hd := dispatch_if_run (st := .PW) (by decide) (by decide) p (F b K (cv :: V) s1) id u c t els
  simp only [F_values, ifBody] at hd
  have hblock : ∀ body, Stmts L (u && els.isSome) bk ck body →
      dispatch p (F b K (cv :: V) s1) .PW (.ifE id u c t els) =
        .ok (evalBlock (F b ((.E, .ifE id u c t els) :: K) V s1) (u && els.isSome) body) →
      Concl p bk ck A b cs K V n out u ((runBlock ev [] body s1 o1).mapVal (ifValue els)) :=
    fun body hb hd => ih.block rfl (fun v x y B => if_E p b K V x y B id u c t els v) hb hn hpos
      (hms.trans (MS.one (hd.trans (congrArg _ (evalBlock_F b _ V s1 [] _ body)))))
  unfold ifK
  cases hb : cv.asBool <;> simp only [hb] at hd
  · exact Concl.leaf hms (Leaf.err hd)
  · rename_i bv
    cases bv <;> simp only [Bool.false_eq_true, if_false, if_true] at hd
    · cases els with
      | none =>
        match s1, pos_ne hn hpos with
        | y :: B, _ => exact ⟨hn, hms.trans ((MS.one hd).trans (MS.one (by cases u <;> rfl)))⟩
      | some eb =>
        dsimp only
        rw [← Res.mapVal_id (runBlock ev [] eb s1 o1)]
        exact hblock eb (hg.ifE.2.2 eb rfl) hd
    · dsimp only
      rw [unitIfNoElse_eq]
      exact hblock t hg.ifE.2.1 hd

/-- `none`: payload and destination do not go together, the case is passed over. -/
def casePayload (payload : Option Value) (dest : Option Dest) : Option (Except Err (List (String × Value))) :=
  match payload, dest with
  | some pl, some d => some (destructure d pl (.typeError "tuple-payload"))
  | none, none => some (.ok [])
  | _, _ => none

theorem selectCase_cons (p : Program) (σ : List Block) (ty : String) (idx : Nat) (payload : Option Value)
    (variant : String) (dest : Option Dest) (body : List Expr) (rest : List Case) :
    selectCase p σ ty idx payload (.mk variant dest body :: rest) =
      if variant == "_" then .take [] body else
      match (lookupVar p σ variant).bind patKey with
      | none => .fail (.badPattern variant)
      | some (pty, pidx) =>
        if ty == pty && idx == pidx then
          match casePayload payload dest with
          | some (.ok binds) => .take binds body
          | some (.error e) => .fail e
          | none => selectCase p σ ty idx payload rest
        else selectCase p σ ty idx payload rest := by
  conv => lhs; unfold selectCase
  split
  · rfl
  · cases lookupVar p σ variant with
    | none => rfl
    | some pv =>
      cases pv <;> try rfl
      all_goals
        simp only [Option.bind, patKey]
        split
        · cases payload <;> cases dest <;> try rfl
          rename_i pl d
          simp only [casePayload]
          cases destructure d pl (.typeError "tuple-payload") <;> rfl
        · rfl

theorem selectCase_take (p : Program) (σ : List Block) (ty : String) (idx : Nat) (payload : Option Value)
    (binds : List (String × Value)) (body : List Expr) :
    ∀ (cases : List Case), selectCase p σ ty idx payload cases = .take binds body →
      ∃ vn d, Case.mk vn d body ∈ cases ∧ (binds = [] ∨ casePayload payload d = some (.ok binds))
  | [], h => by simp [selectCase] at h
  | .mk variant dest cbody :: rest, h => by
      have lift : selectCase p σ ty idx payload rest = .take binds body →
          ∃ vn d, Case.mk vn d body ∈ Case.mk variant dest cbody :: rest ∧
            (binds = [] ∨ casePayload payload d = some (.ok binds)) := fun h =>
        have ⟨vn, d, hm, hb⟩ := selectCase_take p σ ty idx payload binds body rest h
        ⟨vn, d, List.mem_cons_of_mem _ hm, hb⟩
      rw [selectCase_cons] at h
      split at h
      · cases h; exact ⟨variant, dest, List.mem_cons_self, Or.inl rfl⟩
      · split at h
        · cases h
        · split at h
          · split at h
            · rename_i hc; cases h; exact ⟨variant, dest, List.mem_cons_self, Or.inr hc⟩
            · cases h
            · exact lift h
          · exact lift h

theorem bindPayload_spec (payload : Option Value) (dest : Option Dest) (σ : List Block) :
    match casePayload payload dest with
    | some (.ok binds) => ∃ bs, bindPayload payload dest = some (.ok bs) ∧
        bs.foldl (fun s kv => addNew s kv.1 kv.2) σ = declareAll σ binds
    | some (.error er) => bindPayload payload dest = some (.error er)
    | none => bindPayload payload dest = none := by
  cases payload <;> cases dest <;> try rfl
  case none.none => exact ⟨[], rfl, rfl⟩
  case some.some pl d =>
    cases d with
    | sym n =>
      simp only [casePayload, destructure, bindPayload, declareAll]
      by_cases hn : n = "_"
      · simp [hn, addNew]
      · simp [hn]
    | destr names =>
      cases pl <;> simp only [casePayload, destructure, bindPayload]
      case tuple items =>
        by_cases hl : items.length = names.length
        · simp [hl, declareAll, foldl_addNew_filter]
        · simp [hl]

theorem matchCases_select (p : Program) (b : Frame) (K : List (St × Expr)) (V : List Value) (σ : List Block)
    (used : Bool) (ty : String) (idx : Nat) (payload : Option Value) :
    ∀ (cases : List Case),
    match selectCase p σ ty idx payload cases with
    | .take binds body =>
        matchCases p (F b K V σ) used ty idx payload cases =
          .ok (F b (body.map (fun e => (St.N, e)) ++ K) (pushIf (used && body.isEmpty) vUnit V)
            (declareAll ([] :: σ) binds))
    | .fail er => matchCases p (F b K V σ) used ty idx payload cases = .error er
  | [] => rfl
  | .mk variant dest body :: rest => by
      have ihr := matchCases_select p b K V σ used ty idx payload rest
      rw [selectCase_cons, matchCases,
        show getVar p (F b K V σ) variant = lookupVar p σ variant from getVar_F p b K V σ [] variant]
      by_cases hv : (variant == "_") = true
      · simp only [hv, if_true]
        exact congrArg _ (evalBlock_F b K V σ [] used body)
      · simp only [hv, Bool.false_eq_true, if_false]
        cases lookupVar p σ variant with
        | none => rfl
        | some pv =>
          simp only [Option.bind]
          cases patKey pv with
          | none => rfl
          | some key =>
            obtain ⟨pty, pidx⟩ := key
            by_cases hm : (ty == pty && idx == pidx) = true
            · simp only [hm, if_true]
              have hb := bindPayload_spec payload dest ([] :: σ)
              cases hc : casePayload payload dest with
              | none => rw [hc] at hb; rw [hb]; exact ihr
              | some rb =>
                cases rb with
                | error er => rw [hc] at hb; rw [hb]
                | ok binds =>
                  rw [hc] at hb
                  obtain ⟨bs, hb1, hb2⟩ := hb
                  rw [hb1]
                  exact congrArg _ ((evalBlock_F b K V σ bs used body).trans (congrArg (F b _ _) hb2))
            · simp only [hm, Bool.false_eq_true, if_false]
              exact ihr

theorem match_run {p : Program} {L : Nat} {ev : Ev} (ih : IH p L ev) {bk ck : Bool} {A : List Frame} {b : Frame}
    {cs : List Frame} {K : List (St × Expr)} {V : List Value} {n : Nat} {out o1 : String} {s1 : List Block}
    {id : Nat} {u : Bool} {sc : Expr} {cases : List Case} {sv : Value}
    (hc : CasesOK L u bk ck cases) (hn : s1.length = n) (hpos : 0 < n)
    (hms : MS p A out (F b ((.PW, .matchE id u sc cases) :: K) (sv :: V) s1 :: cs) o1) :
    Concl p bk ck A b cs K V n out u (matchK p ev cases sv s1 o1) := by
  cases sv
  case enumV ty idx payload =>
    have hd : dispatch p (F b K (.enumV ty idx payload :: V) s1) .PW (.matchE id u sc cases) =
        match matchCases p (F b ((.E, .matchE id u sc cases) :: K) V s1) u ty idx payload cases with
        | .ok f => .ok f
        | .error er => .err (F b K V s1) .PW [.enumV ty idx payload] er := rfl
    have hm := matchCases_select p b ((.E, .matchE id u sc cases) :: K) V s1 u ty idx payload cases
    unfold matchK
    dsimp only
    cases hsel : selectCase p s1 ty idx payload cases <;> rw [hsel] at hm <;> rw [hm] at hd
    · rename_i binds body
      obtain ⟨vn, d, hmem, _⟩ := selectCase_take p s1 ty idx payload binds body cases hsel
      dsimp only
      rw [← Res.mapVal_id (runBlock ev binds body s1 o1)]
      exact ih.block rfl (fun _ _ _ _ => rfl) (hc.mem hmem) hn hpos (hms.trans (MS.one hd))
    · exact Concl.leaf hms (Leaf.err hd)
  all_goals exact Concl.leaf hms (Leaf.err rfl)

theorem foldl_pushE (items : List Expr) (b : Frame) (K : List (St × Expr)) (V : List Value) (σ : List Block) :
    items.foldl (fun f x => f.pushE .N x) (F b K V σ) =
      F b (items.reverse.map (fun e => (St.N, e)) ++ K) V σ := by
  rw [foldl_pushN, List.map_reverse]; rfl

theorem sim_items {p : Program} {L : Nat} {ev : Ev} (ih : IH p L ev) {bk ck : Bool} {e : Expr}
    {items : List Expr} {mk : List Value → Value} {msg : String}
    (hN : ∀ f, dispatch p f .N e = .ok (items.foldl (fun f x => f.pushE .N x) (f.pushE .E e)))
    (hE : ∀ f, dispatch p f .E e =
      match popN items.length f.values with
      | some (got, vals) => .ok ({ f with values := vals }.pushVIf e.used (mk got))
      | none => .panic msg)
    {σ : List Block} {out : String} (hσ : σ ≠ []) (hg : Operands L items) :
    Holds p bk ck e σ out ((evalRtl ev items σ out).bind fun vs s o => ⟨s, o, .val (mk vs)⟩) := by
  intro b cs K V
  refine ih.bindRtl (List.length_pos_iff.2 hσ) items hg rfl
    (MS.one ((hN _).trans (congrArg _ (foldl_pushE items b _ V σ)))) fun vs s o hlen hn hms => ?_
  refine Concl.leaf hms (Leaf.val ?_ hn)
  rw [hE, F_values, ← hlen, popN_append]
  rfl

/-- What applying a function value must do on the machine side: the `E` step of the call node
(receiver and arguments on the value stack, first argument on top). -/
def ApHolds (p : Program) (ap : Ap) (ev : Ev) : Prop :=
  ∀ (σ : List Block) (out : String) (fv : Value) (vs : List Value) (id : Nat) (u : Bool) (recv : Expr)
    (args : List Expr) (b : Frame) (cs : List Frame) (K : List (St × Expr)) (V : List Value),
    σ ≠ [] → vs.length = args.length →
    Concl p false false (F b ((St.E, .call id u recv args) :: K) (vs ++ fv :: V) σ :: cs) b cs K V σ.length out u
      (ap ev σ out fv vs)

theorem call_E (p : Program) (b : Frame) (K : List (St × Expr)) (V : List Value) (σ : List Block) (id : Nat)
    (u : Bool) (recv : Expr) (args : List Expr) (fv : Value) (vs : List Value) (hl : vs.length = args.length) :
    dispatch p (F b K (vs ++ fv :: V) σ) .E (.call id u recv args) = callBody p (F b K V σ) id u fv vs := by
  rw [dispatch_call_E, evalCall_eq, F_values, ← hl, popN_append]
  rfl

theorem builtin_leaf {p : Program} {ev : Ev} {b : Frame} {K : List (St × Expr)} {V : List Value} {o1 : String}
    {s1 : List Block} {id : Nat} {u : Bool} (fv : Value) (vs : List Value) :
    Leaf b K V u s1.length o1 (callBody p (F b K V s1) id u fv vs) (applyBuiltin p ev s1 o1 fv vs) := by
  cases fv
  case closure | fn => exact Leaf.unsupported
  case builtin name =>
    unfold applyBuiltin BigStep.apply callBody
    dsimp only
    split
    · exact Leaf.err rfl
    · -- the machine's `match` is split; the hypotheses it leaves decide the reference's
      split <;> simp only []
      · exact Leaf.print rfl rfl
      · exact Leaf.print rfl rfl
      · exact Leaf.err rfl
      · exact Leaf.err rfl
      · exact Leaf.val rfl rfl
      · exact Leaf.unsupported
  case enumC ty idx =>
    match vs with
    | [a] => exact Leaf.val rfl rfl
    | [] => exact Leaf.err rfl
    | _ :: _ :: _ => exact Leaf.err rfl
  all_goals exact Leaf.err rfl

theorem apHolds_builtin (p : Program) (ev : Ev) : ApHolds p (applyBuiltin p) ev :=
  fun σ _ fv vs id u recv args b _ K V _ hl =>
    Concl.leaf (MS.refl _ _) (call_E p b K V σ id u recv args fv vs hl ▸ builtin_leaf fv vs)

theorem popBlock_F (b : Frame) (K : List (St × Expr)) (V : List Value) (x y : Block) (B : List Block) :
    popBlock (F b K V (x :: y :: B)) = some (F b K V (y :: B)) := rfl

/-- The `while` loop from the state after its `N` step (condition about to be evaluated). After a
round of the body `evalWith (n + 1)` evaluates the same `while` node again at fuel `n`, while the
machine re-arms the pending `PW` entry and never passes the `N` entry again: `IH` at fuel `n` speaks
of the wrong machine state, so the loop carries this statement of its own through the fuel. -/
def HW (p : Program) (L : Nat) (ev : Ev) : Prop :=
  ∀ (bk ck : Bool) (id : Nat) (u : Bool) (c : Expr) (body : List Expr) (σ : List Block) (out : String),
    σ ≠ [] → lvE (.whileE id u c body) ≤ L → wfE (.whileE id u c body) = true →
    exE bk ck (.whileE id u c body) = true →
    ∀ (b : Frame) (cs : List Frame) (K : List (St × Expr)) (V : List Value),
      Concl p bk ck (F b ((.N, c) :: (.PW, .whileE id u c body) :: K) V σ :: cs) b cs K V σ.length out u
        (ev σ out (.whileE id u c body))


/-- One round of a loop `e`, pending in state `PD` under the block of its body, its own values `V'`
on the value stack; `hnext`: the loop goes on from the `PD` step. -/
theorem IH.loopNext {p : Program} {L : Nat} {ev : Ev} (ih : IH p L ev) {bk ck : Bool} {A : List Frame} {e : Expr}
    {u : Bool} {b : Frame} {cs : List Frame} {K : List (St × Expr)} {V V' : List Value} {n : Nat} {out o1 : String}
    {s1 : List Block} {next : List Block → String → Res}
    (hcont : ∀ B, dispatch p (F b ((.PD, e) :: K) V' B) .N (.cont 0 false) = .ok (F b ((.PD, e) :: K) V' B))
    (hbrk : ∀ x y B o, ∃ G, dispatch p (F b ((.PD, e) :: K) V' (x :: y :: B)) .N (.brk 0 false) = .ok G ∧
      MS p (G :: cs) o (F b K (pushIf u vUnit V) (y :: B) :: cs) o)
    (hnext : ∀ x y B o, (y :: B).length = n → MS p A out (F b ((.PD, e) :: K) V' (x :: y :: B) :: cs) o →
      Concl p bk ck A b cs K V n out u (next (y :: B) o))
    {binds : List (String × Value)} {body : List Expr} (hg : Stmts L false true true body)
    (hn : s1.length = n) (hpos : 0 < n)
    (hms : MS p A out (F b (body.map (fun e => (St.N, e)) ++ (.PD, e) :: K) V' (declareAll ([] :: s1) binds) :: cs) o1) :
    Concl p bk ck A b cs K V n out u (loopNext (runBlock ev binds body s1 o1) next) := by
  have h2 := ih.seq false (Nat.succ_pos n) body vUnit hg
    (by simp [declareAll_length, hn] : (declareAll ([] :: s1) binds).length = n + 1) hms
  simp only [runBlock]
  generalize evalSeq ev vUnit body (declareAll ([] :: s1) binds) o1 = rs at h2 ⊢
  obtain ⟨s2, o2, oc2⟩ := rs
  cases oc2
  case val v =>
    obtain ⟨x, y, B, rfl, hlen⟩ := two_of_len s2 n h2.1 hpos
    exact hnext x y B o2 hlen h2.2
  case cont =>
    obtain ⟨x, y, B, rfl, hlen⟩ := two_of_len s2 n h2.2.1 hpos
    exact hnext x y B o2 hlen (h2.2.2 _ (hcont _))
  case brk =>
    obtain ⟨x, y, B, rfl, hlen⟩ := two_of_len s2 n h2.2.1 hpos
    obtain ⟨G, hG, hms'⟩ := hbrk x y B o2
    exact ⟨hlen, (h2.2.2 G hG).trans hms'⟩
  all_goals exact h2.indep rfl rfl (by intro v hv; cases hv) (by intro h; cases h) (by intro h; cases h)

section
variable {p : Program} {b : Frame} {K : List (St × Expr)} {V : List Value} {x y : Block} {B : List Block}
  {id : Nat} {u : Bool} {c it : Expr} {dest : Dest} {body : List Expr}

theorem while_cont :
    dispatch p (F b ((.PD, .whileE id u c body) :: K) V B) .N (.cont 0 false) =
      .ok (F b ((.PD, .whileE id u c body) :: K) V B) := rfl

theorem while_brk :
    dispatch p (F b ((.PD, .whileE id u c body) :: K) V (x :: y :: B)) .N (.brk 0 false) =
      .ok (F b ((.E, .whileE id u c body) :: K) (pushIf u vUnit V) (y :: B)) := by
  cases u <;> rfl

theorem for_PD :
    dispatch p (F b K V (x :: y :: B)) .PD (.forE id u dest it body) =
      .ok (F b ((.PW, .forE id u dest it body) :: K) V (y :: B)) := rfl

theorem for_E : dispatch p (F b K V (x :: y :: B)) .E (.forE id u dest it body) = .ok (F b K V (y :: B)) := rfl

theorem for_brk {v1 v2 : Value} :
    dispatch p (F b ((.PD, .forE id u dest it body) :: K) (v1 :: v2 :: V) B) .N (.brk 0 false) =
      .ok (F b ((.E, .forE id u dest it body) :: K) (pushIf u vUnit V) B) := by
  cases u <;> rfl

theorem for_cont :
    dispatch p (F b ((.PD, .forE id u dest it body) :: K) V B) .N (.cont 0 false) =
      .ok (F b ((.PD, .forE id u dest it body) :: K) V B) := rfl

end

theorem while_step {ap : Ap} {p : Program} {L n : Nat} (ih : IH p L (evalWith ap p n))
    (hw : HW p L (evalWith ap p n)) : HW p L (evalWith ap p (n + 1)) := by
  intro bk ck id u c body σ out hσ hl hwf hx b cs K V
  obtain ⟨hc, hbody, -⟩ := Node.loop ⟨hl, hwf, hx⟩ (.inl rfl)
  have hpos : 0 < σ.length := List.length_pos_iff.2 hσ
  rw [evalWith_while]
  refine ih.bind hc rfl hpos (MS.refl _ _) fun cv s1 o1 hn h1 => ?_
  have hd := dispatch_while_PW p (F b K (cv :: V) s1) id u c body
  simp only [F_values, whileBody] at hd
  unfold whileK
  cases hb : cv.asBool <;> simp only [hb] at hd
  · exact Concl.leaf h1 (Leaf.err hd)
  · rename_i bv
    cases bv <;> dsimp only at hd ⊢
    · exact ⟨hn, h1.trans ((MS.one (hd.trans (congrArg _ (F_pushVIf b _ V s1 u vUnit)))).trans
        (MS.one (dispatch_while_E p _ id u c body)))⟩
    · exact ih.loopNext (V' := V) (fun B => while_cont)
        (fun x y B o => ⟨_, while_brk, MS.one (dispatch_while_E p _ id u c body)⟩)
        (fun x y B o hl' h2 => hl' ▸ (hw bk ck id u c body (y :: B) o (by simp) hl hwf hx b cs K V).prepend
          (h2.trans (MS.one (dispatch_while_PD p (F b K V (x :: y :: B)) id u c body))))
        hbody hn hpos (h1.trans (MS.one (hd.trans (congrArg _ (evalBlock_F b _ V s1 [] false body)))))

theorem i64_succ (i : Int64) (k : Nat) (h : i.toInt = k) (hk : k + 1 < 9223372036854775808) :
    (i + 1).toInt = (k + 1 : Nat) := by
  rw [Int64.toInt_add, h, Int64.toInt_one]
  rw [Int.bmod_eq_of_le] <;> omega

theorem bindDest_spec (dest : Dest) (v : Value) (σ : List Block) :
    match destructure dest v (.typeError "Tuple") with
    | .ok binds => ∃ bs, bindDest dest v = .ok bs ∧
        bs.foldl (fun s kv => addNew s kv.1 kv.2) σ = declareAll σ binds
    | .error er => bindDest dest v = .error er := by
  cases dest with
  | sym n =>
    simp only [destructure, bindDest, declareAll]
    by_cases hn : n = "_"
    · simp [hn, addNew]
    · simp [hn]
  | destr names =>
    cases v <;> simp only [destructure, bindDest]
    case tuple items =>
      by_cases hl : items.length = names.length
      · simp [hl, declareAll, foldl_addNew_filter]
      · simp [hl]

theorem for_PW_done (p : Program) (b : Frame) (K : List (St × Expr)) (V : List Value) (σ : List Block) (id : Nat)
    (u : Bool) (dest : Dest) (it : Expr) (body : List Expr) (items : List Value) (idx : Int64)
    (h : idx.toInt = (items.length : Nat)) :
    dispatch p (F b K (.list items :: .int idx :: V) σ) .PW (.forE id u dest it body) =
      .ok (F b ((.E, .forE id u dest it body) :: K) (pushIf u vUnit V) ([] :: σ)) := by
  have hc : (idx.toInt.toNat ≥ items.length ∨ idx.toInt < 0) := by left; rw [h]; simp
  rw [dispatch_for_PW]
  simp only [F_values, forBody, hc, if_true]
  exact congrArg _ (F_pushVIf b _ V _ u vUnit)

theorem for_PW_item (p : Program) (b : Frame) (K : List (St × Expr)) (V : List Value) (σ : List Block) (id : Nat)
    (u : Bool) (dest : Dest) (it : Expr) (body : List Expr) (items : List Value) (idx : Int64) (k : Nat) (x : Value)
    (h : idx.toInt = (k : Nat)) (hx : items[k]? = some x) :
    dispatch p (F b K (.list items :: .int idx :: V) σ) .PW (.forE id u dest it body) =
      match destructure dest x (.typeError "Tuple") with
      | .ok binds => .ok (F b (body.map (fun e => (St.N, e)) ++ (.PD, .forE id u dest it body) :: K)
          (.list items :: .int (idx + 1) :: V) (declareAll ([] :: σ) binds))
      | .error er => .err (F b K V σ) .PW [.int idx, .list items] er := by
  have hk : k < items.length := by
    rcases Nat.lt_or_ge k items.length with h1 | h1
    · exact h1
    · rw [List.getElem?_eq_none h1] at hx; cases hx
  have hn : idx.toInt.toNat = k := by rw [h]; simp
  have hc : ¬ (k ≥ items.length ∨ idx.toInt < 0) := by rw [h]; simp; omega
  have hb := bindDest_spec dest x ([] :: σ)
  rw [dispatch_for_PW]
  simp only [F_values, forBody, hn, hc, if_false, hx]
  cases hd : destructure dest x (.typeError "Tuple") <;> rw [hd] at hb
  · rw [hb]
    rfl
  · obtain ⟨bs, hb1, hb2⟩ := hb
    rw [hb1]
    exact congrArg _ ((evalBlock_F b _ _ σ bs false body).trans (congrArg (F b _ _) hb2))

/-- The `for` loop from its `PW` state: iterated list and index on the value stack, `xs` still
to be visited. -/
theorem for_loop {p : Program} {L : Nat} {ev : Ev} (ih : IH p L ev) {bk ck : Bool}
    {id : Nat} {u : Bool} {dest : Dest} {it : Expr} {body : List Expr}
    (hg : Stmts L false true true body) {A : List Frame} {out : String} {n : Nat} (hpos : 0 < n)
    {b : Frame} {cs : List Frame} {K : List (St × Expr)} {V : List Value}
    (items : List Value) (hlen : items.length < 9223372036854775808) :
    ∀ (xs pre : List Value) (idx : Int64) (σ : List Block) (o : String),
      items = pre ++ xs → idx.toInt = (pre.length : Nat) → σ.length = n →
      MS p A out (F b ((.PW, .forE id u dest it body) :: K) (.list items :: .int idx :: V) σ :: cs) o →
      Concl p bk ck A b cs K V n out u (forLoop ev dest body xs σ o)
  | [], pre, idx, σ, o, hit, hidx, hn, hms => by
      have hpl : pre.length = items.length := by rw [hit]; simp
      rw [hpl] at hidx
      match σ, pos_ne hn hpos with
      | y :: B, _ =>
        exact ⟨hn, hms.trans ((MS.one (for_PW_done p b K V (y :: B) id u dest it body items idx hidx)).trans
          (MS.one for_E))⟩
  | x :: xs, pre, idx, σ, o, hit, hidx, hn, hms => by
      have hx : items[pre.length]? = some x := by rw [hit]; simp
      have hk : pre.length < items.length := by rw [hit]; simp
      have hPW := for_PW_item p b K V σ id u dest it body items idx pre.length x hidx hx
      rw [forLoop_cons]
      cases hd : destructure dest x (.typeError "Tuple") <;> rw [hd] at hPW <;> dsimp only at hPW ⊢
      · exact Concl.leaf hms (Leaf.err hPW)
      · exact ih.loopNext (V' := .list items :: .int (idx + 1) :: V) (fun B => for_cont)
          (fun x' y B o => ⟨_, for_brk, MS.one for_E⟩)
          (fun x' y B o hl' h2 => for_loop ih hg hpos items hlen xs (pre ++ [x]) (idx + 1) (y :: B) o
            (by rw [hit]; simp) (by simpa using i64_succ idx pre.length hidx (by omega)) hl'
            (h2.trans (MS.one for_PD)))
          hg hn hpos (hms.trans (MS.one hPW))

/-- `while` goes through `HW`, which is there from stage 1 on. -/
theorem sim_succ {ap : Ap} {p : Program} {L n : Nat} (hap : ApHolds p ap (evalWith ap p n))
    (ih : IH p L (evalWith ap p n)) (hw1 : 1 ≤ L → HW p L (evalWith ap p (n + 1))) :
    IH p L (evalWith ap p (n + 1)) := by
  intro bk ck e σ out hσ hl hw hx b cs K V
  have hg : Node L bk ck e := ⟨hl, hw, hx⟩
  have hpos : 0 < σ.length := List.length_pos_iff.2 hσ
  have h0 := MS.refl (p := p) (F b ((St.N, e) :: K) V σ :: cs) out
  cases e
  case int id u v => exact Concl.leaf h0 (Leaf.val rfl rfl)
  case str id u t => exact Concl.leaf h0 (Leaf.val rfl rfl)
  case lambda id u ps body => exact Concl.leaf h0 (Leaf.val rfl rfl)
  case invalid id u => exact Concl.leaf h0 (Leaf.err rfl)
  case unsup id u w => trivial
  case brk id u => exact ⟨hx, rfl, fun _ hG => MS.one hG⟩
  case cont id u => exact ⟨hx, rfl, fun _ hG => MS.one hG⟩
  case var id u name =>
    refine Concl.leaf h0 ?_
    rw [dispatch_var, show getVar p (F b K V σ) name = lookupVar p σ name from getVar_F p b K V σ [] name,
      evalWith_var]
    cases lookupVar p σ name
    · exact Leaf.err rfl
    · exact Leaf.val rfl rfl
  case paren id u inner =>
    obtain ⟨hu, hi⟩ := hg.paren
    exact (hu ▸ ih.after hi rfl hpos (MS.one (dispatch_paren p _ .N id u inner))).weaken
  case binop id u op l r =>
    rw [evalWith_binop]
    exact ih.bind hg.binop.1 rfl hpos (MS.one (dispatch_binop_of_ne (by decide) p _ id u op l r))
      fun lv s1 o1 hn1 h1 => ih.bind hg.binop.2 hn1 hpos h1
      fun rv s2 o2 hn2 h2 => Concl.leaf h2 (binop_leaf op lv rv hn2)
  case letE id u dest inner =>
    rw [evalWith_let]
    exact ih.bind (hg.unary (.inl ⟨dest, rfl⟩)) rfl hpos (MS.one (dispatch_let_of_ne (by decide) p _ id u dest inner))
      fun v s o hn h1 => Concl.leaf h1 (let_leaf dest v hn)
  case assign id u name inner =>
    rw [evalWith_assign]
    exact ih.bind (hg.unary (.inr (.inl ⟨name, rfl⟩))) rfl hpos
      (MS.one (dispatch_assign_of_ne (by decide) p _ id u name inner))
      fun v s o hn h1 => Concl.leaf h1 (assign_leaf name inner v hn)
  case update id u isAdd name inner =>
    rw [evalWith_update]
    exact ih.bind (hg.unary (.inr (.inr (.inl ⟨isAdd, name, rfl⟩)))) rfl hpos
      (MS.one (dispatch_update_of_ne (by decide) p _ id u isAdd name inner))
      fun v s o hn h1 => Concl.leaf h1 (update_leaf isAdd name inner v hn)
  case ret id u x =>
    cases x with
    | none =>
      exact ⟨V, σ, (MS.one (dispatch_ret_of_ne (by decide) p _ id u none)).trans
        (MS.one (dispatch_ret_E p _ id u none))⟩
    | some x =>
      rw [evalWith_ret]
      exact ih.bind (hg.unary (.inr (.inr (.inr rfl)))) rfl hpos
        (MS.one (dispatch_ret_of_ne (by decide) p _ id u (some x)))
        fun v s o hn h1 => ⟨V, _, h1.trans (MS.one (dispatch_ret_E p _ id u (some x)))⟩
  case list id u items =>
    rw [evalWith_list]
    exact sim_items ih (fun f => dispatch_list_of_ne (by decide) p f id u items)
      (fun f => dispatch_list_E p f id u items) hσ hg.list b cs K V
  case tuple id u items =>
    rw [evalWith_tuple]
    exact sim_items ih (fun f => dispatch_tuple_of_ne (by decide) p f id u items)
      (fun f => dispatch_tuple_E p f id u items) hσ hg.tuple b cs K V
  case call id u recv args =>
    rw [evalWith_call]
    refine ih.bind hg.call.1 rfl hpos (MS.one (dispatch_call_N p _ id u recv args)) fun fv s1 o1 hn h1 => ?_
    refine ih.bindRtl hpos args hg.call.2 hn
      (h1.trans (MS.one ((dispatch_call_args (st := .PN) (by decide) (by decide) p _ id u recv args).trans
        (congrArg _ (foldl_pushE args b _ (fv :: V) _))))) fun vs s2 o2 hlen hn2 hms => ?_
    exact hn2 ▸ ((hap _ _ fv vs id u recv args b cs K V (pos_ne hn2 hpos) hlen).prepend hms).weaken
  case ifE id u c t els =>
    rw [evalWith_if]
    exact ih.bind hg.ifE.1 rfl hpos (MS.one (dispatch_if_N p _ id u c t els)) fun cv s1 o1 hn h1 =>
      if_run ih hg hn hpos h1
  case matchE id u sc cases =>
    rw [evalWith_match]
    exact ih.bind hg.matchE.1 rfl hpos (MS.one (dispatch_match_N p _ id u sc cases)) fun sv s1 o1 hn h1 =>
      match_run ih hg.matchE.2 hn hpos h1
  case whileE id u c body =>
    exact (hw1 (hg.loop (.inl rfl)).2.2 bk ck id u c body σ out hσ hl hw hx b cs K V).prepend
      (MS.one (dispatch_while_N p _ id u c body))
  case forE id u dest it body =>
    obtain ⟨hit, hbody, -⟩ := hg.loop (.inr ⟨dest, rfl⟩)
    rw [evalWith_for]
    refine ih.bind hit rfl hpos (MS.one (dispatch_for_N p _ id u dest it body)) fun iv s1 o1 hn h1 => ?_
    unfold forK
    cases iv
    case list items =>
      dsimp only
      split
      · rename_i hlen
        exact for_loop ih hbody hpos items hlen items [] 0 _ _ (by simp) (by simp) hn h1
      · trivial
    all_goals exact Concl.leaf h1 (Leaf.err rfl)

/-- Falling off the end and `return` both hand the value to the caller iff the call's value is used. -/
theorem sim_fun_body {p : Program} {L : Nat} {ev : Ev} (ih : IH p L ev)
    (body : List Expr) (hok : Stmts L true false false body) (scopes : List Block) (hsc : scopes ≠ [])
    (cb b : Frame) (cs : List Frame) (K : List (St × Expr)) (V : List Value) (σ : List Block) (out : String) :
    Concl p false false (F cb (body.map (fun e => (St.N, e))) [vUnit] scopes :: F b K V σ :: cs) b cs K V σ.length
      out cb.callerUses (runBody ev scopes body σ out) := by
  have hseq := ih.seq true (List.length_pos_iff.2 hsc) body vUnit (K := []) hok rfl
    (by rw [List.append_nil]; exact MS.refl (F cb _ [vUnit] scopes :: F b K V σ :: cs) out)
  simp only [Bool.true_and] at hseq
  have hret : ∀ (v : Value) (V' : List Value) (B' : List Block) (o : String),
      MS p (F cb [] (v :: V') B' :: F b K V σ :: cs) o (F b K (pushIf cb.callerUses v V) σ :: cs) o := by
    intro v V' B' o
    refine MS.ret (f := F cb [] (v :: V') B') (caller := F b K V σ) rfl rfl ?_
    show MS p ((if cb.callerUses = true then _ else _) :: cs) o _ o
    cases cb.callerUses <;> exact MS.refl _ _
  simp only [runBody]
  generalize hrs : evalSeq ev vUnit body scopes out = rs at hseq ⊢
  obtain ⟨s2, o2, oc2⟩ := rs
  cases oc2
  case val v =>
    refine ⟨rfl, hseq.2.trans ?_⟩
    cases body with
    | nil => cases hrs; exact hret _ _ _ _
    | cons x xs => exact hret _ _ _ _
  case ret v =>
    obtain ⟨V', B', h1⟩ := hseq
    exact ⟨rfl, h1.trans (hret _ _ _ _)⟩
  case err er => exact hseq
  case brk | cont => exact absurd hseq.1 (by decide)
  all_goals trivial

theorem MS.call1 {p : Program} {b : Frame} {cs : List Frame} {st : St} {e : Expr} {K : List (St × Expr)}
    {V : List Value} {σ : List Block} {f' callee : Frame} {out : String}
    (hd : dispatch p (F b K V σ) st e = .newFrame f' callee) :
    MS p (F b ((st, e) :: K) V σ :: cs) out (callee :: f' :: cs) out :=
  MS.call (f := F b ((st, e) :: K) V σ) (rest := K) rfl hd (MS.refl _ _)

/-- The caller-related fields of the frame `eval_call` creates; `F (calleeBase …) K V σ` is that frame. -/
def calleeBase (u : Bool) (kind : FrameKind) (id : Nat) : Frame :=
  { exprs := [], values := [], blocks := [], nextBlock := [], callerUses := u, kind := kind, callerId := some id }

theorem apHolds_checked {p : Program} {L : Nat} {ev : Ev} (ih : IH p L ev) (hL : 2 ≤ L)
    (hfuns : ∀ d ∈ p.funs, bodyOK d.body = true) : ApHolds p (applyChecked p) ev := by
  intro σ out fv vs id u recv args b cs K V hσ hl
  have hE := call_E p b K V σ id u recv args fv vs hl
  have hms := MS.refl (p := p) (F b ((St.E, .call id u recv args) :: K) (vs ++ fv :: V) σ :: cs) out
  have hb := apHolds_builtin p ev σ out fv vs id u recv args b cs K V hσ hl
  cases fv
  case closure env params body =>
    simp only [applyChecked]
    by_cases hok : bodyOK body = true
    · simp only [hok, if_true]
      unfold BigStep.apply
      unfold callBody at hE
      dsimp only at hE ⊢
      cases hne : (params.length != vs.length) <;> simp only [hne, Bool.false_eq_true, if_false, if_true] at hE ⊢
      · exact (sim_fun_body ih body ((bodyOK_iff.1 hok).mono hL) _ (by simp) (calleeBase u .closure id) b cs K V σ
          out).prepend
          (MS.call1 hE)
      · exact Concl.leaf hms (Leaf.err hE)
    · simp only [hok, Bool.false_eq_true, if_false]
      trivial
  case fn name =>
    unfold applyChecked BigStep.apply
    unfold callBody at hE
    dsimp only at hE ⊢
    cases hfd : p.funs.find? (fun d => d.name == name) <;> simp only [hfd] at hE ⊢
    · trivial
    · rename_i d
      have hok := hfuns d (List.mem_of_find?_eq_some hfd)
      cases hne : (d.params.length != vs.length) <;> simp only [hne, Bool.false_eq_true, if_false, if_true] at hE ⊢
      · exact (sim_fun_body ih d.body ((bodyOK_iff.1 hok).mono hL) _ (by simp) (calleeBase u (.fn name) id) b cs K V
          σ out).prepend
          (MS.call1 hE)
      · exact Concl.leaf hms (Leaf.err hE)
  all_goals exact hb

theorem sim_fuel {ap : Ap} {p : Program} {L : Nat}
    (hap : ∀ n, IH p L (evalWith ap p n) → ApHolds p ap (evalWith ap p n)) :
    ∀ n, IH p L (evalWith ap p n) ∧ HW p L (evalWith ap p n)
  -- out of fuel: `Concl … ⟨_, _, .outOfFuel⟩` is `True`
  | 0 => ⟨fun _ _ _ _ _ _ _ _ _ _ _ _ _ => trivial, fun _ _ _ _ _ _ _ _ _ _ _ _ _ _ _ _ => trivial⟩
  | n + 1 =>
    have ⟨ih, hw⟩ := sim_fuel hap n
    have hw1 := while_step ih hw
    ⟨sim_succ (hap n ih) ih (fun _ => hw1), hw1⟩

theorem sim0 (ap : Ap) (p : Program) (hap : ∀ ev, ApHolds p ap ev) : ∀ n, IH p 0 (evalWith ap p n) :=
  fun n => (sim_fuel (fun _ _ => hap _) n).1

/-- Stages (a) + (b): the simulation for every fuel. -/
theorem sim1 (ap : Ap) (p : Program) (hap : ∀ ev, ApHolds p ap ev) :
    ∀ n, IH p 1 (evalWith ap p n) ∧ HW p 1 (evalWith ap p n) :=
  sim_fuel (fun _ _ => hap _)

/-- Stages (a) + (b) + (c): the simulation for every fuel, for the reference interpreter with the
dynamic fragment check on closure bodies. -/
theorem sim2 (p : Program) (hfuns : ∀ d ∈ p.funs, bodyOK d.body = true) :
    ∀ n, IH p 2 (evalWith (applyChecked p) p n) ∧ HW p 2 (evalWith (applyChecked p) p n) :=
  sim_fuel (fun _ ih => apHolds_checked ih (by omega) hfuns)

/-- Toplevel expressions (all used): the values pile up on the value stack, the last one on top;
with no pending entries left the conclusion says that the frame has finished (`return` included). -/
theorem sim_top {p : Program} {L : Nat} {ev : Ev} (ih : IH p L ev) {A : List Frame} {out : String} {b : Frame}
    {cs : List Frame} {n : Nat} (hpos : 0 < n) :
    ∀ (es : List Expr) (last : Value) (σ : List Block) (o : String) (V : List Value), Operands L es → σ.length = n →
      MS p A out (F b (es.map (fun e => (St.N, e))) (last :: V) σ :: cs) o →
      ∃ V', Concl p false false A b cs [] V' n out true (evalSeq ev last es σ o)
  | [], last, σ, o, V, _, hn, hms => ⟨V, hn, hms⟩
  | e :: rest, last, σ, o, V, hg, hn, hms => by
      rw [evalSeq_cons]
      have h := ih.after hg.cons.1.2 hn hpos hms
      rw [hg.cons.1.1] at h
      generalize ev σ o e = r1 at h ⊢
      obtain ⟨s1, o1, oc⟩ := r1
      cases oc
      case val v => exact sim_top ih hpos rest v s1 o1 (last :: V) hg.cons.2 h.1 h.2
      all_goals exact ⟨[], h.operand_nonval (fun _ hv => by cases hv)⟩

theorem refines_of_IH {p : Program} {L : Nat} {ev : Ev} (ih : IH p L ev)
    (hl : lvB p.toplevel ≤ L) (hw : wfAll p.toplevel = true) (hx : exB false false p.toplevel = true) :
    match runProgramWith ev p with
    | (out, .val v) => ∃ n s, runN n (Machine.init p [] none none) = .done s v ∧ s.out = out
    | (out, .err e) => ∃ n s, runN n (Machine.init p [] none none) = .error s e ∧ s.out = out
    | _ => True := by
  have hinit : Machine.init p [] none none =
      Q p [F (initFrame []) (p.toplevel.map (fun e => (St.N, e))) [vUnit] [[]]] 0 "" := rfl
  rw [hinit]
  obtain ⟨V', h⟩ := sim_top ih (Nat.zero_lt_one) p.toplevel vUnit [[]] "" [] ⟨hl, hw, (exAll_eq _).trans hx⟩ rfl
    (MS.refl [F (initFrame []) (p.toplevel.map (fun e => (St.N, e))) [vUnit] [[]]] "")
  simp only [runProgramWith]
  generalize evalSeq ev vUnit p.toplevel [[]] "" = r at h ⊢
  obtain ⟨s, o, oc⟩ := r
  cases oc
  case val v =>
    obtain ⟨n, t', hn⟩ := MS_sound h.2 0
    exact finish_done p _ _ n _ v V' _ _ hn
  case ret v =>
    obtain ⟨V'', B', h1⟩ := h
    obtain ⟨n, t', hn⟩ := MS_sound h1 0
    exact finish_done p _ _ n _ v V'' _ _ hn
  case err er =>
    obtain ⟨T, g, h1, h2⟩ := h
    obtain ⟨n, t', hn⟩ := MS_sound h1 0
    obtain ⟨s', hs, ho⟩ := step_err p g T t' _ er h2
    exact ⟨n + 1, s', runN_last _ _ n _ hn hs (by intro x; simp), ho⟩
  all_goals trivial

theorem foldl_max_le {α : Type} (f : α → Nat) (L : Nat) : ∀ (l : List α) (a : Nat),
    l.foldl (fun m d => max m (f d)) a ≤ L → a ≤ L ∧ ∀ d ∈ l, f d ≤ L
  | [], a, h => ⟨h, by simp⟩
  | x :: xs, a, h => by
      simp only [List.foldl] at h
      have := foldl_max_le f L xs (max a (f x)) h
      refine ⟨by omega, ?_⟩
      intro d hd
      rcases List.mem_cons.mp hd with h1 | h1
      · subst h1; omega
      · exact this.2 d h1

theorem funs_ok (p : Program) (hwf : wfProgram p = true) (hex : exitsProgram p = true)
    (hlv : levelProgram p ≤ 2) : ∀ d ∈ p.funs, bodyOK d.body = true := by
  intro d hd
  simp only [wfProgram, Bool.and_eq_true, List.all_eq_true] at hwf
  simp only [exitsProgram, Bool.and_eq_true, List.all_eq_true] at hex
  have hne : p.funs.isEmpty = false := by cases hp : p.funs <;> simp_all
  simp only [levelProgram, hne, Bool.false_eq_true, if_false] at hlv
  have h3 := (foldl_max_le (fun d => lvB d.body) 2 p.funs 0 (by omega)).2 d hd
  simp only [bodyOK, Bool.and_eq_true, decide_eq_true_eq]
  exact ⟨⟨hwf.2 d hd, hex.2 d hd⟩, h3⟩


theorem vokL_mem : ∀ (l : List Value) (x : Value), vokL l = true → x ∈ l → vok x = true :=
  fun l x h hx => forall_mem_of_cons (P := fun l => vokL l = true) (Q := fun x => vok x = true)
    (fun y ys h => by simp only [vokL, Bool.and_eq_true] at h; exact h) l h x hx

theorem vokB_mem {b : Block} (h : vokB b = true) : ∀ kv ∈ b, vok kv.2 = true :=
  forall_mem_of_cons (P := fun b => vokB b = true) (Q := fun kv => vok kv.2 = true)
    (fun _ _ h => by simp only [vokB, Bool.and_eq_true] at h; exact h) b h

theorem vokB_of : ∀ {b : Block}, (∀ kv ∈ b, vok kv.2 = true) → vokB b = true
  | [], _ => rfl
  | kv :: rest, h => by
      simp only [vokB, Bool.and_eq_true]
      exact ⟨h kv List.mem_cons_self, vokB_of fun x hx => h x (List.mem_cons_of_mem _ hx)⟩

/-- `vokE` in the form of the hypotheses of `Machine.addNew_all`, `setExisting_all`, `lookupBlocks_all`. -/
theorem vokE_iff : ∀ {σ : List Block}, vokE σ = true ↔ ∀ b ∈ σ, ∀ kv ∈ b, vok kv.2 = true
  | [] => by simp [vokE]
  | b :: rest => by
      simp only [vokE, Bool.and_eq_true, List.forall_mem_cons, vokE_iff (σ := rest)]
      exact and_congr_left fun _ => ⟨vokB_mem, vokB_of⟩

theorem lookup_ok (σ : List Block) (n : String) (v : Value) (hσ : vokE σ = true)
    (h : lookupBlocks σ n = some v) : vok v = true :=
  lookupBlocks_all (P := (vok · = true)) h (vokE_iff.1 hσ)

theorem declareAll_ok (binds : List (String × Value)) (σ : List Block) (hσ : vokE σ = true)
    (hb : vokB binds = true) : vokE (declareAll σ binds) = true :=
  vokE_iff.2 (foldl_addNew_all (P := (vok · = true)) binds (vokB_mem hb) (vokE_iff.1 hσ))

theorem setExisting_ok (σ σ' : List Block) (n : String) (v : Value) (hσ : vokE σ = true) (hv : vok v = true)
    (h : setExisting σ n v = some σ') : vokE σ' = true :=
  vokE_iff.2 (setExisting_all (P := (vok · = true)) h (vokE_iff.1 hσ) hv)

theorem nsLookup_ok (p : Program) (n : String) (v : Value) (h : nsLookup p n = some v) : vok v = true := by
  rcases nsLookup_some h with ⟨_, _, rfl⟩ | ⟨_, _, rfl⟩ | ⟨_, _, rfl⟩ | rfl <;> rfl

theorem lookupVar_ok (p : Program) (σ : List Block) (n : String) (v : Value) (hσ : vokE σ = true)
    (h : lookupVar p σ n = some v) : vok v = true := by
  unfold lookupVar at h
  cases hl : lookupBlocks σ n with
  | some w => simp [hl] at h; subst h; exact lookup_ok σ n w hσ hl
  | none => simp [hl] at h; exact nsLookup_ok p n v h

theorem vokB_zip (names : List String) (items : List Value) (h : vokL items = true) :
    vokB (names.zip items) = true :=
  vokB_of (zip_all (P := (vok · = true)) (vokL_mem items · h))

theorem destructure_ok (d : Dest) (v : Value) (er : Err) (binds : List (String × Value)) (hv : vok v = true)
    (h : destructure d v er = .ok binds) : vokB binds = true := by
  cases d with
  | sym n => simp [destructure] at h; subst h; simp [vokB, hv]
  | destr names =>
    cases v
    case tuple items =>
      simp only [destructure] at h
      split at h
      · cases h
      · cases h; exact vokB_zip names items (by simpa [vok] using hv)
    all_goals simp [destructure] at h

theorem paramScope_ok (ps : List String) (vs : List Value) (hv : vokL vs = true) :
    vokB (paramScope ps vs) = true :=
  vokB_of (foldl_blockSet_all (P := (vok · = true)) _ (zip_all (vokL_mem vs · hv)) nofun)

theorem drop1_ok (σ : List Block) (h : vokE σ = true) : vokE (σ.drop 1) = true := by
  cases σ with
  | nil => rfl
  | cons b rest => simp only [vokE, Bool.and_eq_true] at h; simpa using h.2

def ROK (r : Res) : Prop := vokE r.scopes = true ∧ okO r.outcome = true

def Agr (r1 r2 : Res) : Prop := r1 = r2 ∧ ROK r2

/-- Every expression of the list is inside the fragment (blocks, operand lists and toplevel alike). -/
def GoodL (bk ck : Bool) (es : List Expr) : Prop := ∀ e ∈ es, Node 2 bk ck e

def Agree (ev1 ev2 : Ev) : Prop :=
  ∀ (bk ck : Bool) (e : Expr) (σ : List Block) (out : String), vokE σ = true → Node 2 bk ck e →
    Agr (ev1 σ out e) (ev2 σ out e)

theorem Stmts.goodL {u bk ck : Bool} {es : List Expr} (h : Stmts 2 u bk ck es) : GoodL bk ck es :=
  forall_mem_of_cons (P := Stmts 2 u bk ck) (fun _ _ h => ⟨h.cons.2.1, h.cons.2.2⟩) es h

theorem Operands.goodL {es : List Expr} (h : Operands 2 es) : GoodL false false es :=
  forall_mem_of_cons (P := Operands 2) (fun _ _ h => ⟨h.cons.1.2, h.cons.2⟩) es h

section
variable {ev1 ev2 : Ev}

theorem Agr.bind {r1 r2 : Res} {k1 k2 : Value → List Block → String → Res} (h : Agr r1 r2)
    (hk : ∀ v s o, vokE s = true → vok v = true → Agr (k1 v s o) (k2 v s o)) : Agr (r1.bind k1) (r2.bind k2) := by
  obtain ⟨rfl, hs, ho⟩ := h
  obtain ⟨s, o, oc⟩ := r1
  cases oc
  case val v => exact hk v s o hs ho
  all_goals exact ⟨rfl, hs, ho⟩

theorem evalSeq_agree (h : Agree ev1 ev2) {bk ck : Bool} :
    ∀ (es : List Expr) (last : Value) (σ : List Block) (out : String), vokE σ = true → vok last = true →
      GoodL bk ck es → Agr (evalSeq ev1 last es σ out) (evalSeq ev2 last es σ out)
  | [], last, σ, out, hσ, hlast, _ => ⟨rfl, hσ, hlast⟩
  | e :: rest, last, σ, out, hσ, hlast, hg => by
      rw [evalSeq_cons, evalSeq_cons]
      exact (h bk ck e σ out hσ (hg e List.mem_cons_self)).bind fun v s o hs hv =>
        evalSeq_agree h rest v s o hs hv fun x hx => hg x (List.mem_cons_of_mem _ hx)

theorem Agr.bindRtl (h : Agree ev1 ev2) :
    ∀ (es : List Expr) {k1 k2 : List Value → List Block → String → Res} (σ : List Block) (out : String),
      vokE σ = true → GoodL false false es →
      (∀ vs s o, vokE s = true → vokL vs = true → Agr (k1 vs s o) (k2 vs s o)) →
      Agr ((evalRtl ev1 es σ out).bind k1) ((evalRtl ev2 es σ out).bind k2)
  | [], _, _, σ, out, hσ, _, hk => hk [] σ out hσ rfl
  | e :: rest, _, _, σ, out, hσ, hg, hk => by
      rw [evalRtl_cons_bind, evalRtl_cons_bind]
      exact Agr.bindRtl h rest σ out hσ (fun x hx => hg x (List.mem_cons_of_mem _ hx)) fun vs s o hs hvs =>
        (h false false e s o hs (hg e List.mem_cons_self)).bind fun v s' o' hs' hv =>
          hk (v :: vs) s' o' hs' (by simp only [vokL, Bool.and_eq_true]; exact ⟨hv, hvs⟩)

theorem runBlock_agree (h : Agree ev1 ev2) {bk ck : Bool} (binds : List (String × Value))
    (body : List Expr) (σ : List Block) (out : String) (hσ : vokE σ = true) (hb : vokB binds = true)
    (hg : GoodL bk ck body) : Agr (runBlock ev1 binds body σ out) (runBlock ev2 binds body σ out) := by
  have hσ' : vokE (declareAll ([] :: σ) binds) = true :=
    declareAll_ok binds _ (by simp [vokE, vokB, hσ]) hb
  obtain ⟨heq, hs, ho⟩ := evalSeq_agree h body vUnit _ out hσ' rfl hg
  simp only [runBlock]
  rw [heq]
  exact ⟨rfl, drop1_ok _ hs, ho⟩

theorem Agr.loopNext {rb1 rb2 : Res} {next1 next2 : List Block → String → Res} (h : Agr rb1 rb2)
    (hn : ∀ s o, vokE s = true → Agr (next1 s o) (next2 s o)) : Agr (loopNext rb1 next1) (loopNext rb2 next2) := by
  obtain ⟨rfl, hs, ho⟩ := h
  obtain ⟨s, o, oc⟩ := rb1
  cases oc
  case val v => exact hn s o hs
  case cont => exact hn s o hs
  case brk => exact ⟨rfl, hs, rfl⟩
  all_goals exact ⟨rfl, hs, ho⟩

theorem forLoop_agree (h : Agree ev1 ev2) (dest : Dest) (body : List Expr) (hg : GoodL true true body) :
    ∀ (xs : List Value) (σ : List Block) (out : String), vokE σ = true → vokL xs = true →
      Agr (forLoop ev1 dest body xs σ out) (forLoop ev2 dest body xs σ out)
  | [], σ, out, hσ, _ => ⟨rfl, hσ, rfl⟩
  | x :: xs, σ, out, hσ, hxs => by
      simp only [vokL, Bool.and_eq_true] at hxs
      rw [forLoop_cons, forLoop_cons]
      cases hd : destructure dest x (.typeError "Tuple") with
      | error er => exact ⟨rfl, hσ, rfl⟩
      | ok binds =>
        exact (runBlock_agree h binds body σ out hσ (destructure_ok dest x _ binds hxs.1 hd) hg).loopNext
          fun s o hs => forLoop_agree h dest body hg xs s o hs hxs.2

theorem runBody_agree (h : Agree ev1 ev2) (scopes : List Block) (body : List Expr)
    (σ : List Block) (out : String) (hs : vokE scopes = true) (hσ : vokE σ = true) (hg : GoodL false false body) :
    Agr (runBody ev1 scopes body σ out) (runBody ev2 scopes body σ out) := by
  obtain ⟨heq, -, ho⟩ := evalSeq_agree h body vUnit scopes out hs rfl hg
  simp only [runBody]
  rw [heq]
  generalize evalSeq ev2 vUnit body scopes out = r at ho ⊢
  obtain ⟨s1, o1, oc⟩ := r
  cases oc <;> first | exact ⟨rfl, hσ, ho⟩ | exact ⟨rfl, hσ, rfl⟩

theorem apply_agree (h : Agree ev1 ev2) (p : Program)
    (hfuns : ∀ d ∈ p.funs, bodyOK d.body = true) (σ : List Block) (out : String) (fv : Value) (vs : List Value)
    (hσ : vokE σ = true) (hf : vok fv = true) (hvs : vokL vs = true) :
    Agr (applyChecked p ev1 σ out fv vs) (BigStep.apply ev2 p σ out fv vs) := by
  cases fv
  case closure env ps body =>
    simp only [vok, Bool.and_eq_true] at hf
    simp only [applyChecked, hf.1, if_true]
    unfold BigStep.apply
    dsimp only
    split
    · exact ⟨rfl, hσ, rfl⟩
    · exact runBody_agree h _ body σ out
        (by simp only [vokE, Bool.and_eq_true]; exact ⟨paramScope_ok ps vs hvs, hf.2⟩) hσ (bodyOK_iff.1 hf.1).goodL
  case fn name =>
    unfold applyChecked BigStep.apply
    dsimp only
    cases hfd : p.funs.find? (fun d => d.name == name) with
    | none => exact ⟨rfl, hσ, rfl⟩
    | some d =>
      dsimp only
      split
      · exact ⟨rfl, hσ, rfl⟩
      · exact runBody_agree h _ d.body σ out (by simp [vokE, paramScope_ok d.params vs hvs]) hσ
          (bodyOK_iff.1 (hfuns d (List.mem_of_find?_eq_some hfd))).goodL
  case builtin name =>
    refine ⟨rfl, ?_⟩
    unfold BigStep.apply
    dsimp only
    split
    · exact ⟨hσ, rfl⟩
    · split <;> exact ⟨hσ, rfl⟩
  case enumC ty idx =>
    refine ⟨rfl, ?_⟩
    unfold BigStep.apply
    dsimp only
    split
    · simp only [vokL, Bool.and_eq_true] at hvs
      exact ⟨hσ, hvs.1⟩
    · exact ⟨hσ, rfl⟩
  all_goals exact ⟨rfl, hσ, rfl⟩

end

theorem selectCase_ok (p : Program) (σ : List Block) (ty : String) (idx : Nat) (payload : Option Value)
    (hp : ∀ pl, payload = some pl → vok pl = true) (cases : List Case) (binds : List (String × Value))
    (body : List Expr) (h : selectCase p σ ty idx payload cases = .take binds body) :
    vokB binds = true ∧ ∃ vn d, Case.mk vn d body ∈ cases := by
  obtain ⟨vn, d, hm, hb⟩ := selectCase_take p σ ty idx payload binds body cases h
  refine ⟨?_, vn, d, hm⟩
  rcases hb with rfl | hb
  · rfl
  · cases payload <;> cases d <;> simp only [casePayload, Option.some.injEq, reduceCtorEq] at hb
    · cases hb; rfl
    · exact destructure_ok _ _ _ _ (hp _ rfl) hb

/-- `BigStep.apply` as an `Ap` (so that `eval p = evalWith (apFull p) p` by definition). -/
abbrev apFull (p : Program) : Ap := fun ev σ out fv vs => BigStep.apply ev p σ out fv vs

theorem eval_eq (p : Program) (n : Nat) : eval p n = evalWith (apFull p) p n := rfl

theorem letK_ok (dest : Dest) (v : Value) (s : List Block) (o : String) (hs : vokE s = true) (hv : vok v = true) :
    ROK (letK dest v s o) := by
  unfold letK
  cases hd : destructure dest v (.typeError "Tuple") with
  | error er => exact ⟨hs, rfl⟩
  | ok binds => exact ⟨declareAll_ok binds s hs (destructure_ok dest v _ binds hv hd), rfl⟩

theorem assignK_ok (name : String) (v : Value) (s : List Block) (o : String) (hs : vokE s = true)
    (hv : vok v = true) : ROK (assignK name v s o) := by
  unfold assignK
  cases hd : setExisting s name v with
  | none => exact ⟨hs, rfl⟩
  | some σ' => exact ⟨setExisting_ok s σ' name v hs hv hd, rfl⟩

theorem updateK_ok (p : Program) (isAdd : Bool) (name : String) (dv : Value) (s : List Block) (o : String)
    (hs : vokE s = true) : ROK (updateK p isAdd name dv s o) := by
  unfold updateK
  split
  · exact ⟨hs, rfl⟩
  · split
    · split
      · rename_i hd
        exact ⟨setExisting_ok s _ name _ hs rfl hd, rfl⟩
      · exact ⟨hs, rfl⟩
    · exact ⟨hs, rfl⟩
  · exact ⟨hs, rfl⟩

theorem agree_succ (p : Program) (hfuns : ∀ d ∈ p.funs, bodyOK d.body = true) (n : Nat)
    (h : Agree (evalWith (applyChecked p) p n) (evalWith (apFull p) p n)) :
    Agree (evalWith (applyChecked p) p (n + 1)) (evalWith (apFull p) p (n + 1)) := by
  intro bk ck e σ out hσ hg
  have opd : ∀ {e : Expr} {σ : List Block} {out : String}, vokE σ = true → Operand 2 e →
      Agr (evalWith (applyChecked p) p n σ out e) (evalWith (apFull p) p n σ out e) :=
    fun hσ ho => h false false _ _ _ hσ ho.2
  cases e
  case int | str | invalid | unsup | brk | cont => exact ⟨rfl, hσ, rfl⟩
  case var id u name =>
    rw [evalWith_var, evalWith_var]
    cases hlk : lookupVar p σ name with
    | none => exact ⟨rfl, hσ, rfl⟩
    | some v => exact ⟨rfl, hσ, lookupVar_ok p σ name v hσ hlk⟩
  case lambda id u ps body =>
    have hb := bodyOK_iff.2 (hg.lambda.1.mono (Nat.le_refl 2))
    exact ⟨rfl, hσ, by show (bodyOK body && vokE σ) = true; rw [hb, hσ]; rfl⟩
  case paren id u inner => exact h false false inner σ out hσ hg.paren.2
  case binop id u op l r =>
    rw [evalWith_binop, evalWith_binop]
    exact (opd hσ hg.binop.1).bind fun lv s1 o1 hs1 _ => (opd hs1 hg.binop.2).bind fun rv s2 o2 hs2 _ =>
      ⟨rfl, hs2, binop_okO op lv rv⟩
  case letE id u dest inner =>
    rw [evalWith_let, evalWith_let]
    exact (opd hσ (hg.unary (.inl ⟨dest, rfl⟩))).bind fun v s o hs hv => ⟨rfl, letK_ok dest v s o hs hv⟩
  case assign id u name inner =>
    rw [evalWith_assign, evalWith_assign]
    exact (opd hσ (hg.unary (.inr (.inl ⟨name, rfl⟩)))).bind fun v s o hs hv => ⟨rfl, assignK_ok name v s o hs hv⟩
  case update id u isAdd name inner =>
    rw [evalWith_update, evalWith_update]
    exact (opd hσ (hg.unary (.inr (.inr (.inl ⟨isAdd, name, rfl⟩))))).bind fun v s o hs _ =>
      ⟨rfl, updateK_ok p isAdd name v s o hs⟩
  case ret id u x =>
    cases x with
    | none => exact ⟨rfl, hσ, rfl⟩
    | some x =>
      rw [evalWith_ret, evalWith_ret]
      exact (opd hσ (hg.unary (.inr (.inr (.inr rfl))))).bind fun v s o hs hv => ⟨rfl, hs, hv⟩
  case list id u items =>
    rw [evalWith_list, evalWith_list]
    exact Agr.bindRtl h items σ out hσ hg.list.goodL fun vs s o hs hvs => ⟨rfl, hs, hvs⟩
  case tuple id u items =>
    rw [evalWith_tuple, evalWith_tuple]
    exact Agr.bindRtl h items σ out hσ hg.tuple.goodL fun vs s o hs hvs => ⟨rfl, hs, hvs⟩
  case call id u recv args =>
    rw [evalWith_call, evalWith_call]
    exact (opd hσ hg.call.1).bind fun fv s1 o1 hs1 hf =>
      Agr.bindRtl h args s1 o1 hs1 hg.call.2.goodL fun vs s2 o2 hs2 hvs =>
        apply_agree h p hfuns s2 o2 fv vs hs2 hf hvs
  case ifE id u c t els =>
    obtain ⟨hc, ht, he⟩ := hg.ifE
    rw [evalWith_if, evalWith_if]
    refine (opd hσ hc).bind fun cv s o hs _ => ?_
    unfold ifK
    cases cv.asBool with
    | none => exact ⟨rfl, hs, rfl⟩
    | some b =>
      cases b
      · cases els with
        | none => exact ⟨rfl, hs, rfl⟩
        | some eb => exact runBlock_agree h [] eb s o hs rfl (he eb rfl).goodL
      · obtain ⟨heq, hs2, ho2⟩ := runBlock_agree h [] t s o hs rfl ht.goodL
        dsimp only
        rw [heq, unitIfNoElse_eq]
        generalize runBlock (evalWith (apFull p) p n) [] t s o = rb at hs2 ho2 ⊢
        obtain ⟨s2, o2, oc⟩ := rb
        cases oc
        case val v => cases els <;> first | exact ⟨rfl, hs2, ho2⟩ | exact ⟨rfl, hs2, rfl⟩
        all_goals exact ⟨rfl, hs2, ho2⟩
  case matchE id u sc cases =>
    rw [evalWith_match, evalWith_match]
    refine (opd hσ hg.matchE.1).bind fun sv s o hs hsv => ?_
    unfold matchK
    cases sv
    case enumV ty idx payload =>
      dsimp only
      cases hsel : selectCase p s ty idx payload cases with
      | fail er => exact ⟨rfl, hs, rfl⟩
      | take binds body =>
        obtain ⟨hb, vn, d, hmem⟩ := selectCase_ok p s ty idx payload
          (fun pl hpl => by subst hpl; exact hsv) cases binds body hsel
        exact runBlock_agree h binds body s o hs hb (hg.matchE.2.mem hmem).goodL
    all_goals exact ⟨rfl, hs, rfl⟩
  case whileE id u c body =>
    obtain ⟨hc, hbody, -⟩ := hg.loop (.inl rfl)
    rw [evalWith_while, evalWith_while]
    refine (opd hσ hc).bind fun cv s o hs _ => ?_
    unfold whileK
    cases cv.asBool with
    | none => exact ⟨rfl, hs, rfl⟩
    | some b =>
      cases b
      · exact ⟨rfl, hs, rfl⟩
      · exact (runBlock_agree h [] body s o hs rfl hbody.goodL).loopNext fun s' o' hs' => h bk ck _ s' o' hs' hg
  case forE id u dest it body =>
    obtain ⟨hit, hbody, -⟩ := hg.loop (.inr ⟨dest, rfl⟩)
    rw [evalWith_for, evalWith_for]
    refine (opd hσ hit).bind fun iv s o hs hiv => ?_
    unfold forK
    cases iv
    case list items =>
      dsimp only
      split
      · exact forLoop_agree h dest body hbody.goodL items s o hs hiv
      · exact ⟨rfl, hs, rfl⟩
    all_goals exact ⟨rfl, hs, rfl⟩

theorem agree (p : Program) (hfuns : ∀ d ∈ p.funs, bodyOK d.body = true) :
    ∀ n, Agree (evalWith (applyChecked p) p n) (evalWith (apFull p) p n)
  | 0 => fun _ _ _ _ _ hσ _ => ⟨rfl, hσ, rfl⟩
  | n + 1 => agree_succ p hfuns n (agree p hfuns n)

/-- On programs of the fragment the reference interpreter with the dynamic closure check IS the
reference interpreter: the check never fails (every closure value was made from a function literal
of the program, whose body is inside the fragment). -/
theorem runProgram_checked_eq (p : Program) (hfuns : ∀ d ∈ p.funs, bodyOK d.body = true)
    (hl : lvB p.toplevel ≤ 2) (hw : wfAll p.toplevel = true) (hx : exB false false p.toplevel = true) (fuel : Nat) :
    runProgramWith (evalWith (applyChecked p) p fuel) p = runProgram p fuel := by
  have := (evalSeq_agree (agree p hfuns fuel) p.toplevel vUnit [[]] "" rfl rfl 
    (Operands.goodL ⟨hl, hw, (exAll_eq _).trans hx⟩)).1
  simp only [runProgram, runProgramWith, eval_eq, this]

end BigStepLemmas
