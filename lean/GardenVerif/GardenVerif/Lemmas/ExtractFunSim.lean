import GardenVerif.Lemmas.ExtractFun
/-! The simulation between `p` and the program in which the node `t` is replaced by a call of the new
function (`W x.cfg`, plus the new function), closure-free. -/

namespace Extract
open Machine (Expr Case Dest BinOp Program FunDef EnumDef)
open RefSem Validators

/-- Fuel with which the extracted program follows `k` levels of `p`: a level may be the call, which
`call_step` does in `ps.length + 5` levels more. -/
def thrX (x : FX) (k : Nat) : Nat := (x.ps.length + 5) * k

theorem thrX_succ (x : FX) (k : Nat) : thrX x (k + 1) = thrX x k + (x.ps.length + 5) := by
  simp [thrX, Nat.mul_succ]

/-- `selOK` is the first conjunct of every arm of `GF` but the `let` one. -/
theorem GF_selOK (x : FX) {e : Expr} (h : GF x e = true) (hl : isLet e = false) : x.selOK e = true := by
  cases e <;> first | (simp [isLet] at hl; done) | (simp [GF] at h; done) |
    (simp only [GF, Bool.and_eq_true] at h; first | exact h | exact h.1 | exact h.1.1 | exact h.1.1.1) | skip
  rename_i o; cases o <;> (simp only [GF, Bool.and_eq_true] at h; first | exact h | exact h.1)

structure SimX (x : FX) (p q : Program) (k m : Nat) : Prop where
  ev : ∀ env s env' s' e, Ok2 x p q env s env' s' → GF x e = true →
    RelH s s' (eval false p k env s e) (eval false q m env' s' (W x.cfg e))
  seq : ∀ env s env' s' es, Ok2 x p q env s env' s' → GFSeq x es = true →
    RelH s s' (evalSeq false p k env s es) (evalSeq false q m env' s' (WSeq x.cfg es))
  lst : ∀ env s env' s' es, Ok2 x p q env s env' s' → GFSeq x es = true →
    RelH s s' (evalList false p k env s es) (evalList false q m env' s' (WSeq x.cfg es))
  whl : ∀ env s env' s' cnd body, Ok2 x p q env s env' s' → GF x cnd = true → GFSeq x body = true →
    RelH s s' (evalWhile false p k env s cnd body) (evalWhile false q m env' s' (W x.cfg cnd) (WSeq x.cfg body))
  for_ : ∀ env s env' s' dest items body, Ok2 x p q env s env' s' → bokDest x.f dest = true → GFSeq x body = true →
    RelH s s' (evalFor false p k env s dest items body) (evalFor false q m env' s' dest items (WSeq x.cfg body))
  cases : ∀ env s env' s' ty idx pl cs, Ok2 x p q env s env' s' → GFCases x cs = true →
    RelH s s' (evalCases false p k env s ty idx pl cs) (evalCases false q m env' s' ty idx pl (WCases x.cfg cs))
  app : ∀ s s' f args, s.out = s'.out →
    RelH s s' (applyVal false p k s f args) (applyVal false q m s' f args)

theorem Ok2.bind {x p q env s env' s'} (hk : Ok2 x p q env s env' s') (d : Dest) (v : Val)
    (hd : bokDest x.f d = true) :
    relH.Bound s s' (bindDest d v env s) (bindDest d v env' s') (Ok2 x p q) := by
  have hb := hk.toOk.bind d v
  unfold EvalRel.Bound at hb ⊢
  split at hb
  · exact hb
  · rename_i h1 h2
    exact ⟨hb.1, hb.2, bindDest_ok hk.ok hd h1, bindDest_ok hk.ok' hd h2⟩
  · exact hb

theorem contains_iff_find (fs : List FunDef) (y : String) :
    (fs.map (·.name)).contains y = (fs.find? (fun d => d.name == y)).isSome := by
  induction fs with
  | nil => rfl
  | cons d rest ih =>
    simp only [List.map_cons, List.contains_cons, List.find?_cons]
    by_cases h : (d.name == y) = true
    · have e0 : d.name = y := by simpa using h
      have h' : (y == d.name) = true := by simp [e0]
      simp [h, h']
    · have h' : (y == d.name) = false := by
        simp only [beq_eq_false_iff_ne, ne_eq]; intro e; exact h (by simp [e])
      simp only [h, h', Bool.false_or]
      exact ih

theorem find_none_of_nfree {p : Program} {n : String} (h : nsLookup (funNames p) p.enums n = none) :
    p.funs.find? (fun d => d.name == n) = none := by
  cases hh : (funNames p).contains n with
  | false => rw [funNames, contains_iff_find] at hh; simpa using hh
  | true =>
    have hm : n ∈ funNames p := by simpa using hh
    simp [nsLookup, hm] at h


theorem simX_succ {x : FX} {p q : Program} (hc : FCtx x p q) (k : Nat)
    (ih : ∀ m0, thrX x k ≤ m0 → SimX x p q k m0) (m : Nat) (hm : thrX x (k + 1) ≤ m) :
    SimX x p q (k + 1) m := by
  have hm' := hm
  rw [thrX_succ] at hm'
  have hge : 5 * k ≤ thrX x k := Nat.mul_le_mul_right k (by omega)
  obtain ⟨m1, rfl⟩ : ∃ m1, m = m1 + 1 := ⟨m - 1, by omega⟩
  have ih := ih m1 (by omega)
  refine ⟨?ev, ?seq, ?lst, ?whl, ?for_, ?cases, ?app⟩
  case ev =>
    intro env s env' s' e hk hg
    by_cases hl : isLet e = true
    · obtain ⟨id, u, d, r, rfl⟩ := isLet_iff.mp hl
      exact RelH.bad rfl
    have hl' : isLet e = false := by simpa using hl
    by_cases hid : (e.id == x.t) = true
    · -- the selected node: the extracted program calls the new function
      have hso := GF_selOK x hg hl'
      simp only [FX.selOK, hid, Bool.not_true, Bool.false_or, Bool.and_eq_true, beq_iff_eq, List.all_eq_true,
        bne_iff_ne, ne_eq, Bool.or_eq_true] at hso
      obtain ⟨⟨⟨⟨ha, h1⟩, hb⟩, hv⟩, hp⟩ := hso
      have hb' := exprEq_sound _ _ hb
      rw [W_sel x e ha hid h1]
      have hw : x.cfg.wrap (W stripCfg e) = callOf x.n x.ps := by simp [FX.cfg, hb]
      rw [hw]
      exact call_step hc hk e ha hb' (fun y hy => (hv y hy).2) (fun y hy => by simpa using hp y hy)
        (fun y hy => (hv y hy).1) k (m1 + 1) (by omega) (by omega)
    -- any other node is transformed in its parts only
    have hid' : (e.id == x.t) = false := by simpa using hid
    cases e <;> simp only [Expr.id] at hid' <;> (try simp only [W, fin_miss x _ _ hid']) <;>
      (try simp only [GF, Bool.and_eq_true, bne_iff_ne, ne_eq] at hg)
    case int id u v => exact RelH.same _ hk.out
    case str id u v => exact RelH.same _ hk.out
    case var id u nm =>
      exact relH.var hk.out (.of_eq (hk.agree nm hg.2))
    case binop id u op l r =>
      exact relH.binop (ih.ev _ _ _ _ _ hk hg.1.2) fun _ _ e1 => ih.ev _ _ _ _ _ (hk.step e1) hg.2
    case letE => simp [isLet] at hl'
    case assign => cases hg
    case update => cases hg
    case ifE id u cnd thn els =>
      refine relH.ifE (ih.ev _ _ _ _ _ hk hg.1.1.2) (fun _ _ e1 => ih.seq _ _ _ _ _ (hk.step e1) hg.1.2)
        fun _ _ e1 => ?_
      cases els with
      | none => trivial
      | some eb => exact ih.seq _ _ _ _ _ (hk.step e1) (by simpa [GFOpt] using hg.2)
    case whileE id u cnd body =>
      exact ih.whl _ _ _ _ _ _ hk hg.1.2 hg.2
    case forE id u dest iter body =>
      exact relH.forE (ih.ev _ _ _ _ _ hk hg.1.2) fun _ _ _ _ hl e1 =>
        hl.eq_of ▸ ih.for_ _ _ _ _ _ _ _ (hk.step e1) hg.1.1.2 hg.2
    case matchE id u scrut cs =>
      exact relH.matchE (ih.ev _ _ _ _ _ hk hg.1.2) fun _ _ _ _ _ _ hpl e1 =>
        hpl.eq_of ▸ ih.cases _ _ _ _ _ _ _ _ (hk.step e1) hg.2
    case ret id u o =>
      cases o with
      | none => simp only [W, fin_miss x _ _ hid']; exact RelH.same _ hk.out
      | some y =>
        simp only [GF, Bool.and_eq_true] at hg
        simp only [W, fin_miss x _ _ hid']
        exact relH.ret (ih.ev _ _ _ _ _ hk hg.2)
    case brk id u => exact RelH.same _ hk.out
    case cont id u => exact RelH.same _ hk.out
    case list id u items =>
      exact ih.lst _ _ _ _ _ hk hg.2
    case tuple id u items =>
      exact relH.tuple (ih.lst _ _ _ _ _ hk hg.2)
    case call id u recv args =>
      exact relH.call (ih.ev _ _ _ _ _ hk hg.1.2) (fun _ _ e1 => ih.lst _ _ _ _ _ (hk.step e1) hg.2)
        fun _ _ _ _ _ _ o hf hl => hf ▸ hl.eq_of ▸ ih.app _ _ _ _ o
    case lambda id u ps body => exact RelH.bad rfl
    case paren id u y =>
      exact ih.ev _ _ _ _ _ hk hg.2
    case invalid id u => exact RelH.bad rfl
    case unsup id u w => exact RelH.bad rfl
  case seq =>
    intro env s env' s' es hk hg
    cases es with
    | nil => exact RelH.same _ hk.out
    | cons e rest =>
      simp only [GFSeq, Bool.and_eq_true] at hg
      by_cases hl : isLet e = true
      · obtain ⟨id, u, d, r, rfl⟩ := isLet_iff.mp hl
        simp only [GF, Bool.and_eq_true] at hg
        exact relH.seq_let (ih.ev _ _ _ _ _ hk hg.1.2) fun v _ s1 s1' hv e1 =>
          hv ▸ ((hk.step e1).bind d v hg.1.1).imp fun _ _ _ _ _ hk2 => ih.seq _ _ _ _ _ hk2 hg.2
      · have hl' : isLet e = false := by simpa using hl
        have hl2 : isLet (W x.cfg e) = false :=
          isLet_W (fun id y hs => by
            simp only [FX.cfg]
            split <;> simp [callOf, isLet]) hl'
        exact relH.seq_cons hl' hl2 (WSeq_eq_nil _ rest) (ih.ev _ _ _ _ _ hk hg.1)
          fun _ _ e1 => ih.seq _ _ _ _ _ (hk.step e1) hg.2
  case lst =>
    intro env s env' s' es hk hg
    cases es with
    | nil => exact RelH.same _ hk.out
    | cons e rest =>
      simp only [GFSeq, Bool.and_eq_true] at hg
      exact relH.list_cons (ih.ev _ _ _ _ _ hk hg.1) fun _ _ e1 => ih.lst _ _ _ _ _ (hk.step e1) hg.2
  case whl =>
    intro env s env' s' cnd body hk hg1 hg2
    exact relH.while_ (ih.ev _ _ _ _ _ hk hg1) (fun _ _ e1 => ih.seq _ _ _ _ _ (hk.step e1) hg2)
      fun _ _ e2 => ih.whl _ _ _ _ _ _ (hk.step e2) hg1 hg2
  case for_ =>
    intro env s env' s' dest items body hk hd hg
    cases items with
    | nil => exact RelH.same _ hk.out
    | cons it rest =>
      exact relH.for_cons hk.out ((hk.bind dest it hd).imp fun _ _ _ _ _ hk2 => ih.seq _ _ _ _ _ hk2 hg)
        fun _ _ e2 => ih.for_ _ _ _ _ _ _ _ (hk.step e2) hd hg
  case cases =>
    intro env s env' s' ty idx pl cs hk hg
    cases cs with
    | nil => exact RelH.bad rfl
    | cons cs0 rest =>
      obtain ⟨variant, dest, body⟩ := cs0
      cases dest with
      | none =>
        simp only [GFCases, Bool.and_eq_true] at hg
        exact relH.cases_plain hk.out (.of_eq rfl) (hc.patKey variant) (ih.seq _ _ _ _ _ hk hg.1)
          (ih.cases _ _ _ _ _ _ _ _ hk hg.2)
      | some d =>
        simp only [GFCases, Bool.and_eq_true] at hg
        exact relH.cases_dest hk.out (.of_eq rfl) (hc.patKey variant)
          (fun v _ hv => hv ▸ (hk.bind d v hg.1.1).imp fun _ _ _ _ _ hk2 => ih.seq _ _ _ _ _ hk2 hg.1.2)
          (ih.cases _ _ _ _ _ _ _ _ hk hg.2)
  case app =>
    intro s s' f args ho
    by_cases hf : ∃ name, f = .fn name
    · obtain ⟨name, rfl⟩ := hf
      by_cases hnm : name = x.n
      · subst hnm
        simp only [applyVal, find_none_of_nfree hc.nfree]
        exact RelH.bad rfl
      cases hfind : p.funs.find? (fun d => d.name == name) with
      | none => simp only [applyVal, hfind]; exact RelH.bad rfl
      | some d =>
        have hfr := hc.gfuns d (List.mem_of_find?_eq_some hfind)
        simp only [GFFun, Bool.and_eq_true] at hfr
        refine relH.apply_fn (d' := WFun x.cfg d) ho (LRel.eq_refl _) hfind (by rw [hc.find_o name hnm, hfind]; rfl) rfl
          fun _ => ?_
        have hb := bindNames_both d.params args ⟨hc.agree_nil s.store s'.store, WF.nil, WF.nil, ho⟩
        exact ⟨hb.1, ih.seq _ _ _ _ _ ⟨hb.2,
          bindNames_ok _ _ _ _ EnvOK.nil hfr.1, bindNames_ok _ _ _ _ EnvOK.nil hfr.1⟩ hfr.2⟩
    · exact relH.apply_other ho rfl (LRel.eq_refl _) hc.enums (fun name h => hf ⟨name, h⟩) (.inl rfl)

theorem simX_all {x : FX} {p q : Program} (hc : FCtx x p q) : ∀ k m, thrX x k ≤ m → SimX x p q k m
  | 0, m, _ => by
    refine ⟨?_, ?_, ?_, ?_, ?_, ?_, ?_⟩ <;> intros <;>
      simp only [eval, evalSeq, evalList, evalWhile, evalFor, evalCases, applyVal] <;> exact RelH.bad rfl
  | k + 1, m, hm => simX_succ hc k (fun m0 h0 => simX_all hc k m0 h0) m hm


theorem find_congr {α} {p q : α → Bool} : ∀ (l : List α), (∀ a, a ∈ l → p a = q a) → l.find? p = l.find? q
  | [], _ => rfl
  | a :: rest, h => by
      simp only [List.find?_cons, h a (List.mem_cons_self ..)]
      rw [find_congr rest fun b hb => h b (List.mem_cons_of_mem _ hb)]

/-- The interpreter reads the function table only through lookup by name, so where the new function stands in the
real output does not matter. -/
theorem fctx_strip {x : FX} {p p' : Program} {d : FunDef} {b : Expr} (hn : x.n ≠ "_")
    (psu : x.ps.all (· != "_") = true) (psf : x.ps.all x.f = true)
    (nfree : nsLookup (funNames p) p.enums x.n = none) (gfuns : ∀ d ∈ p.funs, GFFun x d = true)
    (hd : p'.funs.find? (fun d => d.name == x.n) = some d) (hb : d.body = [b]) (hps : d.params = x.ps)
    (hbS : W stripCfg b = x.bS)
    (h3 : WP stripCfg { p' with funs := p'.funs.filter fun d => d.name != x.n } = WP x.cfg p) :
    FCtx x p (WP stripCfg p') := by
  have hfuns : (p'.funs.filter fun d => d.name != x.n).map (WFun stripCfg) = p.funs.map (WFun x.cfg) := by
    have := congrArg Program.funs h3; simpa only [WP] using this
  have henums : p'.enums = p.enums := by
    have := congrArg Program.enums h3; simpa only [WP] using this
  have hdn : d.name = x.n := by simpa using List.find?_some hd
  have find_n : (WP stripCfg p').funs.find? (fun d => d.name == x.n)
      = some { name := x.n, params := x.ps, body := [x.bS] } := by
    rw [(mapped_WP stripCfg p').find, hd]
    simp [WFun, hb, WSeq, hdn, hps, hbS]
  have find_o : ∀ name, name ≠ x.n → (WP stripCfg p').funs.find? (fun d => d.name == name)
      = (p.funs.find? (fun d => d.name == name)).map (WFun x.cfg) := by
    intro name hne
    rw [(mapped_WP stripCfg p').find, ← (mapped_WP x.cfg p).find name]
    simp only [WP, ← hfuns, List.find?_map, List.find?_filter]
    congr 1
    apply find_congr
    intro d0 _
    simp only [Function.comp, WFun]
    by_cases hd0 : (d0.name == name) = true
    · have e0 : d0.name = name := by simpa using hd0
      simp [e0, hne]
    · simp [hd0]
  refine ⟨hn, psu, psf, henums, find_n, find_o, fun y => ?_, nfree, gfuns⟩
  simp only [funNames, contains_iff_find]
  by_cases hy : y = x.n
  · subst hy; rw [find_n]; simp
  · have : (y == x.n) = false := by simpa using hy
    rw [find_o y hy, this, Bool.or_false, Option.isSome_map]

theorem extract_run {x : FX} {p p' : Program} (hc : FCtx x p (WP stripCfg p'))
    (htop : WSeq stripCfg p'.toplevel = WSeq x.cfg p.toplevel) (hg : GFSeq x p.toplevel = true) (k : Nat) :
    RelH St.init St.init (run false p k) (run false (WP stripCfg p') (thrX x k)) := by
  have h := (simX_all hc k (thrX x k) (Nat.le_refl _)).seq [] St.init [] St.init p.toplevel
    ⟨⟨hc.agree_nil _ _, WF.nil, WF.nil, rfl⟩, EnvOK.nil, EnvOK.nil⟩ hg
  rw [← htop] at h
  exact h

end Extract
