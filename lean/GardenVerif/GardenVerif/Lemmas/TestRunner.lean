import GardenVerif.Model.TestRunner
import GardenVerif.Lemmas.MachineFrame
/-! About `stepWith d` for any dispatcher (hence about `Machine.step` and `TestRunner.tstep`). Two layers:
facts about the evaluator loop that have nothing to do with tests and are used by Lemmas/MachineTicks, Props/C25
and Props/C27 as well (`Static`, `stepWith_static`, `stepWith_result`, `runWith_inv`), and, for C26, the toplevel frame under a
running test, independence of the tick counter and the output, and the runner as a map over the tests. -/

namespace TestRunner
open Machine

def Keeps (f : Frame) (D : Disp) : Prop := D.All fun f' => f'.callerUses = f.callerUses

@[simp] theorem pushE_uses (f : Frame) (st : St) (e : Expr) : (f.pushE st e).callerUses = f.callerUses := rfl
@[simp] theorem pushV_uses (f : Frame) (v : Value) : (f.pushV v).callerUses = f.callerUses := rfl

theorem restore_uses (f : Frame) (st : St) (e : Expr) (vals : List Value) :
    (restore f st e vals).callerUses = f.callerUses := by
  rw [restore_eq]

theorem dispatch_keeps (p : Program) (f : Frame) (st : St) (e : Expr) : Keeps f (dispatch p f st e) := by
  have h := dispatch_header p f st e
  unfold Keeps
  cases hD : dispatch p f st e <;> rw [hD] at h <;> first | exact congrArg Prod.fst h | trivial

theorem evalAssert_keeps (p : Program) (f : Frame) (used : Bool) (inner : Expr) :
    Keeps f (evalAssert p f used inner) := by
  unfold evalAssert
  repeat' split
  all_goals simp only [Keeps, Disp.All, pushVIf_eq]

theorem dispatchX_keeps (p : Program) (f : Frame) (st : St) (e : Expr) : Keeps f (dispatchX p f st e) := by
  unfold dispatchX
  split
  · unfold assertDisp
    repeat' split
    all_goals first | exact evalAssert_keeps .. | rfl | trivial
  · exact dispatch_keeps p f st e


/-- The fields of the environment a step never changes; the interrupt flag stays clear in a
session nobody interrupts. -/
structure Static (s s' : State) : Prop where
  prog : s'.prog = s.prog
  tl : s'.tickLimit = s.tickLimit
  sl : s'.stackLimit = s.stackLimit
  ia : s'.interruptAt = s.interruptAt
  sa : s'.stopAt = s.stopAt
  quiet : s.interrupted = false → s.interruptAt = [] → s'.interrupted = false

theorem Static.refl (s : State) : Static s s := ⟨rfl, rfl, rfl, rfl, rfl, fun h _ => h⟩

theorem Static.trans {a b c : State} (h1 : Static a b) (h2 : Static b c) : Static a c :=
  ⟨h2.prog.trans h1.prog, h2.tl.trans h1.tl, h2.sl.trans h1.sl, h2.ia.trans h1.ia, h2.sa.trans h1.sa,
   fun hi ha => h2.quiet (h1.quiet hi ha) (h1.ia.trans ha)⟩


theorem post_cont {a s' : State} {callers : List Frame} {st : St} {e : Expr} {D : Disp}
    (h : post a callers st e D = .cont s') :
    ∃ fr o, s' = { a with frames := fr, out := o } ∧
      (fr.length = callers.length + 1 ∨ fr.length = callers.length + 2) := by
  cases D <;> simp only [post, stopCheck_eq] at h
  case ok f' => split at h <;> cases h; exact ⟨_, _, rfl, Or.inl rfl⟩
  case okOut f' o => split at h <;> cases h; exact ⟨_, _, rfl, Or.inl rfl⟩
  case newFrame f' callee => cases h; exact ⟨_, _, rfl, Or.inr rfl⟩
  all_goals cases h

theorem stepWith_result (d : Program → Frame → St → Expr → Disp) {s s' : State}
    (h : (stepWith d s).state? = some s') :
    Static s s' ∧ s.ticks ≤ s'.ticks ∧ s'.ticks ≤ s.ticks + 1 := by
  obtain ⟨fr, o, t, i, rfl, h1, h2, hi, _⟩ := stepWith_state d h
  refine ⟨⟨rfl, rfl, rfl, rfl, rfl, fun hq _ => ?_⟩, h1, h2⟩
  cases i
  · rfl
  · exact (hi rfl).symm.trans hq

theorem stepWith_static (d : Program → Frame → St → Expr → Disp) (s s' : State)
    (h : (stepWith d s).state? = some s') : Static s s' := (stepWith_result d h).1


/-- The call stack is `… ++ [tf, f0]`: the toplevel frame `f0` is at the bottom, the frame
directly above it (the test's frame) hands its value to its caller. -/
def Above (f0 : Frame) (frames : List Frame) : Prop :=
  ∃ fs tf, frames = fs ++ [tf, f0] ∧ tf.callerUses = true

theorem above_replace_top {f0 f f' : Frame} {callers : List Frame} (h : Above f0 (f :: callers))
    (hu : f'.callerUses = f.callerUses) : Above f0 (f' :: callers) := by
  obtain ⟨fs, tf, hfr, htf⟩ := h
  cases fs with
  | nil =>
    simp at hfr; obtain ⟨h1, h2⟩ := hfr; subst h1; subst h2
    exact ⟨[], f', rfl, by rw [hu]; exact htf⟩
  | cons x xs =>
    simp at hfr; obtain ⟨h1, h2⟩ := hfr; subst h1; subst h2
    exact ⟨f' :: xs, tf, rfl, htf⟩

theorem above_push {f0 : Frame} {frames : List Frame} (c : Frame) (h : Above f0 frames) :
    Above f0 (c :: frames) := by
  obtain ⟨fs, tf, hfr, htf⟩ := h
  exact ⟨c :: fs, tf, by simp [hfr], htf⟩

theorem above_two_le {f0 : Frame} {frames : List Frame} (h : Above f0 frames) : 2 ≤ frames.length := by
  obtain ⟨fs, tf, rfl, _⟩ := h
  simp

theorem above_pop {f0 f caller : Frame} {rest : List Frame} (h : Above f0 (f :: caller :: rest)) :
    (rest = [] ∧ caller = f0 ∧ f.callerUses = true) ∨
    (rest ≠ [] ∧ ∀ c' : Frame, c'.callerUses = caller.callerUses → Above f0 (c' :: rest)) := by
  obtain ⟨fs, tf, hfr, htf⟩ := h
  cases fs with
  | nil =>
    simp at hfr; obtain ⟨h1, h2, h3⟩ := hfr; subst h1; subst h2; subst h3
    exact Or.inl ⟨rfl, rfl, htf⟩
  | cons x xs =>
    simp at hfr; obtain ⟨h1, h2⟩ := hfr; subst h1
    cases xs with
    | nil =>
      simp at h2; obtain ⟨h2, h3⟩ := h2; subst h2; subst h3
      exact Or.inr ⟨by simp, fun c' hc => ⟨[], c', rfl, by rw [hc]; exact htf⟩⟩
    | cons y ys =>
      simp at h2; obtain ⟨h2, h3⟩ := h2; subst h2; subst h3
      exact Or.inr ⟨by simp, fun c' hc => ⟨c' :: ys, tf, rfl, htf⟩⟩

theorem getLast_above {f0 : Frame} {frames : List Frame} (h : Above f0 frames) : frames.getLast? = some f0 := by
  obtain ⟨fs, tf, hfr, _⟩ := h
  subst hfr
  simp [List.getLast?_append]

/-- A test is running above the toplevel frame `f0`, or its frame has just returned and handed
its value to `f0`. -/
def Mid (f0 : Frame) (s : State) : Prop := Above f0 s.frames ∨ ∃ v, s.frames = [f0.pushV v]

def MidRes (f0 : Frame) : StepResult → Prop
  | .cont s' => Mid f0 s'
  | .done s' _ => s'.frames = [f0]
  | .error s' _ => Above f0 s'.frames
  | .panic _ => True
  | .unsupported _ => True

/-- After the test frame has returned, `eval` pops the value it handed down and returns. -/
theorem stepWith_landed (d : Program → Frame → St → Expr → Disp) (f0 : Frame) (s : State) (v : Value)
    (h : s.frames = [f0.pushV v]) (he : f0.exprs = []) :
    stepWith d s = .done { s with frames := [f0] } v := by
  rw [stepWith_idle d h (show (f0.pushV v).exprs = [] from he), step_finish h he]
  cases f0; rfl

/-- While a test runs (at least two frames), a step keeps the toplevel frame at the bottom
untouched; the only way down is the return of the test frame, which hands its value to the
toplevel frame. `eval` cannot finish or stop before that. -/
theorem stepWith_mid (d : Program → Frame → St → Expr → Disp)
    (hd : ∀ p f st e, Keeps f (d p f st e)) (f0 : Frame) (he0 : f0.exprs = []) (s : State)
    (hm : Mid f0 s) (hs : s.stopAt = none) : MidRes f0 (stepWith d s) := by
  rcases hm with h | ⟨v, hv⟩
  case inr => rw [stepWith_landed d f0 s v hv he0]; rfl
  match hf : s.frames with
  | [] => rw [hf] at h; exact absurd (above_two_le h) (by simp)
  | [f] => rw [hf] at h; exact absurd (above_two_le h) (by simp)
  | f :: caller :: rest =>
    rw [hf] at h
    match he : f.exprs with
    | [] =>
      rw [stepWith_idle d hf he, step_return hf he]
      split
      · trivial
      · have hstop : (f.callerId.isSome && s.stopAt == f.callerId) = false := by
          rw [hs]; cases f.callerId <;> rfl
        simp only [hstop, Bool.false_eq_true, if_false]
        rcases above_pop h with ⟨hr, hc, hu⟩ | ⟨hr, hall⟩
        · subst hr; subst hc
          rw [hu]
          exact Or.inr ⟨_, rfl⟩
        · exact Or.inl (hall _ (by split <;> rfl))
    | (st, e) :: restE =>
      rw [stepWith_entry d hf he]
      split
      · show Above f0 s.frames
        rw [hf]; exact h
      · have hk := hd s.prog { f with exprs := restE } st e
        have hstop : ∀ fr o, ({ ticked s with out := o, frames := fr } : State).stopAt ≠ some e.id :=
          fun _ _ h => nomatch hs.symm.trans h
        cases hD : d s.prog { f with exprs := restE } st e with
        | ok f' | okOut f' o =>
          rw [hD] at hk
          simp only [post]
          rw [stopCheck_ne (hstop _ _)]
          exact Or.inl (above_replace_top h hk)
        | newFrame f' callee =>
          rw [hD] at hk
          exact Or.inl (above_push callee (above_replace_top h hk))
        | err f' st' vals er =>
          rw [hD] at hk
          exact above_replace_top h ((restore_uses ..).trans hk)
        | panic _ => trivial
        | unsupported _ => trivial


def norm (s : State) : State := { s with ticks := 0, out := "" }

theorem post_norm (a : State) (t : Nat) (o : String) (callers : List Frame) (st : St) (e : Expr) (D : Disp) :
    mapState norm (post { a with ticks := t, out := o } callers st e D) =
      mapState norm (post a callers st e D) := by
  cases D <;> simp only [post, stopCheck_eq]
  case ok => split <;> rfl
  case okOut => split <;> rfl
  all_goals rfl

theorem stepWith_norm (d : Program → Frame → St → Expr → Disp) (s : State)
    (hl : s.tickLimit = none) (hi : s.interruptAt = []) :
    mapState norm (stepWith d s) = mapState norm (stepWith d (norm s)) := by
  match hf : s.frames with
  | [] => rw [stepWith_nil d hf, stepWith_nil d (s := norm s) hf]
  | f :: callers =>
    have hf' : (norm s).frames = f :: callers := hf
    match he : f.exprs with
    | [] =>
      rw [stepWith_idle d hf he, stepWith_idle d hf' he]
      cases callers with
      | nil => rw [step_finish hf he, step_finish hf' he]; split <;> rfl
      | cons caller rest =>
        rw [step_return hf he, step_return hf' he]
        split
        · rfl
        · show mapState norm (if _ then _ else _) = mapState norm (if (f.callerId.isSome && s.stopAt == f.callerId) = true then _ else _)
          split <;> rfl
    | (st, e) :: rest =>
      have hr : refusal (norm s) = refusal s := by
        simp [refusal, norm, hl, hi, limitReached, hf]
      rw [stepWith_entry d hf he, stepWith_entry d hf' he, hr]
      split
      · rfl
      · exact (post_norm (ticked s) _ _ callers st e _).symm


def mapRun (g : State → State) : RunResult → RunResult
  | .done s v => .done (g s) v
  | .error s e => .error (g s) e
  | .panic site => .panic site
  | .unsupported w => .unsupported w
  | .outOfFuel s => .outOfFuel (g s)

theorem runWith_norm (d : Program → Frame → St → Expr → Disp) : ∀ (n : Nat) (s : State),
    s.tickLimit = none → s.interruptAt = [] →
    mapRun norm (runWith d n s) = mapRun norm (runWith d n (norm s))
  | 0, s, _, _ => by simp [runWith, mapRun, norm]
  | n + 1, s, hl, hi => by
    have hstep := stepWith_norm d s hl hi
    unfold runWith
    cases h1 : stepWith d s <;> cases h2 : stepWith d (norm s) <;>
      simp [h1, h2, mapState] at hstep
    · -- cont / cont
      rename_i s1 s2
      have st1 := stepWith_static d s s1 (by rw [h1]; rfl)
      have st2 := stepWith_static d (norm s) s2 (by rw [h2]; rfl)
      have ih1 := runWith_norm d n s1 (st1.tl.trans hl) (st1.ia.trans hi)
      have ih2 := runWith_norm d n s2 (st2.tl.trans hl) (st2.ia.trans hi)
      show mapRun norm (runWith d n s1) = mapRun norm (runWith d n s2)
      rw [ih1, ih2, hstep]
    all_goals simp [mapRun, hstep]

/-- A property kept by every continuing step holds of the state from which a run takes its last step. -/
theorem runWith_inv (d : Program → Frame → St → Expr → Disp) {P : State → Prop}
    (hP : ∀ a a', P a → stepWith d a = .cont a' → P a') : ∀ (n : Nat) (s : State), P s →
    match runWith d n s with
    | .done s' v => ∃ a, P a ∧ stepWith d a = .done s' v
    | .error s' e => ∃ a, P a ∧ stepWith d a = .error s' e
    | .outOfFuel s' => P s'
    | _ => True
  | 0, s, h => h
  | n + 1, s, h => by
    unfold runWith
    cases hs : stepWith d s with
    | cont a' => exact runWith_inv d hP n a' (hP s a' h hs)
    | done s' v => exact ⟨s, h, hs⟩
    | error s' e => exact ⟨s, h, hs⟩
    | panic _ => trivial
    | unsupported _ => trivial

/-- What `eval` leaves behind when it was started on a test frame above the idle toplevel
frame `f0`: on success exactly `[f0]`; on an error a stack that still has `f0` at the bottom. -/
theorem runWith_test (d : Program → Frame → St → Expr → Disp)
    (hd : ∀ p f st e, Keeps f (d p f st e)) (f0 : Frame) (he : f0.exprs = [])
    (n : Nat) (s : State) (hm : Mid f0 s) (hs : s.stopAt = none) :
    match runWith d n s with
    | .done s' _ => s'.frames = [f0] ∧ Static s s'
    | .error s' _ => Above f0 s'.frames ∧ Static s s'
    | _ => True := by
  let P : State → Prop := fun a => Mid f0 a ∧ a.stopAt = none ∧ Static s a
  have last : ∀ a, P a → MidRes f0 (stepWith d a) ∧ ∀ s', (stepWith d a).state? = some s' → Static s s' :=
    fun a ⟨ham, has, hst⟩ =>
      ⟨stepWith_mid d hd f0 he a ham has, fun s' h => hst.trans (stepWith_static d a s' h)⟩
  have hinv := runWith_inv d (P := P)
    (fun a a' ha hstep => by
      have ⟨hm', hst'⟩ := last a ha
      rw [hstep] at hm' hst'
      exact ⟨hm', (hst' a' rfl).sa.trans hs, hst' a' rfl⟩)
    n s ⟨hm, hs, Static.refl s⟩
  cases hr : runWith d n s with
  | done s' v =>
    rw [hr] at hinv
    obtain ⟨a, ha, hstep⟩ := hinv
    have ⟨hm', hst'⟩ := last a ha
    rw [hstep] at hm' hst'
    exact ⟨hm', hst' s' rfl⟩
  | error s' e =>
    rw [hr] at hinv
    obtain ⟨a, ha, hstep⟩ := hinv
    have ⟨hm', hst'⟩ := last a ha
    rw [hstep] at hm' hst'
    exact ⟨hm', hst' s' rfl⟩
  | panic _ => trivial
  | unsupported _ => trivial
  | outOfFuel _ => trivial

/-- The environment between two tests. -/
structure Base (f0 : Frame) (s : State) : Prop where
  frames : s.frames = [f0]
  idle : f0.exprs = []
  vals : keepBottom f0.values = f0.values
  blocks : keepBottom f0.blocks = f0.blocks
  stop : s.stopAt = none
  flag : s.interrupted = false
  sched : s.interruptAt = []
  limit : s.tickLimit = none

theorem norm_eq_of {s s' : State} (hf : s'.frames = s.frames) (hst : Static s s')
    (hi : s.interrupted = false) (ha : s.interruptAt = []) : norm s' = norm s := by
  have := hst.quiet hi ha
  cases s; cases s'
  simp [norm] at *
  exact ⟨hst.prog, hf, by simp_all, hst.tl, hst.sl, hst.ia, hst.sa⟩

def verdictOfRun : RunResult → Option Verdict
  | .done _ _ => some .pass
  | .error _ e => some (classifyErr e)
  | _ => none

theorem verdictOfRun_mapRun (g : State → State) (r : RunResult) : verdictOfRun (mapRun g r) = verdictOfRun r := by
  cases r <;> rfl

/-- The verdict of test `t` run on its own in environment `b`. -/
def verdictOf (d : Program → Frame → St → Expr → Disp) (fuel : Nat) (b : State) (t : TestDef) : Option Verdict :=
  verdictOfRun (evalWith d fuel (pushTestFrame b t))

theorem evalWith_push (d : Program → Frame → St → Expr → Disp) (fuel : Nat) (s : State) (t : TestDef)
    (f0 : Frame) (h : s.frames = [f0]) :
    evalWith d fuel (pushTestFrame s t) = runWith d fuel (pushTestFrame s t) := by
  simp [evalWith, pushTestFrame, h]

theorem verdictOf_norm (d : Program → Frame → St → Expr → Disp) (fuel : Nat) (s : State) (t : TestDef)
    (f0 : Frame) (hb : Base f0 s) :
    verdictOf d fuel s t = verdictOf d fuel (norm s) t := by
  unfold verdictOf
  rw [evalWith_push d fuel s t f0 hb.frames, evalWith_push d fuel (norm s) t f0 hb.frames,
    ← verdictOfRun_mapRun norm, runWith_norm d fuel (pushTestFrame s t) hb.limit hb.sched, verdictOfRun_mapRun]
  rfl

def outcomeVerdicts : Outcome → Option (List (String × Verdict))
  | .finished vs _ => some vs
  | _ => none

/-- The state `eval` hands back to `eval_tests` when the test got a verdict. -/
def endState : RunResult → Option State
  | .done s _ => some s
  | .error s _ => some s
  | _ => none

/-- After a test that ended with a verdict, `pop_to_toplevel` gives back the environment the
test was started in, up to the tick counter and the output. -/
theorem after_test (d : Program → Frame → St → Expr → Disp)
    (hd : ∀ p f st e, Keeps f (d p f st e)) (fuel : Nat) (s s' : State) (t : TestDef) (f0 : Frame)
    (hb : Base f0 s) (hr : endState (evalWith d fuel (pushTestFrame s t)) = some s') :
    Base f0 (popToToplevel s') ∧ norm (popToToplevel s') = norm s := by
  rw [evalWith_push d fuel s t f0 hb.frames] at hr
  have hrun := runWith_test d hd f0 hb.idle fuel (pushTestFrame s t)
    (Or.inl ⟨[], testFrame t, by simp [pushTestFrame, hb.frames], rfl⟩) hb.stop
  have hlast : s'.frames.getLast? = some f0 ∧ Static (pushTestFrame s t) s' := by
    cases h : runWith d fuel (pushTestFrame s t) <;> rw [h] at hr hrun <;> cases hr
    · exact ⟨by rw [hrun.1]; rfl, hrun.2⟩
    · exact ⟨getLast_above hrun.1, hrun.2⟩
  obtain ⟨hl, hst⟩ := hlast
  have hp : popToToplevel s' = { s' with frames := [f0] } := by
    have hidle : ({ f0 with exprs := [] } : Frame) = f0 := by
      have hi := hb.idle
      cases f0; simp only at hi; rw [hi]
    simp only [popToToplevel, hl, hb.vals, hb.blocks, hidle]
  have hst' : Static s { s' with frames := [f0] } := ⟨hst.prog, hst.tl, hst.sl, hst.ia, hst.sa, hst.quiet⟩
  rw [hp]
  exact ⟨⟨rfl, hb.idle, hb.vals, hb.blocks, hst'.sa.trans hb.stop, hst'.quiet hb.flag hb.sched,
    hst'.ia.trans hb.sched, hst'.tl.trans hb.limit⟩,
    norm_eq_of hb.frames.symm hst' hb.flag hb.sched⟩

theorem base_norm {f0 : Frame} {s : State} (hb : Base f0 s) : Base f0 (norm s) :=
  ⟨by simp [norm, hb.frames], hb.idle, hb.vals, hb.blocks, by simp [norm, hb.stop], by simp [norm, hb.flag],
   by simp [norm, hb.sched], by simp [norm, hb.limit]⟩

theorem runTestsWith_cons (d : Program → Frame → St → Expr → Disp) (fuel : Nat) (s : State) (t : TestDef)
    (ts : List TestDef) {v : Verdict} (hv : verdictOfRun (evalWith d fuel (pushTestFrame s t)) = some v)
    (hni : v ≠ .interrupted) :
    ∃ s', endState (evalWith d fuel (pushTestFrame s t)) = some s' ∧
      runTestsWith d fuel s (t :: ts) = (runTestsWith d fuel (popToToplevel s') ts).cons (t.name, v) := by
  rw [runTestsWith]
  cases hr : evalWith d fuel (pushTestFrame s t) <;> rw [hr] at hv <;> cases hv
  · exact ⟨_, rfl, rfl⟩
  · rename_i s' e
    refine ⟨s', rfl, ?_⟩
    dsimp only
    cases hc : classifyErr e <;> first | rfl | exact absurd hc hni

/-- **The runner is a map.** In an environment without a tick limit, if every listed test on
its own ends with a verdict (no Rust panic, inside the fragment, enough fuel, not
interrupted), then running the list yields, for each test, exactly the verdict it gets on
its own in the initial environment — whatever ran before it. -/
theorem runTestsWith_map (d : Program → Frame → St → Expr → Disp)
    (hd : ∀ p f st e, Keeps f (d p f st e)) (fuel : Nat) (f0 : Frame) :
    ∀ (ts : List TestDef) (s : State), Base f0 s →
    (∀ t ∈ ts, ∃ v, verdictOf d fuel (norm s) t = some v ∧ v ≠ .interrupted) →
    ∃ s', runTestsWith d fuel s ts =
        .finished (ts.map fun t => (t.name, (verdictOf d fuel (norm s) t).getD .pass)) s' ∧
      Base f0 s' ∧ norm s' = norm s
  | [], s, hb, _ => ⟨s, rfl, hb, rfl⟩
  | t :: ts, s, hb, hall => by
    obtain ⟨v, hv, hni⟩ := hall t (by simp)
    obtain ⟨s1, hend, hcons⟩ := runTestsWith_cons d fuel s t ts ((verdictOf_norm d fuel s t f0 hb).trans hv) hni
    obtain ⟨hb1, hn1⟩ := after_test d hd fuel s s1 t f0 hb hend
    obtain ⟨s', hrun, hb', hn'⟩ := runTestsWith_map d hd fuel f0 ts (popToToplevel s1) hb1
      (by intro u hu; rw [hn1]; exact hall u (by simp [hu]))
    refine ⟨s', ?_, hb', hn'.trans hn1⟩
    rw [hcons, hrun, hn1, List.map_cons, hv]
    rfl

theorem base_baseState (p : Program) (sl : Option Nat) : Base (initFrame []) (baseState p none sl) :=
  ⟨rfl, rfl, rfl, rfl, rfl, rfl, rfl, rfl⟩

end TestRunner
