import GardenVerif.Lemmas.ValueEq
/-!
C13 — `==` is structural equality on values.

Over the model of Model/ValueEq.lean (`valueEq` = `impl PartialEq for Value_` of the tree
with patches/arith-fix-float-dict-eq.diff, `valueNe` = `!=`). `LitValue` is the value as the
evaluator stores it, without the fields `eq` ignores; Lean's `=` on it is structural
equality (floats by bit pattern, which for finite floats is the same as "same printed form":
Rust prints the shortest digits that read back to the same bits, and `0.0` / `-0.0` print
differently). All statements are for ALL values, of any size and depth.
-/

namespace C13

/-- `a == b` is True exactly when `a` and `b` are the same `LitValue`. A `LitValue` is more than what a user sees
printed: variants and structs carry their runtime type (`rtype`), as in the code, so two values that print alike
can differ. -/
theorem eq_is_structural (a b : LitValue) : valueEq a b = true ↔ a = b :=
  valueEq_iff a b

theorem ne_is_negation (a b : LitValue) : valueNe a b = !valueEq a b := rfl

theorem eq_reflexive (a : LitValue) : valueEq a a = true :=
  (valueEq_iff a a).mpr rfl

theorem eq_symmetric (a b : LitValue) : valueEq a b = valueEq b a :=
  Bool.eq_iff_iff.mpr (by rw [valueEq_iff, valueEq_iff]; exact eq_comm)

theorem eq_transitive (a b c : LitValue) (h1 : valueEq a b = true) (h2 : valueEq b c = true) :
    valueEq a c = true :=
  (valueEq_iff a c).mpr (((valueEq_iff a b).mp h1).trans ((valueEq_iff b c).mp h2))

/-- `eq_is_structural` at the values two literals evaluate to: they compare equal exactly when the
two values are the same (in particular two separately built values of one literal do). -/
theorem eq_on_literals (x y : Lit) :
    valueEq (Lit.eval x).1 (Lit.eval y).1 = true ↔ (Lit.eval x).1 = (Lit.eval y).1 :=
  valueEq_iff _ _

example : valueEq (Lit.eval (.dict [("b", .float 1), ("a", .list [.int 2])])).1
                  (Lit.eval (.dict [("a", .list [.int 2]), ("b", .float 1)])).1 = true := by
  rw [eq_is_structural]; rfl

example : valueEq (.list [.float 0x3ff8000000000000]) (.list [.float 0x3ff8000000000000]) = true :=
  eq_reflexive _

/-- The defect of the pinned tree: its `eq` is reflexive on a value iff the value contains
no float and no dict (so `1.5 == 1.5` and `Dict[] == Dict[]` are False there). -/
theorem pinned_not_reflexive (a : LitValue) : valueEqPinned a a = !a.hasFloatOrDict :=
  valueEqPinned_self a

example : valueEqPinned (.float 0x3ff8000000000000) (.float 0x3ff8000000000000) = false := by
  rw [pinned_not_reflexive]; rfl

end C13
