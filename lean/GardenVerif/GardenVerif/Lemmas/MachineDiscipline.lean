import GardenVerif.Lemmas.MachineFrame
import GardenVerif.Props.C06
/-!
Value-stack discipline of the evaluator machine M4 (for C02).

`okE` / `okBlock` / `okItems` / `okCases`: decidable well-formedness of a syntax tree as the parser
produces it (`set_is_used_*` in src/parser.rs): operands, receivers, arguments, conditions, iterees,
scrutinees, initialisers are USED; in a block every statement but the last is UNUSED and the last is used
iff the block's value is; loop bodies are unused blocks; an `if` without `else` has unused branches; a
parenthesised expression passes its flag on. The Bool parameter `b` says "this node is in statement
position of the body of a running loop, reached through unused `if`/`match` statements only": only there
may `break` / `continue` occur.

`Bal K V`: the pending entries `K` (top first) run on the value stack `V` (top first) without underflow, by
recursion on `K`: an entry owns `cons` values, needs a typed slot (`entryOK`), and leaves `prod` values of
unknown content. `KOK K`: every pending node is `okE`, and nodes that may be or contain `break` sit in a loop
context (`loopCtx`). One `dispatch` from such a frame is not a panic and re-establishes both (`dispatch_disc`).
-/
namespace MachineDiscipline
open Machine

set_option linter.unusedVariables false in
mutual
def okE (b : Bool) : Expr → Bool
  | .int .. | .str .. | .var .. | .invalid .. | .unsup .. => true
  | .binop _ _ _ l r => l.used && r.used && okE false l && okE false r
  | .letE _ _ _ e => e.used && okE false e
  | .assign _ _ _ e => e.used && okE false e
  | .update _ _ _ _ e => e.used && okE false e
  | .ifE _ u c thn none => c.used && okE false c && okBlock (b && !u) false thn
  | .ifE _ u c thn (some eb) => c.used && okE false c && okBlock (b && !u) u thn && okBlock (b && !u) u eb
  | .whileE _ u c body => c.used && okE false c && okBlock true false body
  | .forE _ u _ it body => it.used && okE false it && okBlock true false body
  | .matchE _ u sc cases => sc.used && okE false sc && okCases (b && !u) u cases
  | .ret _ _ none => true
  | .ret _ _ (some e) => e.used && okE false e
  | .brk _ u => b && !u
  | .cont _ u => b && !u
  | .list _ _ items => okItems items
  | .tuple _ _ items => okItems items
  | .call _ _ recv args => recv.used && okE false recv && okItems args
  | .lambda _ _ _ body => okBlock false true body
  | .paren _ u e => (e.used == u) && okE false e
/-- `bu`: the value of the block is used (so its last statement is). A statement of a block whose
value is used is an operand of what uses it, hence `b && !bu`: no `break` there. -/
def okBlock (b : Bool) (bu : Bool) : List Expr → Bool
  | [] => true
  | e :: rest => (e.used == (bu && rest.isEmpty)) && okE (b && !bu) e && okBlock b bu rest
def okItems : List Expr → Bool
  | [] => true
  | e :: rest => e.used && okE false e && okItems rest
def okCases (b : Bool) (bu : Bool) : List Case → Bool
  | [] => true
  | .mk _ _ body :: rest => okBlock b bu body && okCases b bu rest
end

def okProg (p : Program) : Bool :=
  p.funs.all (fun d => okBlock false true d.body) && okItems p.toplevel

/-- values on the stack that belong to the entry: it pops them, or keeps them under its operands -/
def cons (st : St) : Expr → Nat
  | .binop .. => if st == .E then 2 else 0
  | .letE .. | .assign .. | .update .. | .ret .. => if st == .E then 1 else 0
  | .list _ _ items | .tuple _ _ items => if st == .E then items.length else 0
  | .call _ _ _ args => match st with | .N => 0 | .E => args.length + 1 | _ => 1
  | .ifE .. | .matchE .. => match st with | .N => 0 | .E => 0 | _ => 1
  | .whileE .. => match st with | .PW => 1 | _ => 0
  | .forE .. => match st with | .PW | .PD => 2 | _ => 0
  | _ => 0

/-- does the entry (with everything it pushes) leave one value? -/
def prod (st : St) : Expr → Bool
  | .ifE _ u _ _ els => if st == .E then u && els.isNone else u
  | .whileE _ u .. | .forE _ u .. | .matchE _ u .. => if st == .E then false else u
  | e => e.used

def isInt : Value → Bool
  | .int _ => true
  | _ => false

/-- a running `for` keeps `[iteree, Int index]` on top -/
def entryOK (st : St) (e : Expr) (V : List Value) : Bool :=
  match e with
  | .whileE .. => st != .PN
  | .forE .. => st != .PN && (if st == .PW || st == .PD then (match V with | _ :: i :: _ => isInt i | _ => false) else true)
  | _ => true

/-- `return` with its value evaluated (`C06.isReturnDone`): the rest of the frame is never run. -/
def retDone (st : St) (e : Expr) : Bool :=
  st == .E && (match e with | .ret .. => true | _ => false)

/-- The value-stack discipline (not `C06.Bal`, the block count). A frame with nothing pending holds
the value it returns; what follows a finished `return` is dropped with the frame and not constrained. -/
def Bal : List (St × Expr) → List Value → Prop
  | [], V => V ≠ []
  | (st, e) :: K, V =>
    cons st e ≤ V.length ∧ entryOK st e V = true ∧
    (retDone st e = true ∨
      (if prod st e then ∀ v, Bal K (v :: V.drop (cons st e)) else Bal K (V.drop (cons st e))))

set_option linter.unusedVariables false in
/-- the continuation `K` is the rest of the body of a running loop (statement position) -/
def loopCtx : List (St × Expr) → Bool
  | [] => false
  | (st, e) :: K =>
    match st, e with
    | .PD, .whileE .. => true
    | .PD, .forE .. => true
    | .E, .ifE _ u _ _ _ => !u && loopCtx K
    | .E, .matchE _ u _ _ => !u && loopCtx K
    | .N, e => !e.used && loopCtx K
    | _, _ => false

set_option linter.unusedVariables false in
def KOK : List (St × Expr) → Prop
  | [] => True
  | (st, e) :: K => (∃ b, okE b e = true ∧ (b = true → loopCtx K = true)) ∧ KOK K

def CallOK (p : Program) : Value → Prop
  | .closure _ _ body => okBlock false true body = true
  | .fn name => ∃ d, p.funs.find? (fun d => d.name == name) = some d ∧ okBlock false true d.body = true
  | _ => True

def BalIf (u : Bool) (K : List (St × Expr)) (V : List Value) : Prop :=
  if u then ∀ v, Bal K (v :: V) else Bal K V

def Allowed (e : Expr) (K : List (St × Expr)) : Prop :=
  ∃ b, okE b e = true ∧ (b = true → loopCtx K = true)

def Disc (f : Frame) : Prop := Bal f.exprs f.values ∧ KOK f.exprs

def DiscIf (u : Bool) (f : Frame) : Prop := BalIf u f.exprs f.values ∧ KOK f.exprs

theorem Bal_cons {st : St} {e : Expr} {K : List (St × Expr)} {V : List Value} :
    Bal ((st, e) :: K) V ↔ cons st e ≤ V.length ∧ entryOK st e V = true ∧
      (retDone st e = true ∨ BalIf (prod st e) K (V.drop (cons st e))) := Iff.rfl

theorem Bal.next {st : St} {e : Expr} {K : List (St × Expr)} {V : List Value}
    (h : Bal ((st, e) :: K) V) (hr : retDone st e = false) : BalIf (prod st e) K (V.drop (cons st e)) :=
  h.2.2.resolve_left (by rw [hr]; exact Bool.false_ne_true)

theorem DiscIf.pushVIf {c : Bool} {f : Frame} (h : DiscIf c f) (x : Value) : Disc (f.pushVIf c x) := by
  rw [pushVIf_eq]
  cases c
  · exact h
  · exact ⟨h.1 x, h.2⟩

theorem cons_N (e : Expr) : cons .N e = 0 := by cases e <;> rfl
theorem prod_N (e : Expr) : prod .N e = e.used := by cases e <;> rfl
theorem entryOK_N (e : Expr) (V : List Value) : entryOK .N e V = true := by cases e <;> rfl

theorem Bal_N (e : Expr) (K : List (St × Expr)) (V : List Value) :
    Bal ((.N, e) :: K) V ↔ BalIf e.used K V := by
  simp [Bal_cons, cons_N, prod_N, entryOK_N, retDone]

theorem Bal_operands (ops : List Expr) (K : List (St × Expr)) :
    ∀ (V : List Value), (∀ e ∈ ops, e.used = true) →
    (∀ vs : List Value, vs.length = ops.length → Bal K (vs ++ V)) →
    Bal (ops.map (fun e => (St.N, e)) ++ K) V := by
  induction ops with
  | nil => intro V _ h; exact h [] rfl
  | cons e rest ih =>
    intro V hu h
    rw [List.map_cons, List.cons_append, Bal_N, hu e List.mem_cons_self]
    intro v
    apply ih (v :: V) (fun x hx => hu x (List.mem_cons_of_mem _ hx))
    intro vs hl
    have := h (vs ++ [v]) (by simp [hl])
    rwa [List.append_assoc] at this

theorem okItems_iff : ∀ {items : List Expr}, okItems items = true ↔
    ∀ e ∈ items, e.used = true ∧ okE false e = true
  | [] => by simp [okItems]
  | e :: rest => by
    simp only [okItems, Bool.and_eq_true, List.forall_mem_cons, okItems_iff (items := rest)]

theorem loopCtx_N (e : Expr) (K : List (St × Expr)) : loopCtx ((.N, e) :: K) = (!e.used && loopCtx K) := by
  cases e <;> rfl

theorem KOK_operands (ops : List Expr) (K : List (St × Expr)) (hk : KOK K)
    (ho : ∀ e ∈ ops, okE false e = true) : KOK (ops.map (fun e => (St.N, e)) ++ K) := by
  induction ops with
  | nil => exact hk
  | cons e rest ih =>
    exact ⟨⟨false, ho e List.mem_cons_self, nofun⟩, ih fun x hx => ho x (List.mem_cons_of_mem _ hx)⟩

theorem loopCtx_block (b : Bool) : ∀ (body : List Expr) (K0 : List (St × Expr)),
    okBlock b false body = true → loopCtx (body.map (fun e => (St.N, e)) ++ K0) = loopCtx K0
  | [], K0, _ => rfl
  | e :: rest, K0, h => by
    simp only [okBlock, Bool.and_eq_true, Bool.false_and, beq_iff_eq] at h
    rw [List.map_cons, List.cons_append, loopCtx_N, loopCtx_block b rest K0 h.2, h.1.1]
    rfl

theorem Bal_block (b bu : Bool) (K0 : List (St × Expr)) (V : List Value) (hK : BalIf bu K0 V) :
    ∀ (body : List Expr), okBlock b bu body = true → body ≠ [] →
    Bal (body.map (fun e => (St.N, e)) ++ K0) V
  | [], _, hne => absurd rfl hne
  | [e], h, _ => by
    simp only [okBlock, List.isEmpty_nil, Bool.and_true, Bool.and_eq_true, beq_iff_eq] at h
    rw [List.map_cons, List.map_nil, List.cons_append, List.nil_append, Bal_N, h.1]
    exact hK
  | e :: e2 :: rest, h, _ => by
    rw [okBlock, List.isEmpty_cons, Bool.and_false, Bool.and_eq_true, Bool.and_eq_true, beq_iff_eq] at h
    have := Bal_block b bu K0 V hK (e2 :: rest) h.2 (List.cons_ne_nil _ _)
    rw [List.map_cons, List.cons_append, Bal_N, h.1.1]
    exact this

theorem KOK_block (b bu : Bool) (K0 : List (St × Expr)) (hk : KOK K0)
    (hb : (b && !bu) = true → loopCtx K0 = true) :
    ∀ (body : List Expr), okBlock b bu body = true → KOK (body.map (fun e => (St.N, e)) ++ K0)
  | [], _ => hk
  | e :: rest, h => by
    have h' := h
    simp only [okBlock, Bool.and_eq_true] at h
    refine ⟨⟨b && !bu, h.1.2, fun hbb => ?_⟩, KOK_block b bu K0 hk hb rest h.2⟩
    obtain rfl : bu = false := by simpa using (Bool.and_eq_true_iff.mp hbb).2
    exact (loopCtx_block b rest K0 h.2).trans (hb hbb)

theorem Disc_evalBlock (b bu : Bool) (f : Frame) (body : List Expr) (hok : okBlock b bu body = true)
    (hf : DiscIf bu f) (hb : (b && !bu) = true → loopCtx f.exprs = true) : Disc (evalBlock f bu body) := by
  rw [evalBlock_eq]
  refine ⟨?_, KOK_block b bu f.exprs hf.2 hb body hok⟩
  cases body with
  | nil =>
    cases bu
    · exact hf.1
    · exact hf.1 vUnit
  | cons e rest =>
    rw [List.isEmpty_cons, Bool.and_false]
    exact Bal_block b bu f.exprs f.values hf.1 (e :: rest) hok (List.cons_ne_nil _ _)

/-- A callee frame starts with the discipline; the caller waits for its value iff the callee's `callerUses`. -/
def DiscAfter : Disp → Prop
  | .ok f' => Disc f'
  | .okOut f' _ => Disc f'
  | .newFrame f' c => DiscIf c.callerUses f' ∧ Disc c ∧ c.blocks ≠ []
  | .panic _ => False
  | _ => True

/-- `ops`: first to run first; `k`: the values the entry already owns. -/
theorem disc_push {K : List (St × Expr)} {V : List Value} (e : Expr) (st' : St) (ops : List Expr) (k : Nat)
    (hops : ∀ x ∈ ops, x.used = true ∧ okE false x = true) (ha : Allowed e K) (hK : KOK K)
    (hc : cons st' e = ops.length + k) (hk : k ≤ V.length)
    (hent : ∀ vs : List Value, vs.length = ops.length → entryOK st' e (vs ++ V) = true)
    (hnext : retDone st' e = true ∨ BalIf (prod st' e) K (V.drop k)) :
    Bal (ops.map (fun x => (St.N, x)) ++ (st', e) :: K) V ∧
      KOK (ops.map (fun x => (St.N, x)) ++ (st', e) :: K) := by
  refine ⟨Bal_operands ops _ V (fun x hx => (hops x hx).1) fun vs hl => ⟨?_, hent vs hl, ?_⟩,
    KOK_operands ops _ ⟨ha, hK⟩ fun x hx => (hops x hx).2⟩
  · rw [hc, List.length_append, hl]; omega
  · rw [hc, ← hl, ← List.drop_drop, List.drop_left]
    exact hnext

theorem DiscIf.ok_pushVIf {c : Bool} {f g : Frame} (h : DiscIf c g) (x : Value)
    (he : f.exprs = g.exprs := by rfl) (hv : f.values = g.values := by rfl) :
    DiscAfter (.ok (f.pushVIf c x)) :=
  DiscIf.pushVIf (f := f) (by rw [DiscIf, he, hv]; exact h) x

theorem pop1_discIf {f : Frame} {u : Bool} (hlen : 1 ≤ f.values.length)
    (hnext : BalIf u f.exprs (f.values.drop 1)) (hK : KOK f.exprs) :
    ∃ v vals, f.values = v :: vals ∧ DiscIf u { f with values := vals } := by
  match hv : f.values, hlen, hnext with
  | v :: vals, _, hnext => exact ⟨v, vals, rfl, hnext, hK⟩

theorem intBinop_arith_no_panic (op : BinOp) (a b : Int64) (site : String)
    (h1 : op ≠ .eq) (h2 : op ≠ .ne) (h3 : op ≠ .and) (h4 : op ≠ .or) (h5 : op ≠ .concat) (h6 : op ≠ .floatOp) :
    intBinop op a b ≠ .panic site := by
  fun_cases intBinop op a b <;> first | (intro h; cases h; done) | (cases op <;> contradiction)

theorem binopBody_disc {g : Frame} {u : Bool} (hg : DiscIf u g) (op : BinOp) (lv rv : Value) :
    DiscAfter (binopBody g u op lv rv) := by
  fun_cases binopBody g u op lv rv
  all_goals try rw [‹intBinop _ _ _ = _›]
  all_goals first
    | exact hg.ok_pushVIf _
    | trivial
    | exact intBinop_arith_no_panic _ _ _ _ ‹_› ‹_› ‹_› ‹_› ‹_› ‹_› ‹_›

theorem dispatch_disc_binop (p : Program) (f : Frame) (st : St) (id : Nat) (u : Bool) (op : BinOp) (l r : Expr)
    (hB : Bal ((st, .binop id u op l r) :: f.exprs) f.values) (hK : KOK ((st, .binop id u op l r) :: f.exprs)) :
    DiscAfter (dispatch p f st (.binop id u op l r)) := by
  obtain ⟨ha, hKK⟩ := hK
  by_cases hst : st = .E
  · subst hst
    have hlen : 2 ≤ f.values.length := hB.1
    have hnext : BalIf u f.exprs (f.values.drop 2) := hB.next rfl
    rw [dispatch_binop_E]
    match hv : f.values, hlen, hnext with
    | rv :: lv :: vals, _, hnext => exact binopBody_disc (g := { f with values := vals }) ⟨hnext, hKK⟩ op lv rv
  · rw [dispatch_binop_of_ne hst]
    have hc : cons st (.binop id u op l r) = 0 := by cases st <;> first | rfl | exact absurd rfl hst
    have hnext : BalIf u f.exprs (f.values.drop 0) := hc ▸ hB.next (Bool.and_false _)
    have hops : ∀ x ∈ [l, r], x.used = true ∧ okE false x = true := by
      obtain ⟨b, hb, _⟩ := ha
      simp only [okE, Bool.and_eq_true] at hb
      simp [hb]
    exact disc_push _ .E [l, r] 0 hops ha hKK rfl (Nat.zero_le _) (fun _ _ => rfl) (Or.inr hnext)

theorem Allowed.operand {e x : Expr} {K : List (St × Expr)} (ha : Allowed e K)
    (h : ∀ b, okE b e = (x.used && okE false x)) : ∀ y ∈ [x], y.used = true ∧ okE false y = true := by
  obtain ⟨b, hb, _⟩ := ha
  rw [h, Bool.and_eq_true] at hb
  exact List.forall_mem_singleton.mpr hb

theorem letBody_disc {g : Frame} {u : Bool} (hg : DiscIf u g) (dest : Dest) (v : Value) :
    DiscAfter (letBody g u dest v) := by
  fun_cases letBody g u dest v
  all_goals first
    | exact hg.ok_pushVIf _
    | trivial

theorem dispatch_disc_let (p : Program) (f : Frame) (st : St) (id : Nat) (u : Bool) (dest : Dest) (inner : Expr)
    (hB : Bal ((st, .letE id u dest inner) :: f.exprs) f.values) (hK : KOK ((st, .letE id u dest inner) :: f.exprs)) :
    DiscAfter (dispatch p f st (.letE id u dest inner)) := by
  obtain ⟨ha, hKK⟩ := hK
  have hops := Allowed.operand ha fun _ => rfl
  cases st
  case E =>
    obtain ⟨v, vals, hv, hg⟩ := pop1_discIf hB.1 (hB.next rfl) hKK
    rw [dispatch_let_E, hv]
    exact letBody_disc hg dest v
  all_goals exact disc_push _ .E [inner] 0 hops ha hKK rfl (Nat.zero_le _) (fun _ _ => rfl) (Or.inr (hB.next rfl))

theorem dispatch_disc_assign (p : Program) (f : Frame) (st : St) (id : Nat) (u : Bool) (name : String) (inner : Expr)
    (hB : Bal ((st, .assign id u name inner) :: f.exprs) f.values) (hK : KOK ((st, .assign id u name inner) :: f.exprs)) :
    DiscAfter (dispatch p f st (.assign id u name inner)) := by
  obtain ⟨ha, hKK⟩ := hK
  have hops := Allowed.operand ha fun _ => rfl
  cases st
  case E =>
    obtain ⟨v, vals, hv, hg⟩ := pop1_discIf hB.1 (hB.next rfl) hKK
    rw [dispatch_assign_E, hv]
    split
    · trivial
    · rename_i hl
      dsimp only
      cases hs : setExisting f.blocks name v with
      | none => exact absurd hs (setExisting_of_lookup name v f.blocks (by simpa using hl))
      | some bs => exact hg.ok_pushVIf _
  all_goals exact disc_push _ .E [inner] 0 hops ha hKK rfl (Nat.zero_le _) (fun _ _ => rfl) (Or.inr (hB.next rfl))

theorem updateBody_disc {g : Frame} {u : Bool} (hg : DiscIf u g) (isAdd : Bool) (name : String) (cur : Int64)
    (rv : Value) (hl : lookupBlocks g.blocks name ≠ none) : DiscAfter (updateBody g u isAdd name cur rv) := by
  fun_cases updateBody g u isAdd name cur rv
  · exact hg.ok_pushVIf _
  · exact setExisting_of_lookup name _ g.blocks hl ‹_›
  · trivial

theorem dispatch_disc_update (p : Program) (f : Frame) (st : St) (id : Nat) (u : Bool) (isAdd : Bool) (name : String) (inner : Expr)
    (hB : Bal ((st, .update id u isAdd name inner) :: f.exprs) f.values) (hK : KOK ((st, .update id u isAdd name inner) :: f.exprs)) :
    DiscAfter (dispatch p f st (.update id u isAdd name inner)) := by
  obtain ⟨ha, hKK⟩ := hK
  have hops := Allowed.operand ha fun _ => rfl
  cases st
  case E =>
    obtain ⟨rv, vals, hv, hg⟩ := pop1_discIf hB.1 (hB.next rfl) hKK
    rw [dispatch_update_E, hv]
    split
    · trivial
    · rename_i cur hcur
      exact updateBody_disc hg _ _ _ _ (lookupBlocks_of_getVar_int p f name cur hcur)
    · trivial
  all_goals exact disc_push _ .E [inner] 0 hops ha hKK rfl (Nat.zero_le _) (fun _ _ => rfl) (Or.inr (hB.next rfl))

theorem dispatch_disc_ret (p : Program) (f : Frame) (st : St) (id : Nat) (u : Bool) (inner : Option Expr)
    (hB : Bal ((st, .ret id u inner) :: f.exprs) f.values) (hK : KOK ((st, .ret id u inner) :: f.exprs)) :
    DiscAfter (dispatch p f st (.ret id u inner)) := by
  obtain ⟨ha, hKK⟩ := hK
  cases st
  case E =>
    -- the frame is finished: what is left is the value to return
    have hlen : 1 ≤ f.values.length := hB.1
    exact ⟨fun h => (by rw [h] at hlen; cases hlen), trivial⟩
  all_goals
    cases inner with
    | some x =>
      exact disc_push _ .E [x] 0 (Allowed.operand ha fun _ => rfl) ha hKK rfl (Nat.zero_le _) (fun _ _ => rfl) (Or.inl rfl)
    | none => exact ⟨⟨Nat.succ_le_succ (Nat.zero_le _), rfl, Or.inl rfl⟩, ha, hKK⟩

theorem dispatch_disc_paren (p : Program) (f : Frame) (st : St) (id : Nat) (u : Bool) (inner : Expr)
    (hB : Bal ((st, .paren id u inner) :: f.exprs) f.values) (hK : KOK ((st, .paren id u inner) :: f.exprs)) :
    DiscAfter (dispatch p f st (.paren id u inner)) := by
  obtain ⟨⟨b, hb, _⟩, hKK⟩ := hK
  simp only [okE, Bool.and_eq_true, beq_iff_eq] at hb
  have hnext : BalIf u f.exprs (f.values.drop 0) := hB.next (Bool.and_false _)
  exact ⟨(Bal_N ..).mpr (hb.1 ▸ hnext), ⟨false, hb.2, nofun⟩, hKK⟩

theorem dispatch_disc_leaf (p : Program) (f : Frame) (st : St) (e : Expr)
    (hB : Bal ((st, e) :: f.exprs) f.values) (hK : KOK ((st, e) :: f.exprs))
    (hleaf : match e with | .int .. | .str .. | .var .. | .lambda .. | .invalid .. | .unsup .. => True | _ => False) :
    DiscAfter (dispatch p f st e) := by
  have hnext (he : cons st e = 0) (hr : retDone st e = false) : DiscIf (prod st e) f :=
    ⟨by have := hB.next hr; rwa [he] at this, hK.2⟩
  cases e <;> try cases hleaf
  case int => exact (hnext rfl (Bool.and_false _)).ok_pushVIf _
  case str => exact (hnext rfl (Bool.and_false _)).ok_pushVIf _
  case lambda => exact (hnext rfl (Bool.and_false _)).ok_pushVIf _
  case var =>
    rw [dispatch_var]
    split
    · exact (hnext rfl (Bool.and_false _)).ok_pushVIf _
    · trivial
  all_goals trivial

/-- `[…]` and `(…, …)`: the model has the two arms written out, with different crash messages, so there
is no shared body to state this about: the equation of `dispatch` for the node is the hypothesis `hd`. -/
theorem dispatch_disc_items {p : Program} {f : Frame} {st : St} {e : Expr} {u : Bool} {items : List Expr}
    {msg : String} (mk : List Value → Value)
    (hd : dispatch p f st e =
      if st != .E then .ok (items.foldl (fun f x => f.pushE .N x) (f.pushE .E e))
      else match popN items.length f.values with
        | some (got, vals) => .ok ({ f with values := vals }.pushVIf u (mk got))
        | none => .panic msg)
    (hc : ∀ st, cons st e = if st == .E then items.length else 0) (hp : ∀ st, prod st e = u)
    (hr : ∀ st, retDone st e = false) (he : ∀ st V, entryOK st e V = true)
    (hok : ∀ b, okE b e = okItems items)
    (hB : Bal ((st, e) :: f.exprs) f.values) (hK : KOK ((st, e) :: f.exprs)) :
    DiscAfter (dispatch p f st e) := by
  obtain ⟨ha, hKK⟩ := hK
  have hnext := hB.next (hr st)
  rw [hp] at hnext
  rw [hd]
  by_cases hst : st = .E
  · subst hst
    have hlen : items.length ≤ f.values.length := by have := hB.1; rwa [hc] at this
    rw [hc] at hnext
    rw [popN_eq_some.mpr ⟨(List.take_append_drop items.length f.values).symm, List.length_take_of_le hlen⟩]
    exact DiscIf.ok_pushVIf (g := { f with values := f.values.drop items.length }) ⟨hnext, hKK⟩ _
  · have hops : ∀ x ∈ items.reverse, x.used = true ∧ okE false x = true := by
      obtain ⟨b, hb, _⟩ := ha
      rw [hok] at hb
      exact fun x hx => okItems_iff.mp hb x (List.mem_reverse.mp hx)
    rw [hc, if_neg (by simpa using hst)] at hnext
    rw [if_pos (by simpa using hst), foldl_pushN, ← List.map_reverse]
    exact disc_push e .E items.reverse 0 hops ha hKK (by simp [hc]) (Nat.zero_le _) (fun _ _ => he _ _)
      (Or.inr (by rwa [hp]))

theorem callee_disc {body : List Expr} (h : okBlock false true body = true) :
    Bal (body.map (fun x => (St.N, x))) [vUnit] ∧ KOK (body.map (fun x => (St.N, x))) := by
  have hK := KOK_block false true [] trivial nofun body h
  rw [List.append_nil] at hK
  refine ⟨?_, hK⟩
  cases body with
  | nil => exact List.cons_ne_nil _ _
  | cons e rest =>
    have := Bal_block false true [] [vUnit] (fun v => List.cons_ne_nil _ _) (e :: rest) h (List.cons_ne_nil _ _)
    rwa [List.append_nil] at this

theorem callBody_disc {p : Program} {g : Frame} {u : Bool} (hg : DiscIf u g) (cid : Nat) (recv : Value)
    (args : List Value) (hrecv : CallOK p recv) : DiscAfter (callBody p g cid u recv args) := by
  fun_cases callBody p g cid u recv args
  -- a named function: `CallOK` says it is defined
  case case3 hnone => obtain ⟨d, hd, _⟩ := hrecv; rw [hd] at hnone; cases hnone
  case case5 d hsome _ =>
    obtain ⟨d', hd, hok⟩ := hrecv
    cases hd.symm.trans hsome
    exact ⟨hg, callee_disc hok, List.cons_ne_nil _ _⟩
  -- a constructor applied to a list of arguments of length 1
  case case15 hlen hne =>
    match args, hlen, hne with
    | [a], _, h => exact h a rfl
    | [], h, _ | _ :: _ :: _, h, _ => exact h rfl
  all_goals first
    | trivial
    | exact hg.ok_pushVIf _
    | exact ⟨hg, callee_disc hrecv, List.cons_ne_nil _ _⟩

theorem evalCall_disc (p : Program) (f : Frame) (cid : Nat) (u : Bool) (n : Nat)
    (hlen : n + 1 ≤ f.values.length) (hnext : BalIf u f.exprs (f.values.drop (n + 1)))
    (hKK : KOK f.exprs) (hcal : ∀ v ∈ f.values, CallOK p v) :
    DiscAfter (evalCall p f cid u n) := by
  rw [evalCall_eq,
    popN_eq_some.mpr ⟨(List.take_append_drop n f.values).symm, List.length_take_of_le (Nat.le_of_succ_le hlen)⟩]
  dsimp only
  rw [List.drop_eq_getElem_cons hlen]
  exact callBody_disc (g := { f with values := f.values.drop (n + 1) }) ⟨hnext, hKK⟩ cid _ _
    (hcal _ (List.getElem_mem _))

theorem dispatch_disc_call (p : Program) (f : Frame) (st : St) (id : Nat) (u : Bool) (recv : Expr) (args : List Expr)
    (hB : Bal ((st, .call id u recv args) :: f.exprs) f.values) (hK : KOK ((st, .call id u recv args) :: f.exprs))
    (hcal : ∀ v ∈ f.values, CallOK p v) :
    DiscAfter (dispatch p f st (.call id u recv args)) := by
  obtain ⟨ha, hKK⟩ := hK
  have ⟨b, hb, _⟩ := ha
  simp only [okE, Bool.and_eq_true] at hb
  -- the receiver has been evaluated: push the arguments
  have hargs {st : St} (hN : st ≠ .N) (hE : st ≠ .E) (hlen : 1 ≤ f.values.length)
      (hnext : BalIf u f.exprs (f.values.drop 1)) : DiscAfter (dispatch p f st (.call id u recv args)) := by
    rw [dispatch_call_args hN hE, foldl_pushN, ← List.map_reverse]
    exact disc_push _ .E args.reverse 1 (fun x hx => okItems_iff.mp hb.2 x (List.mem_reverse.mp hx)) ha hKK
      (by simp [cons]) hlen (fun _ _ => rfl) (Or.inr hnext)
  cases st
  case N =>
    exact disc_push _ .PN [recv] 0 (List.forall_mem_singleton.mpr hb.1) ha hKK rfl (Nat.zero_le _)
      (fun _ _ => rfl) (Or.inr (hB.next rfl))
  case E => exact evalCall_disc p f _ u args.length hB.1 (hB.next rfl) hKK hcal
  all_goals exact hargs nofun nofun hB.1 (hB.next rfl)

theorem two_le_of_owns {st : St} {e : Expr} {K : List (St × Expr)} {n : Nat} (h : C06.owns (st, e) = true)
    (hblk : 1 + C06.owners ((st, e) :: K) ≤ n) : 2 ≤ n := by
  rw [C06.owners_cons, h] at hblk
  simp only [if_true] at hblk
  omega

theorem le_of_owns {st : St} {e : Expr} {K : List (St × Expr)} {a : Block} {bs : List Block}
    (h : C06.owns (st, e) = true) (hblk : 1 + C06.owners ((st, e) :: K) ≤ (a :: bs).length) :
    1 + C06.owners K ≤ bs.length := by
  rw [C06.owners_cons, h, List.length_cons] at hblk
  simp only [if_true] at hblk
  omega

theorem afterBlock_disc {f : Frame} {k : Frame → Frame} (h2 : 2 ≤ f.blocks.length)
    (hk : ∀ bs, Disc (k { f with blocks := bs })) : DiscAfter (afterBlock f k) := by
  match hb : f.blocks, h2 with
  | a :: b :: r, _ =>
    have : popBlock f = some { f with blocks := b :: r } := by simp [popBlock, hb]
    rw [afterBlock, this]
    exact hk _

/-- the continuation of an `if` hands the value of the branch on (if there is an `else`) or
pushes `Unit` itself -/
theorem BalIf_ifE {K : List (St × Expr)} {V : List Value} (i : Nat) (u : Bool) (c : Expr) (thn : List Expr)
    (els : Option (List Expr)) (h : BalIf u K V) :
    BalIf (u && els.isSome) ((St.E, .ifE i u c thn els) :: K) V := by
  cases u <;> cases els
  all_goals first
    | exact ⟨Nat.zero_le _, rfl, Or.inr h⟩
    | exact fun v => ⟨Nat.zero_le _, rfl, Or.inr (h v)⟩

theorem ifBody_disc {g : Frame} {st : St} {i : Nat} {u : Bool} {c : Expr} {thn : List Expr}
    {els : Option (List Expr)} (hg : DiscIf u g) (ha : Allowed (.ifE i u c thn els) g.exprs) (cv : Value) :
    DiscAfter (ifBody g st (.ifE i u c thn els) u thn els cv) := by
  have ⟨b, hb, hl⟩ := ha
  have hE : DiscIf (u && els.isSome) (g.pushE .E (.ifE i u c thn els)) := ⟨BalIf_ifE i u c thn els hg.1, ha, hg.2⟩
  have hctx : ((b && !u) && !(u && els.isSome)) = true → loopCtx ((St.E, .ifE i u c thn els) :: g.exprs) = true := by
    intro h
    simp only [Bool.and_eq_true, Bool.not_eq_true'] at h
    simp [loopCtx, h.1.2, hl h.1.1]
  unfold ifBody
  split
  · trivial
  · split
    · refine Disc_evalBlock (b && !u) _ _ thn ?_ hE hctx
      cases els <;> simp_all [okE]
    · split
      · refine Disc_evalBlock (b && !u) _ _ _ ?_ hE hctx
        simp_all [okE]
      · have := hE.1
        rw [Option.isSome_none, Bool.and_false] at this
        exact ⟨this, hE.2⟩

theorem dispatch_disc_if (p : Program) (f : Frame) (st : St) (id : Nat) (u : Bool) (c : Expr) (thn : List Expr) (els : Option (List Expr))
    (hB : Bal ((st, .ifE id u c thn els) :: f.exprs) f.values) (hK : KOK ((st, .ifE id u c thn els) :: f.exprs))
    (hblk : 1 + C06.owners ((st, .ifE id u c thn els) :: f.exprs) ≤ f.blocks.length) :
    DiscAfter (dispatch p f st (.ifE id u c thn els)) := by
  obtain ⟨ha, hKK⟩ := hK
  have hrun {st : St} (hN : st ≠ .N) (hE : st ≠ .E) (hlen : 1 ≤ f.values.length)
      (hnext : BalIf u f.exprs (f.values.drop 1)) : DiscAfter (dispatch p f st (.ifE id u c thn els)) := by
    obtain ⟨cv, vals, hv, hg⟩ := pop1_discIf hlen hnext hKK
    rw [dispatch_if_run hN hE, hv]
    exact ifBody_disc hg ha cv
  cases st
  case N =>
    have hc : c.used = true ∧ okE false c = true := by
      have ⟨b, hb, _⟩ := ha
      cases els <;> simp_all [okE]
    exact disc_push _ .PW [c] 0 (List.forall_mem_singleton.mpr hc) ha hKK rfl (Nat.zero_le _)
      (fun _ _ => rfl) (Or.inr (hB.next rfl))
  case E =>
    rw [dispatch_if_E]
    exact afterBlock_disc (two_le_of_owns rfl hblk) fun bs =>
      DiscIf.pushVIf (f := { f with blocks := bs }) ⟨hB.next rfl, hKK⟩ _
  all_goals exact hrun nofun nofun hB.1 (hB.next rfl)

theorem okCases_mem {b bu : Bool} {variant : String} {dest : Option Dest} {body : List Expr} :
    ∀ {cs : List Case}, okCases b bu cs = true → Case.mk variant dest body ∈ cs → okBlock b bu body = true
  | .mk _ _ body' :: rest, h, hm => by
    simp only [okCases, Bool.and_eq_true] at h
    rcases List.mem_cons.mp hm with heq | hm
    · cases heq; exact h.1
    · exact okCases_mem h.2 hm

/-- the continuation of a `match`, a finished loop -/
theorem BalIf_skip {st : St} {e : Expr} {K : List (St × Expr)} {V : List Value} {u : Bool} (hc : cons st e = 0)
    (he : ∀ W, entryOK st e W = true) (hp : prod st e = false) (h : BalIf u K V) : BalIf u ((st, e) :: K) V := by
  have step (W : List Value) (hW : Bal K W) : Bal ((st, e) :: K) W :=
    ⟨hc ▸ Nat.zero_le _, he W, Or.inr (by rw [hp, hc]; exact hW)⟩
  cases u
  · exact step V h
  · exact fun v => step (v :: V) (h v)

theorem matchBody_disc {p : Program} {g : Frame} {st : St} {i : Nat} {u : Bool} {sc : Expr} {cs : List Case}
    (hg : DiscIf u g) (ha : Allowed (.matchE i u sc cs) g.exprs) (sv : Value) :
    DiscAfter (matchBody p g st (.matchE i u sc cs) u cs sv) := by
  have ⟨b, hb, hl⟩ := ha
  simp only [okE, Bool.and_eq_true] at hb
  unfold matchBody
  split
  · split
    · rename_i f' hm
      obtain ⟨_, _, body, bs, hmem, _, rfl⟩ := matchCases_ok hm
      refine Disc_evalBlock (b && !u) u _ body (okCases_mem hb.2 hmem) ⟨BalIf_skip rfl (fun _ => rfl) rfl hg.1, ha, hg.2⟩ ?_
      intro h
      simp only [Bool.and_eq_true, Bool.not_eq_true'] at h
      show (!u && loopCtx g.exprs) = true
      rw [h.2, hl h.1.1]; rfl
    · trivial
  · trivial

theorem dispatch_disc_match (p : Program) (f : Frame) (st : St) (id : Nat) (u : Bool) (sc : Expr) (cs : List Case)
    (hB : Bal ((st, .matchE id u sc cs) :: f.exprs) f.values) (hK : KOK ((st, .matchE id u sc cs) :: f.exprs))
    (hblk : 1 + C06.owners ((st, .matchE id u sc cs) :: f.exprs) ≤ f.blocks.length) :
    DiscAfter (dispatch p f st (.matchE id u sc cs)) := by
  obtain ⟨ha, hKK⟩ := hK
  have hrun {st : St} (hN : st ≠ .N) (hE : st ≠ .E) (hlen : 1 ≤ f.values.length)
      (hnext : BalIf u f.exprs (f.values.drop 1)) : DiscAfter (dispatch p f st (.matchE id u sc cs)) := by
    obtain ⟨sv, vals, hv, hg⟩ := pop1_discIf hlen hnext hKK
    rw [dispatch_match_run hN hE, hv]
    exact matchBody_disc hg ha sv
  cases st
  case N =>
    have ⟨b, hb, _⟩ := ha
    simp only [okE, Bool.and_eq_true] at hb
    exact disc_push _ .PW [sc] 0 (List.forall_mem_singleton.mpr hb.1) ha hKK rfl (Nat.zero_le _)
      (fun _ _ => rfl) (Or.inr (hB.next rfl))
  case E =>
    rw [dispatch_match_E]
    exact afterBlock_disc (two_le_of_owns rfl hblk) fun bs => ⟨hB.next rfl, hKK⟩
  all_goals exact hrun nofun nofun hB.1 (hB.next rfl)

theorem whileBody_disc {g : Frame} {i : Nat} {u : Bool} {c : Expr} {body : List Expr} (hg : DiscIf u g)
    (ha : Allowed (.whileE i u c body) g.exprs) (cv : Value) :
    DiscAfter (whileBody g (.whileE i u c body) u body cv) := by
  have ⟨b, hb, _⟩ := ha
  simp only [okE, Bool.and_eq_true] at hb
  unfold whileBody
  split
  · trivial
  · exact Disc_evalBlock true false _ body hb.2 ⟨⟨Nat.zero_le _, rfl, Or.inr hg.1⟩, ha, hg.2⟩ fun _ => rfl
  · exact DiscIf.ok_pushVIf (g := g.pushE .E (.whileE i u c body))
      ⟨BalIf_skip rfl (fun _ => rfl) rfl hg.1, ha, hg.2⟩ _

theorem dispatch_disc_while (p : Program) (f : Frame) (st : St) (id : Nat) (u : Bool) (c : Expr) (body : List Expr)
    (hB : Bal ((st, .whileE id u c body) :: f.exprs) f.values) (hK : KOK ((st, .whileE id u c body) :: f.exprs))
    (hblk : 1 + C06.owners ((st, .whileE id u c body) :: f.exprs) ≤ f.blocks.length) :
    DiscAfter (dispatch p f st (.whileE id u c body)) := by
  obtain ⟨ha, hKK⟩ := hK
  have hcond (hnext : BalIf u f.exprs (f.values.drop 0)) :
      Bal ((St.N, c) :: (St.PW, .whileE id u c body) :: f.exprs) f.values ∧
        KOK ((St.N, c) :: (St.PW, .whileE id u c body) :: f.exprs) := by
    have ⟨b, hb, _⟩ := ha
    simp only [okE, Bool.and_eq_true] at hb
    exact disc_push _ .PW [c] 0 (List.forall_mem_singleton.mpr hb.1) ha hKK rfl (Nat.zero_le _)
      (fun _ _ => rfl) (Or.inr hnext)
  cases st
  case N => exact hcond (hB.next rfl)
  case PW =>
    obtain ⟨cv, vals, hv, hg⟩ := pop1_discIf hB.1 (hB.next rfl) hKK
    rw [dispatch_while_PW, hv]
    exact whileBody_disc hg ha cv
  case PD =>
    rw [dispatch_while_PD]
    exact afterBlock_disc (two_le_of_owns rfl hblk) fun bs => hcond (hB.next rfl)
  case PN => cases hB.2.1
  case E => exact ⟨hB.next rfl, hKK⟩

theorem forBody_disc {g : Frame} {i : Nat} {u : Bool} {dest : Dest} {it : Expr} {body : List Expr}
    (hg : DiscIf u g) (ha : Allowed (.forE i u dest it body) g.exprs) (iv idxv : Value) (hidx : isInt idxv = true) :
    DiscAfter (forBody g (.forE i u dest it body) u dest body iv idxv) := by
  have ⟨b, hb, _⟩ := ha
  simp only [okE, Bool.and_eq_true] at hb
  fun_cases forBody g (.forE i u dest it body) u dest body iv idxv
  -- the list is exhausted: the loop is finished
  · exact DiscIf.ok_pushVIf (g := g.pushE .E (.forE i u dest it body))
      ⟨BalIf_skip rfl (fun _ => rfl) rfl hg.1, ha, hg.2⟩ _
  · rename_i hin hnone
    have := List.getElem?_eq_none_iff.mp hnone
    omega
  · trivial
  -- one more round: the entry goes back with the next index and the list on top
  · exact Disc_evalBlock true false _ body hb.2
      ⟨⟨Nat.le_add_left _ _, rfl, Or.inr hg.1⟩, ha, hg.2⟩ fun _ => rfl
  · trivial
  · rename_i hne
    cases idxv <;> first | exact hne _ rfl | cases hidx

theorem dispatch_disc_for (p : Program) (f : Frame) (st : St) (id : Nat) (u : Bool) (dest : Dest) (it : Expr) (body : List Expr)
    (hB : Bal ((st, .forE id u dest it body) :: f.exprs) f.values) (hK : KOK ((st, .forE id u dest it body) :: f.exprs))
    (hblk : 1 + C06.owners ((st, .forE id u dest it body) :: f.exprs) ≤ f.blocks.length) :
    DiscAfter (dispatch p f st (.forE id u dest it body)) := by
  obtain ⟨ha, hKK⟩ := hK
  cases st
  case N =>
    have ⟨b, hb, _⟩ := ha
    simp only [okE, Bool.and_eq_true] at hb
    exact disc_push (V := .int 0 :: f.values) _ .PW [it] 1 (List.forall_mem_singleton.mpr hb.1) ha hKK rfl
      (Nat.le_add_left _ _) (fun vs hl => match vs, hl with | [_], _ => rfl) (Or.inr (hB.next rfl))
  case PW =>
    have hlen : 2 ≤ f.values.length := hB.1
    have hent := hB.2.1
    have hnext : BalIf u f.exprs (f.values.drop 2) := hB.next rfl
    rw [dispatch_for_PW]
    match hv : f.values, hlen, hent, hnext with
    | iv :: idxv :: vals, _, hent, hnext =>
      exact forBody_disc (g := { f with values := vals }) ⟨hnext, hKK⟩ ha iv idxv hent
  case PD =>
    rw [dispatch_for_PD]
    exact afterBlock_disc (two_le_of_owns rfl hblk) fun bs => ⟨hB, ha, hKK⟩
  case PN => cases hB.2.1
  case E =>
    rw [dispatch_for_E]
    exact afterBlock_disc (two_le_of_owns rfl hblk) fun bs => ⟨hB.next rfl, hKK⟩

/-- the flag `eval_break` pushes Unit by: the `used` flag of the loop left (head of the result) -/
def headLoopUsed : List (St × Expr) → Bool
  | (_, l) :: _ => l.isLoop && l.used
  | [] => false

/-- Along a loop context, unused statements that have not started are dropped, continuations of unused
`if` / `match` statements are dropped with their block, and the first running loop is where `continue` stops. -/
theorem continueLoop_disc (K : List (St × Expr)) (V : List Value) (blocks : List Block)
    (hl : loopCtx K = true) (hK : KOK K) (hB : Bal K V) (hblk : 1 + C06.owners K ≤ blocks.length) :
    ∃ l K0 V' bs', evalContinueLoop K V blocks = some ((.PD, l) :: K0, V', bs') ∧ l.isLoop = true ∧
      Bal ((.PD, l) :: K0) V' ∧ KOK ((.PD, l) :: K0) ∧ 1 + C06.owners ((.PD, l) :: K0) ≤ bs'.length := by
  fun_induction loopCtx K generalizing V blocks
  case case1 | case7 => cases hl
  case case2 | case3 => exact ⟨_, _, V, blocks, rfl, rfl, hB, hK, hblk⟩
  case case4 K _ u _ _ _ ih =>
    obtain ⟨rfl, hlK⟩ : u = false ∧ loopCtx K = true := by simpa using hl
    match blocks, two_le_of_owns rfl hblk, hblk with
    | a :: b :: r, _, hblk => exact ih V (b :: r) hlK hK.2 (hB.next rfl) (le_of_owns rfl hblk)
  case case5 K _ u _ _ ih =>
    obtain ⟨rfl, hlK⟩ : u = false ∧ loopCtx K = true := by simpa using hl
    match blocks, two_le_of_owns rfl hblk, hblk with
    | a :: b :: r, _, hblk => exact ih V (b :: r) hlK hK.2 (hB.next rfl) (le_of_owns rfl hblk)
  case case6 K e ih =>
    obtain ⟨hu, hlK⟩ : e.used = false ∧ loopCtx K = true := by simpa using hl
    rw [evalContinueLoop_N]
    refine ih V blocks hlK hK.2 ?_ ?_
    · have := (Bal_N e K V).mp hB
      rwa [hu] at this
    · simpa [C06.owners_cons, C06.owns_N] using hblk

/-- A `for` left by `break` gives up its list and index; its block stays for the terminal state. -/
theorem breakLoop_disc (K : List (St × Expr)) (V : List Value) (blocks : List Block)
    (hl : loopCtx K = true) (hK : KOK K) (hB : Bal K V) (hblk : 1 + C06.owners K ≤ blocks.length) :
    ∃ K' V' bs', evalBreakLoop K V blocks = some (K', V', bs') ∧
      BalIf (headLoopUsed K') K' V' ∧ KOK K' := by
  obtain ⟨l, K0, V', bs', he, hloop, hB', hK', hblk'⟩ := continueLoop_disc K V blocks hl hK hB hblk
  rw [evalBreakLoop_eq, he]
  cases l <;> first | cases hloop | skip
  · match bs', two_le_of_owns rfl hblk' with
    | a :: b :: r, _ => exact ⟨_, V', b :: r, rfl, BalIf_skip rfl (fun _ => rfl) rfl (hB'.next rfl), hK'⟩
  · match V', hB'.1, hB'.next rfl with
    | _ :: _ :: vals, _, hnext => exact ⟨_, vals, bs', rfl, BalIf_skip rfl (fun _ => rfl) rfl hnext, hK'⟩

theorem dispatch_disc_brk (p : Program) (f : Frame) (st : St) (id : Nat) (u : Bool)
    (hB : Bal ((st, .brk id u) :: f.exprs) f.values) (hK : KOK ((st, .brk id u) :: f.exprs))
    (hblk : 1 + C06.owners ((st, .brk id u) :: f.exprs) ≤ f.blocks.length) :
    DiscAfter (dispatch p f st (.brk id u)) := by
  obtain ⟨⟨b, hb, hl⟩, hKK⟩ := hK
  obtain ⟨rfl, rfl⟩ : b = true ∧ u = false := by simpa [okE] using hb
  have hown : C06.owns (st, .brk id false) = false := by cases st <;> rfl
  rw [C06.owners_cons, hown] at hblk
  obtain ⟨K', V', bs', he, hB', hK'⟩ :=
    breakLoop_disc f.exprs f.values f.blocks (hl rfl) hKK (hB.next (Bool.and_false _)) (by simpa using hblk)
  rw [dispatch_brk, he]
  exact DiscIf.ok_pushVIf (g := { f with exprs := K', values := V', blocks := bs' })
    ⟨by cases K' <;> exact hB', hK'⟩ _

theorem dispatch_disc_cont (p : Program) (f : Frame) (st : St) (id : Nat) (u : Bool)
    (hB : Bal ((st, .cont id u) :: f.exprs) f.values) (hK : KOK ((st, .cont id u) :: f.exprs))
    (hblk : 1 + C06.owners ((st, .cont id u) :: f.exprs) ≤ f.blocks.length) :
    DiscAfter (dispatch p f st (.cont id u)) := by
  obtain ⟨⟨b, hb, hl⟩, hKK⟩ := hK
  obtain ⟨rfl, rfl⟩ : b = true ∧ u = false := by simpa [okE] using hb
  have hown : C06.owns (st, .cont id false) = false := by cases st <;> rfl
  rw [C06.owners_cons, hown] at hblk
  obtain ⟨l, K0, V', bs', he, _, hB', hK', _⟩ :=
    continueLoop_disc f.exprs f.values f.blocks (hl rfl) hKK (hB.next (Bool.and_false _)) (by simpa using hblk)
  rw [dispatch_cont, he]
  exact ⟨hB', hK'⟩

theorem dispatch_disc (p : Program) (f : Frame) (st : St) (e : Expr)
    (hB : Bal ((st, e) :: f.exprs) f.values) (hK : KOK ((st, e) :: f.exprs))
    (hblk : 1 + C06.owners ((st, e) :: f.exprs) ≤ f.blocks.length)
    (hcal : ∀ v ∈ f.values, CallOK p v) : DiscAfter (dispatch p f st e) := by
  cases e
  case int => exact dispatch_disc_leaf p f st _ hB hK trivial
  case str => exact dispatch_disc_leaf p f st _ hB hK trivial
  case var => exact dispatch_disc_leaf p f st _ hB hK trivial
  case lambda => exact dispatch_disc_leaf p f st _ hB hK trivial
  case invalid => exact dispatch_disc_leaf p f st _ hB hK trivial
  case unsup => exact dispatch_disc_leaf p f st _ hB hK trivial
  case binop => exact dispatch_disc_binop p f st _ _ _ _ _ hB hK
  case letE => exact dispatch_disc_let p f st _ _ _ _ hB hK
  case assign => exact dispatch_disc_assign p f st _ _ _ _ hB hK
  case update => exact dispatch_disc_update p f st _ _ _ _ _ hB hK
  case ret => exact dispatch_disc_ret p f st _ _ _ hB hK
  case paren => exact dispatch_disc_paren p f st _ _ _ hB hK
  case list =>
    exact dispatch_disc_items .list rfl (fun _ => rfl) (fun _ => rfl) (fun _ => Bool.and_false _)
      (fun _ _ => rfl) (fun _ => rfl) hB hK
  case tuple =>
    exact dispatch_disc_items .tuple rfl (fun _ => rfl) (fun _ => rfl) (fun _ => Bool.and_false _)
      (fun _ _ => rfl) (fun _ => rfl) hB hK
  case call => exact dispatch_disc_call p f st _ _ _ _ hB hK hcal
  case ifE => exact dispatch_disc_if p f st _ _ _ _ _ hB hK hblk
  case matchE => exact dispatch_disc_match p f st _ _ _ _ hB hK hblk
  case whileE => exact dispatch_disc_while p f st _ _ _ _ hB hK hblk
  case forE => exact dispatch_disc_for p f st _ _ _ _ _ hB hK hblk
  case brk => exact dispatch_disc_brk p f st _ _ hB hK hblk
  case cont => exact dispatch_disc_cont p f st _ _ hB hK hblk

def FrameOK (f : Frame) : Prop :=
  Bal f.exprs f.values ∧ KOK f.exprs ∧ 1 + C06.owners f.exprs ≤ f.blocks.length

/-- a caller waits for the value of the call it is evaluating (iff the callee's `callerUses`) -/
def CallerOK (uses : Bool) (c : Frame) : Prop :=
  (if uses then ∀ v, Bal c.exprs (v :: c.values) else Bal c.exprs c.values) ∧ KOK c.exprs ∧
  1 + C06.owners c.exprs ≤ c.blocks.length

def StackOK : List Frame → Prop
  | [] => True
  | [_] => True
  | callee :: caller :: rest => CallerOK callee.callerUses caller ∧ StackOK (caller :: rest)

def WFd (s : State) : Prop :=
  ∃ f rest, s.frames = f :: rest ∧ FrameOK f ∧ StackOK (f :: rest)

theorem StackOK_top (f g : Frame) (rest : List Frame) (h : g.callerUses = f.callerUses)
    (hs : StackOK (f :: rest)) : StackOK (g :: rest) := by
  cases rest with
  | nil => trivial
  | cons r rs => simp only [StackOK] at hs ⊢; rw [h]; exact hs

/-- a callee frame starts with no block entered -/
def BlkAfter : Disp → Prop
  | .ok f' => 1 + C06.owners f'.exprs ≤ f'.blocks.length
  | .okOut f' _ => 1 + C06.owners f'.exprs ≤ f'.blocks.length
  | .newFrame f' c => 1 + C06.owners f'.exprs ≤ f'.blocks.length ∧ C06.owners c.exprs = 0
  | _ => True

/-- The block count follows from the balance equation (`C06.dispatch_bal`), taken with the frame's own
base: what it has beyond its owners. -/
theorem dispatch_blk (p : Program) (f : Frame) (st : St) (e : Expr)
    (hblk : 1 + C06.owners ((st, e) :: f.exprs) ≤ f.blocks.length) : BlkAfter (dispatch p f st e) := by
  rw [C06.owners_cons] at hblk
  by_cases hr : C06.isReturnDone st e = true
  · rw [C06.dispatch_ret_done _ _ _ _ hr]
    exact Nat.le_trans (Nat.le_add_right _ _) hblk
  · have hd := C06.dispatch_bal p f st e (f.blocks.length - C06.owners ((st, e) :: f.exprs))
      (by rw [C06.owners_cons]; omega) (Bool.eq_false_iff.mpr hr)
    rw [C06.owners_cons] at hd
    cases hdd : dispatch p f st e <;> rw [hdd] at hd <;> try trivial
    · exact show 1 + _ ≤ _ by rw [show _ = _ from hd]; omega
    · exact show 1 + _ ≤ _ by rw [show _ = _ from hd]; omega
    · exact ⟨show 1 + _ ≤ _ by rw [show _ = _ from hd.1]; omega, hd.2⟩

end MachineDiscipline
