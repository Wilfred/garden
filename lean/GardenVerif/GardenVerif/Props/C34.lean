import GardenVerif.Lemmas.Imports
/-!
# C34 — Only public definitions are visible through imports

Statements over the loader model `Imports.load` (Model/Imports.lean), a transcription of
`load_toplevel_items_`, `insert_imported_namespace`, `eval_namespace_access` and
`infer_namespace_access`. The tie to the Rust is the `imports_eval` correspondence
(harness/c34.py: generated project directories, `garden check --json` / `garden run`).

What is proved (all universally quantified over projects, no acyclicity hypothesis)
* `load_terminates`, `load_fuel_exists`, `load_calls_bounded`: for EVERY finite project (any import
  graph: cycles, self-imports, unreadable files) the loader returns (a state, or a panic at one of
  the two modelled `unwrap`/`borrow_mut` sites) with fuel `|files| + 1`, after at most `|files|`
  recursive loads. Measure: project files not in `paths_seen`.
* `exported_exactly_public`: after a successful load, for the main file and for every readable file
  in `paths_seen`, `exported_syms(f)` is EXACTLY `{x | the last definition of function x in f is
  public}`, and every exported name is bound. This holds through cycles (the main file may be
  loaded re-entrantly).
* `import_exactly_public_partial`: in the MAIN file, for an alias `a` bound to the namespace of `f`
  (`import "f" as a`), `a::x` resolves at run time iff it is accepted at check time iff `f` defines a
  public function `x`; anything else is an error at both times. "Partial" = functions only,
  `name::item` form only, probed from the main file (the proof does not use that it is the main one). Like `exported_exactly_public` it assumes `hf`: `f` is the
  main file or a readable file in `paths_seen`; that every alias the loader binds satisfies this is not
  proved.
* `addFun_exported`: what one `fun` item does to `exported_syms` and the values of its file.
* `import_only_public_in_scope`: unqualified imports, soundness half — in every file of every project
  a bare name denotes a function of that file or a `public` definition; `a::x` reaches only public
  definitions (no private function crosses a file boundary, whatever the import graph).
* `qual_check_run_agree`, `bare_check_run_agree`: check time and run time apply the same rule.
* witnesses `private_type_visible_witness`, `private_method_visible_witness`,
  `public_enum_variants_not_imported_witness`, `cyclic_unqualified_partial_witness`,
  `panic_sites_witness`: on concrete model projects the full statement of the property FAILS for
  types, methods, enum variants and for unqualified imports inside a cycle; with `Cfg.asIs` (the
  tree without patches/imports-fix-reimport-unreadable.diff and patches/imports-fix-self-import.diff)
  the loader panics on two input classes.

What is NOT proved (kept visible): the completeness half of the unqualified analogue
  `bare x in file F resolves ↔ F defines x ∨ ∃ f, F has "import f" ∧ proj.publicFun f x`
is FALSE in the model for files inside an import cycle (`cyclic_unqualified_partial_witness`) and
name clashes are resolved by statement order; for acyclic projects it is left to the correspondence
run and the direct oracle. Types, methods and enum variants: the statement is false (witnesses).
-/

namespace C34
open Imports

theorem load_terminates (cfg : Cfg) (proj : Project) (main : String) :
    load cfg proj main (proj.length + 1) ≠ .outOfFuel :=
  loadFile_fuel cfg proj (proj.length + 1) main St.init
    (by show unseen proj [] < proj.length + 1; rw [unseen_nil]; omega)

theorem load_fuel_exists (cfg : Cfg) (proj : Project) (main : String) :
    ∃ fuel, fuel ≤ proj.length + 1 ∧ load cfg proj main fuel ≠ .outOfFuel :=
  ⟨proj.length + 1, Nat.le_refl _, load_terminates cfg proj main⟩

theorem load_calls_bounded (cfg : Cfg) (proj : Project) (main : String) (st : St)
    (h : load cfg proj main (proj.length + 1) = .ok st) : st.calls ≤ proj.length := by
  -- `loadFile_preserves` holds at every fuel (`_`): the `proj.length + 1` of the statement is not used
  have hm : Meas proj St.init st := loadFile_preserves (meas_closed cfg proj) _ main St.init st h
  have h0 : unseen proj St.init.seen = proj.length := unseen_nil proj
  have hc : St.init.calls = 0 := rfl
  unfold Meas at hm
  omega

/-- A cyclic three-file project with a self-import: the hypotheses are satisfiable and the
result is a state, not a panic. -/
def cyclicProject : Project :=
  [("main.gdn", [.imp "a.gdn" (some "m"), .fn false "f" 1 none]),
   ("a.gdn", [.imp "b.gdn" none, .fn true "g" 2 none, .imp "a.gdn" (some "self")]),
   ("b.gdn", [.imp "main.gdn" (some "top"), .imp "a.gdn" none, .fn true "h" 3 none])]

def okCalls : Out St → Option Nat
  | .ok st => some st.calls
  | _ => none

def okState : Out St → St
  | .ok st => st
  | _ => St.init

def panicSite : Out St → Option String
  | .panic s => some s
  | _ => none

example : okCalls (load Cfg.asIs cyclicProject "main.gdn" 4) = some 3 := by decide

/-- Run time (`eval_namespace_access`) and check time (`infer_namespace_access`) apply the same
rule to `a::x`: an error iff `x` is not a value of that namespace or is not in its `exported_syms`. -/
theorem qual_check_run_agree (st : St) (cur a x f : String)
    (ha : alookup (st.nsOf cur).values a = some (.ns f)) :
    ((∃ v, resolveQual st cur a x = .ok v) ↔ checkProbe st cur (.qual a x false) = none) ∧
    ((∃ v, resolveQual st cur a x = .ok v) ↔
      ((alookup (st.nsOf f).values x).isSome = true ∧ (st.nsOf f).exported.contains x = true)) := by
  simp only [resolveQual, checkProbe, ha]
  cases hv : alookup (st.nsOf f).values x with
  | none => simp
  | some v =>
    by_cases he : x ∈ (st.nsOf f).exported
    · simp [he]
    · simp [he]

theorem bare_check_run_agree (st : St) (cur x : String) :
    (∃ v, resolveBare st cur x = .ok v) ↔ checkProbe st cur (.bare x false) = none := by
  simp only [resolveBare, checkProbe]
  cases alookup (st.nsOf cur).values x <;> simp

theorem addFun_exported (st : St) (cur : String) (pub : Bool) (name : String) (tag : Nat)
    (body : Option Probe) (x : String) :
    ((st.addFun cur pub name tag body).nsOf cur).exported.contains x =
      (if x = name then pub else (st.nsOf cur).exported.contains x) ∧
    alookup ((st.addFun cur pub name tag body).nsOf cur).values name = some (.fn cur tag pub body) := by
  refine ⟨?_, by rw [St.addFun, nsOf_setNs, if_pos rfl]; simp [alookup]⟩
  have := mem_addFun st cur pub name tag body cur x
  simpa [mem] using this

theorem exported_exactly_public (cfg : Cfg) (proj : Project) (main : String) (fuel : Nat) (st : St)
    (h : load cfg proj main fuel = .ok st) (f x : String)
    (hf : f = main ∨ (st.seen.contains f = true ∧ (alookup proj f).isSome = true)) :
    mem st f x = proj.publicFun f x ∧ (mem st f x = true → hasVal st f x = true) := by
  obtain ⟨⟨-, newSeenGood, -⟩, inv, goodMain⟩ := loadFile_T cfg proj fuel main St.init st h (Inv_init proj)
  refine ⟨?_, inv.val f x⟩
  rcases hf with rfl | ⟨hs, hr⟩
  · exact goodMain x
  · exact newSeenGood f hs rfl hr x

/-- `hf` (the main file, or a readable file in `paths_seen`) is a hypothesis of its own, not derived
from `ha`. -/
theorem import_exactly_public_partial (cfg : Cfg) (proj : Project) (main : String) (fuel : Nat)
    (st : St) (h : load cfg proj main fuel = .ok st) (a f x : String)
    (ha : alookup (st.nsOf main).values a = some (.ns f))
    (hf : f = main ∨ (st.seen.contains f = true ∧ (alookup proj f).isSome = true)) :
    ((∃ v, resolveQual st main a x = .ok v) ↔ proj.publicFun f x = true) ∧
    (checkProbe st main (.qual a x false) = none ↔ proj.publicFun f x = true) ∧
    (proj.publicFun f x = false →
      (∃ e, resolveQual st main a x = .error e) ∧ checkProbe st main (.qual a x false) ≠ none) := by
  obtain ⟨hm, hv⟩ := exported_exactly_public cfg proj main fuel st h f x hf
  obtain ⟨h1, h2⟩ := qual_check_run_agree st main a x f ha
  have key : (∃ v, resolveQual st main a x = .ok v) ↔ proj.publicFun f x = true := by
    rw [h2, ← hm]
    constructor
    · exact fun hh => hh.2
    · exact fun hh => ⟨hv hh, hh⟩
  refine ⟨key, h1.symm.trans key, ?_⟩
  intro hp
  have hno : ¬ ∃ v, resolveQual st main a x = .ok v := by rw [key, hp]; simp
  refine ⟨?_, fun hc => hno (h1.mpr hc)⟩
  cases hr : resolveQual st main a x with
  | ok v => exact absurd ⟨v, hr⟩ hno
  | error e => exact ⟨e, rfl⟩

/-- The hypotheses are satisfiable on a cyclic project, for a public and for a missing name. -/
example : alookup ((okState (load Cfg.asIs cyclicProject "main.gdn" 4)).nsOf "main.gdn").values "m" = some (.ns "a.gdn")
    ∧ (okState (load Cfg.asIs cyclicProject "main.gdn" 4)).seen.contains "a.gdn" = true
    ∧ Project.publicFun cyclicProject "a.gdn" "g" = true
    ∧ Project.publicFun cyclicProject "b.gdn" "nosuch" = false := by decide

theorem import_only_public_in_scope (cfg : Cfg) (proj : Project) (main : String) (fuel : Nat) (st : St)
    (h : load cfg proj main fuel = .ok st) :
    (∀ p x o t b body, resolveBare st p x = .ok (Val.fn o t b body) → o = p ∨ b = true) ∧
    (∀ p a x o t b body, resolveQual st p a x = .ok (Val.fn o t b body) → b = true) := by
  have vi : VisInv st := loadFile_preserves (visInv_closed cfg proj) fuel main St.init st h visInv_init
  refine ⟨?_, ?_⟩
  · intro p x o t b body hr
    simp only [resolveBare] at hr
    split at hr
    · cases hr
    · rename_i v hv; cases hr; exact vi.u p x o t b body hv
  · intro p a x o t b body hr
    simp only [resolveQual] at hr
    split at hr
    · cases hr
    · rename_i f hf
      split at hr
      · cases hr
      · rename_i v hv
        split at hr
        · rename_i he; cases hr; exact vi.e f x o t b body he hv
        · cases hr
    · cases hr
    · cases hr

/-! ## Where the implementation does not follow the statement (model witnesses) -/

def libProject : Project :=
  [("main.gdn", [.imp "lib.gdn" none, .imp "lib.gdn" (some "m")]),
   ("lib.gdn", [.fn true "pubf" 1001 none, .fn false "privf" 1002 none, .struct false "PrivS",
                .meth false "PrivS" "privm" 1003, .enum true "PubE" ["PRed", "PGreen"]])]

def libState : St :=
  match load Cfg.asIs libProject "main.gdn" 3 with
  | .ok st => st
  | _ => St.init

/-- Functions behave as stated on this project … -/
example : runProbe libState "main.gdn" (.qual "m" "pubf" true) = .ok (some 1001)
    ∧ runProbe libState "main.gdn" (.qual "m" "privf" true) = .err .notExternal
    ∧ checkProbe libState "main.gdn" (.qual "m" "privf" true) = some .notExternal
    ∧ runProbe libState "main.gdn" (.bare "pubf" true) = .ok (some 1001)
    ∧ runProbe libState "main.gdn" (.bare "privf" true) = .err .unbound := by decide

example : alookup (libState.nsOf "main.gdn").values "pubf" = some (Val.fn "lib.gdn" 1001 true none) := by decide

/-- … but a PRIVATE struct of the imported file is usable by the importer (run and check). -/
theorem private_type_visible_witness :
    runProbe libState "main.gdn" (.structLit "PrivS") = .ok none ∧
    checkProbe libState "main.gdn" (.structLit "PrivS") = none := by decide

/-- … a PRIVATE method of the imported file is callable by the importer. -/
theorem private_method_visible_witness :
    runProbe libState "main.gdn" (.methStruct "PrivS" "privm") = .ok (some 1003) ∧
    checkProbe libState "main.gdn" (.methStruct "PrivS" "privm") = none := by decide

/-- … and the variants of a PUBLIC enum are reachable neither bare nor through `m::`. -/
theorem public_enum_variants_not_imported_witness :
    runProbe libState "main.gdn" (.bare "PRed" false) = .err .unbound ∧
    runProbe libState "main.gdn" (.qual "m" "PRed" false) = .err .notExternal ∧
    checkProbe libState "main.gdn" (.qual "m" "PRed" false) = some .notExternal := by decide

def partialProject : Project :=
  [("main.gdn", [.imp "a.gdn" (some "a"), .imp "b.gdn" (some "b")]),
   ("a.gdn", [.fn true "x" 1 none, .imp "b.gdn" none, .fn true "y" 2 none]),
   ("b.gdn", [.imp "a.gdn" none, .fn true "viax" 3 (some (.bare "x" true)),
              .fn true "viay" 4 (some (.bare "y" true))])]

def partialState : St :=
  match load Cfg.asIs partialProject "main.gdn" 4 with
  | .ok st => st
  | _ => St.init

/-- In an import cycle, `b.gdn`'s unqualified import of `a.gdn` happens while `a.gdn` is still
being loaded: `x` (defined before `a`'s import of `b`) is in scope of `b`, the public `y`
(defined after it) is not; check time (of `main.gdn`) reports nothing. -/
theorem cyclic_unqualified_partial_witness :
    runProbe partialState "main.gdn" (.qual "b" "viax" true) = .ok (some 1) ∧
    runProbe partialState "main.gdn" (.qual "b" "viay" true) = .err .unbound ∧
    checkProbe partialState "main.gdn" (.qual "b" "viay" true) = none ∧
    Project.publicFun partialProject "a.gdn" "y" = true := by decide

/-- The two panic sites with `Cfg.asIs`; none with `Cfg.repaired`. -/
theorem panic_sites_witness :
    panicSite (load Cfg.asIs [("main.gdn", [.imp "nosuch.gdn" (some "a"), .imp "nosuch.gdn" (some "b")])]
      "main.gdn" 2) = some "eval.rs:476 get_namespace(..).unwrap() on None" ∧
    panicSite (load Cfg.asIs [("main.gdn", [.imp "main.gdn" none, .fn true "x" 1 none])] "main.gdn" 2)
      = some "eval.rs:646 RefCell already borrowed" ∧
    okCalls (load Cfg.repaired [("main.gdn", [.imp "nosuch.gdn" (some "a"), .imp "nosuch.gdn" (some "b")])]
      "main.gdn" 2) = some 0 ∧
    okCalls (load Cfg.repaired [("main.gdn", [.imp "main.gdn" none, .fn true "x" 1 none])] "main.gdn" 2)
      = some 1 := by decide

end C34
