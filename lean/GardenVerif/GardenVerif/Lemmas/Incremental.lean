import GardenVerif.Lemmas.MachineFrame
/-!
Helper lemmas for C11 (incremental = batch): **frame parametricity of the evaluator**.

`fx T R f` = the frame `f` with further pending entries `T` BELOW its own and further values `R`
BELOW its own. `dispatch_fx`: one `eval_expr` dispatch that does not crash on `f` does the same on
`fx T R f` and leaves `T` and `R` alone — unless it is one of the three steps that drop the rest of the
frame's pending entries (`escapes`: a `return` continuation, a `break` / `continue` that finds no
running loop); with `T = []` there is no exception. This is what makes "the later inputs of the
concatenated request are waiting below" and "earlier requests left values on frame 0's value stack"
unobservable to the current input.
-/

namespace Incr
open Machine

def fx (T : List (St × Expr)) (R : List Value) (f : Frame) : Frame :=
  { f with exprs := f.exprs ++ T, values := f.values ++ R }

def mapF (g : Frame → Frame) : Disp → Disp
  | .ok f => .ok (g f)
  | .okOut f o => .okOut (g f) o
  | .newFrame f c => .newFrame (g f) c
  | .err f st vals e => .err (g f) st vals e
  | .panic site => .panic site
  | .unsupported w => .unsupported w

def isPanic : Disp → Bool
  | .panic _ => true
  | _ => false

/-- Steps that drop the REST of the frame's pending entries. -/
def escapes (f : Frame) (st : St) (e : Expr) : Bool :=
  match e with
  | .ret .. => st == St.E
  | .brk .. =>
    match evalBreakLoop f.exprs f.values f.blocks with
    | some ([], _, _) => true
    | _ => false
  | .cont .. =>
    match evalContinueLoop f.exprs f.values f.blocks with
    | some ([], _, _) => true
    | _ => false
  | _ => false

def isForE : Expr → Bool
  | .forE .. => true
  | _ => false

variable (T : List (St × Expr)) (R : List Value)

@[simp] theorem fx_exprs (f : Frame) : (fx T R f).exprs = f.exprs ++ T := rfl
@[simp] theorem fx_values (f : Frame) : (fx T R f).values = f.values ++ R := rfl
@[simp] theorem fx_blocks (f : Frame) : (fx T R f).blocks = f.blocks := rfl
@[simp] theorem fx_nextBlock (f : Frame) : (fx T R f).nextBlock = f.nextBlock := rfl
@[simp] theorem fx_callerUses (f : Frame) : (fx T R f).callerUses = f.callerUses := rfl
@[simp] theorem fx_callerId (f : Frame) : (fx T R f).callerId = f.callerId := rfl
@[simp] theorem fx_kind (f : Frame) : (fx T R f).kind = f.kind := rfl

theorem fx_pushE (f : Frame) (st : St) (e : Expr) : (fx T R f).pushE st e = fx T R (f.pushE st e) := by
  simp [fx, Frame.pushE]

theorem fx_pushV (f : Frame) (v : Value) : (fx T R f).pushV v = fx T R (f.pushV v) := by
  simp [fx, Frame.pushV]

theorem fx_pushVIf (f : Frame) (c : Bool) (v : Value) :
    (fx T R f).pushVIf c v = fx T R (f.pushVIf c v) := by
  unfold Frame.pushVIf; split <;> simp [fx_pushV]

theorem fx_setValues (f : Frame) (vals : List Value) :
    ({ fx T R f with values := vals ++ R } : Frame) = fx T R { f with values := vals } := by
  simp [fx]

theorem fx_setBlocks (f : Frame) (bs : List Block) :
    ({ fx T R f with blocks := bs } : Frame) = fx T R { f with blocks := bs } := by
  simp [fx]

theorem fx_setNext (f : Frame) (bs : Block) :
    ({ fx T R f with nextBlock := bs } : Frame) = fx T R { f with nextBlock := bs } := by
  simp [fx]

theorem fx_evalBlock (f : Frame) (u : Bool) (body : List Expr) :
    evalBlock (fx T R f) u body = fx T R (evalBlock f u body) := by
  unfold evalBlock
  simp only [fx_blocks, fx_nextBlock, fx_exprs]
  split <;> simp [fx, Frame.pushV]

theorem fx_popBlock (f : Frame) : popBlock (fx T R f) = (popBlock f).map (fx T R) := by
  unfold popBlock
  simp only [fx_blocks]
  split <;> simp [fx]

theorem fx_foldl_pushN (items : List Expr) : ∀ (f : Frame),
    items.foldl (fun f x => f.pushE .N x) (fx T R f) = fx T R (items.foldl (fun f x => f.pushE .N x) f) := by
  induction items with
  | nil => intro f; rfl
  | cons x xs ih => intro f; simp only [List.foldl]; rw [fx_pushE, ih]

theorem popN_app (n : Nat) (V got rest : List Value) (h : popN n V = some (got, rest)) :
    popN n (V ++ R) = some (got, rest ++ R) := by
  obtain ⟨rfl, hl⟩ := popN_eq_some.mp h
  exact popN_eq_some.mpr ⟨List.append_assoc .., hl⟩

theorem getVar_fx (p : Program) (f : Frame) (n : String) : getVar p (fx T R f) n = getVar p f n := rfl

theorem matchCases_fx (p : Program) (used : Bool) (ty : String) (idx : Nat) (pl : Option Value) :
    ∀ (cases : List Case) (f : Frame),
    matchCases p (fx T R f) used ty idx pl cases = (matchCases p f used ty idx pl cases).map (fx T R) := by
  intro cases
  induction cases with
  | nil => intro f; simp [matchCases, Except.map]
  | cons c rest ih =>
    intro f
    cases c with
    | mk variant dest body =>
      unfold matchCases
      simp only [getVar_fx]
      split
      · simp [Except.map, fx_evalBlock]
      · split
        · simp [Except.map]
        · split
          · simp [Except.map]
          · split
            · split
              · rename_i bs hb
                have := fx_evalBlock T R { f with nextBlock := bs } used body
                simpa [fx, Except.map] using this
              · simp [Except.map]
              · exact ih f
            · exact ih f


/-- The loop search of `continue` (hence of `break`) does not look below the entries it finds its loop
in — unless it finds none (`K' = []`): then it would go on into `T`. -/
theorem continueLoop_fx : ∀ (K : List (St × Expr)) (V : List Value) (B : List Block)
    (K' : List (St × Expr)) (V' : List Value) (B' : List Block),
    evalContinueLoop K V B = some (K', V', B') → (T = [] ∨ K' ≠ []) →
    evalContinueLoop (K ++ T) (V ++ R) B = some (K' ++ T, V' ++ R, B')
  | [], V, B, K', V', B', h, hT => by
    cases h
    rcases hT with rfl | hT
    · rfl
    · exact absurd rfl hT
  | (st, e) :: rest, V, B, K', V', B', h, hT => by
    have ih := continueLoop_fx rest
    rw [List.cons_append]
    cases hl : e.isLoop with
    | false =>
      rw [evalContinueLoop_other hl] at h ⊢
      by_cases ho : ownsBlock st e = true
      · rw [if_pos ho] at h ⊢
        cases hb : popBlocks1 B with
        | none => rw [hb] at h; cases h
        | some bs => rw [hb] at h; exact ih _ _ _ _ _ h hT
      · rw [if_neg ho] at h ⊢; exact ih _ _ _ _ _ h hT
    | true =>
      cases e with
      | whileE i u c body =>
        rw [evalContinueLoop_while] at h ⊢
        by_cases hN : (st == St.N) = true
        · rw [if_pos hN] at h ⊢; exact ih _ _ _ _ _ h hT
        · rw [if_neg hN] at h ⊢; cases h; rfl
      | forE i u dest iter body =>
        rw [evalContinueLoop_for] at h ⊢
        by_cases hN : (st == St.N) = true
        · rw [if_pos hN] at h ⊢; exact ih _ _ _ _ _ h hT
        · rw [if_neg hN] at h ⊢
          by_cases hW : (st == St.PW) = true
          · rw [if_pos hW] at h ⊢
            cases V with
            | nil => cases h
            | cons v vs => exact ih _ _ _ _ _ h hT
          · rw [if_neg hW] at h ⊢; cases h; rfl
      | _ => cases hl

theorem breakHead_fx {K K' : List (St × Expr)} {V V' : List Value} {B B' : List Block}
    (h : breakHead K V B = some (K', V', B')) (hT : T = [] ∨ K' ≠ []) :
    breakHead (K ++ T) (V ++ R) B = some (K' ++ T, V' ++ R, B') := by
  revert h
  fun_cases breakHead K V B <;> intro h
  case case1 hPD =>
    obtain ⟨bs, hb, ⟨⟩⟩ := Option.map_eq_some_iff.mp h
    simp only [List.cons_append, breakHead, hPD, hb, Option.map_some, if_true]
  case case2 hPD => cases h; simp only [List.cons_append, breakHead, hPD]; rfl
  case case3 hst => cases h; simp only [List.cons_append, breakHead, hst, if_true]
  case case4 hst _ _ _ => cases h; simp only [List.cons_append, breakHead, hst]; rfl
  case case5 => cases h
  case case6 hw hf =>
    -- no loop on top: only the empty result comes from `eval_continue`, and then nothing lies below
    cases h
    rcases K with _ | ⟨⟨st, e⟩, r⟩
    · rw [hT.resolve_right fun h => h rfl]; rfl
    · cases e <;> first | rfl | exact (hw _ _ _ _ _ _ rfl).elim | exact (hf _ _ _ _ _ _ _ rfl).elim

theorem breakLoop_fx (K : List (St × Expr)) (V : List Value) (B : List Block)
    (K' : List (St × Expr)) (V' : List Value) (B' : List Block)
    (h : evalBreakLoop K V B = some (K', V', B')) (hT : T = [] ∨ K' ≠ []) :
    evalBreakLoop (K ++ T) (V ++ R) B = some (K' ++ T, V' ++ R, B') := by
  rw [evalBreakLoop_eq] at h ⊢
  obtain ⟨⟨K1, V1, B1⟩, hc, hh⟩ := Option.bind_eq_some_iff.mp h
  -- `breakHead` keeps an empty result empty
  have hT1 : T = [] ∨ K1 ≠ [] := hT.imp_right fun hk h1 => hk (by subst h1; cases hh; rfl)
  rw [continueLoop_fx T R K V B K1 V1 B1 hc hT1]
  exact breakHead_fx T R hh hT


theorem afterBlock_fx (f : Frame) (k : Frame → Frame) (hk : ∀ g, k (fx T R g) = fx T R (k g)) :
    afterBlock (fx T R f) k = mapF (fx T R) (afterBlock f k) := by
  unfold afterBlock
  rw [fx_popBlock]
  cases popBlock f with
  | none => rfl
  | some g => exact congrArg Disp.ok (hk g)

/- Each of the following is built from the frame `g` by pushes, `evalBlock` and updates of the
bindings only, all of which commute with `fx T R`: split into the leaves, then rewrite. -/

theorem binopBody_fx (g : Frame) (u : Bool) (op : BinOp) (lv rv : Value) :
    binopBody (fx T R g) u op lv rv = mapF (fx T R) (binopBody g u op lv rv) := by
  unfold binopBody
  generalize hm : mapF (fx T R) = M
  repeat' split
  all_goals (subst hm; simp only [mapF, fx_pushVIf])

theorem letBody_fx (g : Frame) (u : Bool) (dest : Dest) (v : Value) :
    letBody (fx T R g) u dest v = mapF (fx T R) (letBody g u dest v) := by
  unfold letBody
  simp only [fx_blocks]
  generalize hm : mapF (fx T R) = M
  repeat' split
  all_goals (subst hm; simp only [mapF, fx_setBlocks, fx_pushVIf])

theorem updateBody_fx (g : Frame) (u isAdd : Bool) (name : String) (cur : Int64) (rv : Value) :
    updateBody (fx T R g) u isAdd name cur rv = mapF (fx T R) (updateBody g u isAdd name cur rv) := by
  unfold updateBody
  simp only [fx_blocks]
  generalize hm : mapF (fx T R) = M
  repeat' split
  all_goals (subst hm; simp only [mapF, fx_setBlocks, fx_pushVIf])

theorem ifBody_fx (g : Frame) (st : St) (e : Expr) (u : Bool) (thn : List Expr) (els : Option (List Expr))
    (cv : Value) : ifBody (fx T R g) st e u thn els cv = mapF (fx T R) (ifBody g st e u thn els cv) := by
  unfold ifBody
  generalize hm : mapF (fx T R) = M
  repeat' split
  all_goals (subst hm; simp only [mapF, fx_pushE, fx_evalBlock, fx_blocks, fx_setBlocks])

theorem whileBody_fx (g : Frame) (e : Expr) (u : Bool) (body : List Expr) (cv : Value) :
    whileBody (fx T R g) e u body cv = mapF (fx T R) (whileBody g e u body cv) := by
  unfold whileBody
  generalize hm : mapF (fx T R) = M
  repeat' split
  all_goals (subst hm; simp only [mapF, fx_pushE, fx_evalBlock, fx_pushVIf])

theorem forBody_fx (g : Frame) (e : Expr) (u : Bool) (dest : Dest) (body : List Expr) (iv idxv : Value) :
    forBody (fx T R g) e u dest body iv idxv = mapF (fx T R) (forBody g e u dest body iv idxv) := by
  unfold forBody
  simp only [fx_blocks]
  generalize hm : mapF (fx T R) = M
  repeat' split
  all_goals (subst hm; simp only [mapF, fx_pushE, fx_pushV, fx_evalBlock, fx_pushVIf, fx_setBlocks, fx_setNext])

theorem matchBody_fx (p : Program) (g : Frame) (st : St) (e : Expr) (u : Bool) (cs : List Case) (sv : Value) :
    matchBody p (fx T R g) st e u cs sv = mapF (fx T R) (matchBody p g st e u cs sv) := by
  cases sv <;> try rfl
  simp only [matchBody, fx_pushE, matchCases_fx]
  cases matchCases p (g.pushE St.E e) u _ _ _ cs <;> rfl

theorem callBody_fx (p : Program) (g : Frame) (cid : Nat) (u : Bool) (recv : Value) (args : List Value) :
    callBody p (fx T R g) cid u recv args = mapF (fx T R) (callBody p g cid u recv args) := by
  unfold callBody
  generalize hm : mapF (fx T R) = M
  repeat' split
  all_goals (subst hm; simp only [mapF, fx_pushVIf])


theorem evalCall_fx (p : Program) (f : Frame) (cid : Nat) (u : Bool) (n : Nat)
    (h : isPanic (evalCall p f cid u n) = false) :
    evalCall p (fx T R f) cid u n = mapF (fx T R) (evalCall p f cid u n) := by
  rw [evalCall_eq] at h ⊢
  rw [evalCall_eq]
  cases hp : popN n f.values with
  | none => rw [hp] at h; cases h
  | some pr =>
    obtain ⟨args, vals⟩ := pr
    rw [fx_values, popN_app R n _ _ _ hp]
    cases vals with
    | nil => rw [hp] at h; cases h
    | cons recv vals => exact callBody_fx T R p { f with values := vals } cid u recv args


theorem fx_setValues' (f : Frame) (vals : List Value) :
    ({ exprs := f.exprs ++ T, values := vals ++ R, blocks := f.blocks, nextBlock := f.nextBlock,
       callerUses := f.callerUses, kind := f.kind, callerId := f.callerId } : Frame) =
    fx T R { f with values := vals } := rfl

macro "fx_fin'" h:ident : tactic => `(tactic| (
  revert $h:ident
  generalize hm : mapF (fx T R) = M
  repeat' split
  all_goals (intro $h:ident; subst hm)
  all_goals (first
    | (simp [isPanic] at $h:ident; done)
    | ((try simp only [mapF, fx_pushVIf, fx_pushE, fx_pushV, fx_evalBlock]); (try rfl);
       (try (simp [fx, Frame.pushVIf, Frame.pushV, Frame.pushE, evalBlock])); (try (split <;> simp))))))

/-- **Frame parametricity of `eval_expr`.** `hp`: a crash for want of operands on `f` would find the
values `R` on `fx T R f` and go on. -/
theorem dispatch_fx (p : Program) (f : Frame) (st : St) (e : Expr)
    (hp : isPanic (dispatch p f st e) = false) (hesc : T = [] ∨ escapes f st e = false) :
    dispatch p (fx T R f) st e = mapF (fx T R) (dispatch p f st e) := by
  have push1 : ∀ (st' : St) (x : Expr), Disp.ok (((fx T R f).pushE st' e).pushE .N x) =
      mapF (fx T R) (.ok ((f.pushE st' e).pushE .N x)) := by
    intro st' x; simp only [mapF, fx_pushE]
  have pushN : ∀ items : List Expr, Disp.ok (items.foldl (fun f x => f.pushE .N x) ((fx T R f).pushE .E e)) =
      mapF (fx T R) (.ok (items.foldl (fun f x => f.pushE .N x) (f.pushE .E e))) := by
    intro items; simp only [mapF, fx_pushE, fx_foldl_pushN]
  cases e with
  | int i u v => exact congrArg Disp.ok (fx_pushVIf T R f u _)
  | str i u t => exact congrArg Disp.ok (fx_pushVIf T R f u _)
  | lambda i u ps body => exact congrArg Disp.ok (fx_pushVIf T R f u _)
  | paren i u inner => exact congrArg Disp.ok (fx_pushE T R f .N inner)
  | invalid i u => rfl
  | unsup i u w => rfl
  | var i u n =>
    rw [dispatch_var, dispatch_var, getVar_fx]
    cases getVar p f n with
    | none => rfl
    | some v => exact congrArg Disp.ok (fx_pushVIf T R f u v)
  | binop i u op l r =>
    by_cases hs : st = .E
    · subst hs
      rw [dispatch_binop_E] at hp ⊢
      rw [dispatch_binop_E]
      match hv : f.values, hp with
      | [], hp => cases hp
      | [_], hp => cases hp
      | rv :: lv :: vals, _ => rw [fx_values, hv]; exact binopBody_fx T R { f with values := vals } u op lv rv
    · rw [dispatch_binop_of_ne hs, dispatch_binop_of_ne hs]
      simp only [mapF, fx_pushE]
  | letE i u dest inner =>
    by_cases hs : st = .E
    · subst hs
      rw [dispatch_let_E] at hp ⊢
      rw [dispatch_let_E]
      match hv : f.values, hp with
      | [], hp => cases hp
      | v :: vals, _ => rw [fx_values, hv]; exact letBody_fx T R { f with values := vals } u dest v
    · rw [dispatch_let_of_ne hs, dispatch_let_of_ne hs]; exact push1 _ _
  | assign i u name inner =>
    by_cases hs : st = .E
    · subst hs
      rw [dispatch_assign_E] at hp ⊢
      rw [dispatch_assign_E]
      -- `assign` tests "not bound" BEFORE it pops: no body on the popped frame, the arm is closed leaf by leaf
      cases hv : f.values with
      | nil => simp only [fx_values, fx_blocks, hv, List.nil_append] at hp ⊢; fx_fin' hp
      | cons v vals => simp only [fx_values, fx_blocks, hv, List.cons_append] at hp ⊢; fx_fin' hp
    · rw [dispatch_assign_of_ne hs, dispatch_assign_of_ne hs]; exact push1 _ _
  | update i u isAdd name inner =>
    by_cases hs : st = .E
    · subst hs
      rw [dispatch_update_E] at hp ⊢
      rw [dispatch_update_E, getVar_fx]
      cases hg : getVar p f name with
      | none => rfl
      | some cur =>
        rw [hg] at hp
        cases cur <;> try rfl
        match hv : f.values, hp with
        | [], hp => cases hp
        | rv :: vals, _ => rw [fx_values, hv]; exact updateBody_fx T R { f with values := vals } u isAdd name _ rv
    · rw [dispatch_update_of_ne hs, dispatch_update_of_ne hs]; exact push1 _ _
  | ret i u inner =>
    by_cases hs : st = .E
    · -- the one node that drops the rest of the frame's entries: nothing may be below them
      subst hs
      have hT : T = [] := by
        rcases hesc with h | h
        · exact h
        · cases h
      subst hT
      simp [dispatch_ret_E, mapF, fx]
    · rw [dispatch_ret_of_ne hs, dispatch_ret_of_ne hs]
      cases inner with
      | none => simp only [mapF, fx_pushE, fx_pushV]
      | some x => exact push1 _ _
  | list i u items =>
    by_cases hs : st = .E
    · subst hs
      rw [dispatch_list_E] at hp ⊢
      rw [dispatch_list_E]
      cases hpn : popN items.length f.values with
      | none => rw [hpn] at hp; cases hp
      | some pr =>
        obtain ⟨got, vals⟩ := pr
        rw [fx_values, popN_app R _ _ _ _ hpn]
        exact congrArg Disp.ok (fx_pushVIf T R { f with values := vals } u _)
    · rw [dispatch_list_of_ne hs, dispatch_list_of_ne hs]; exact pushN items
  | tuple i u items =>
    by_cases hs : st = .E
    · subst hs
      rw [dispatch_tuple_E] at hp ⊢
      rw [dispatch_tuple_E]
      cases hpn : popN items.length f.values with
      | none => rw [hpn] at hp; cases hp
      | some pr =>
        obtain ⟨got, vals⟩ := pr
        rw [fx_values, popN_app R _ _ _ _ hpn]
        exact congrArg Disp.ok (fx_pushVIf T R { f with values := vals } u _)
    · rw [dispatch_tuple_of_ne hs, dispatch_tuple_of_ne hs]; exact pushN items
  | call i u recv args =>
    by_cases hN : st = .N
    · subst hN; exact push1 _ _
    · by_cases hE : st = .E
      · subst hE; exact evalCall_fx T R p f _ _ _ hp
      · rw [dispatch_call_args hN hE, dispatch_call_args hN hE]; exact pushN args
  | ifE i u c thn els =>
    by_cases hN : st = .N
    · subst hN; exact push1 _ _
    · by_cases hE : st = .E
      · subst hE
        exact afterBlock_fx T R f _ fun g => fx_pushVIf T R g _ _
      · rw [dispatch_if_run hN hE] at hp ⊢
        rw [dispatch_if_run hN hE]
        match hv : f.values, hp with
        | [], hp => cases hp
        | cv :: vals, _ => rw [fx_values, hv]; exact ifBody_fx T R { f with values := vals } st _ u thn els cv
  | matchE i u scrut cs =>
    by_cases hN : st = .N
    · subst hN; exact push1 _ _
    · by_cases hE : st = .E
      · subst hE
        exact afterBlock_fx T R f _ fun g => rfl
      · rw [dispatch_match_run hN hE] at hp ⊢
        rw [dispatch_match_run hN hE]
        match hv : f.values, hp with
        | [], hp => cases hp
        | sv :: vals, _ => rw [fx_values, hv]; exact matchBody_fx T R p { f with values := vals } st _ u cs sv
  | whileE i u c body =>
    cases st with
    | N => exact push1 _ _
    | PN => rfl
    | E => rfl
    | PD => exact afterBlock_fx T R f _ fun g => by simp only [fx_pushE]
    | PW =>
      rw [dispatch_while_PW] at hp ⊢
      rw [dispatch_while_PW]
      match hv : f.values, hp with
      | [], hp => cases hp
      | cv :: vals, _ => rw [fx_values, hv]; exact whileBody_fx T R { f with values := vals } _ u body cv
  | forE i u dest iter body =>
    cases st with
    | N => simp only [dispatch_for_N, mapF, fx_pushE, fx_pushV]
    | PN => rfl
    | E => exact afterBlock_fx T R f _ fun g => rfl
    | PD => exact afterBlock_fx T R f _ fun g => fx_pushE T R g _ _
    | PW =>
      rw [dispatch_for_PW] at hp ⊢
      rw [dispatch_for_PW]
      match hv : f.values, hp with
      | [], hp => cases hp
      | [_], hp => cases hp
      | iv :: idxv :: vals, _ => rw [fx_values, hv]; exact forBody_fx T R { f with values := vals } _ u dest body iv idxv
  | brk i u =>
    rw [dispatch_brk] at hp ⊢
    rw [dispatch_brk]
    cases hb : evalBreakLoop f.exprs f.values f.blocks with
    | none => rw [hb] at hp; cases hp
    | some r =>
      obtain ⟨K', V', B'⟩ := r
      have hT : T = [] ∨ K' ≠ [] := by
        rcases hesc with h | h
        · exact Or.inl h
        · right; intro hk; subst hk; simp [escapes, hb] at h
      rw [fx_exprs, fx_values, fx_blocks, breakLoop_fx T R _ _ _ _ _ _ hb hT]
      cases K' with
      | nil =>
        rcases hT with h | h
        · subst h; simp [mapF, fx, Frame.pushVIf]
        · exact absurd rfl h
      | cons x xs => exact congrArg Disp.ok (fx_pushVIf T R { f with exprs := x :: xs, values := V', blocks := B' } _ _)
  | cont i u =>
    rw [dispatch_cont] at hp ⊢
    rw [dispatch_cont]
    cases hb : evalContinueLoop f.exprs f.values f.blocks with
    | none => rw [hb] at hp; cases hp
    | some r =>
      obtain ⟨K', V', B'⟩ := r
      have hT : T = [] ∨ K' ≠ [] := by
        rcases hesc with h | h
        · exact Or.inl h
        · right; intro hk; subst hk; simp [escapes, hb] at h
      rw [fx_exprs, fx_values, fx_blocks, continueLoop_fx T R _ _ _ _ _ _ hb hT]
      rfl

end Incr
