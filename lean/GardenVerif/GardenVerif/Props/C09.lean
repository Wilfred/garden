import GardenVerif.Lemmas.Session
/-!
# C09 — The JSON session answers every request and never dies

Proved of the session layer only (see below).

Statements over the session model M6 (`Session.handle`, Model/Session.lean: `handle_request` +
`handle_request_in_worker` + `handle_run_request` + `run_command` + `eval`, on top of the evaluator
model M4), for /repo HEAD (`Cfg.patched`: `:skip` and `:replace` with nothing pending answer a
message, /verif/patches/session-fix-skip-replace-idle.diff).

Outcomes of handling one request: `ok` (the session keeps serving), `sessionPanic` (a panic site of
json_session.rs / commands.rs / env.rs), `evalPanic` (a panic site inside `eval`, i.e. a
`Machine.step` panic), `outOfFuel`, `exit` (`:quit`), `unsupported` (outside the model).

The full statement is not proved:
  `SessionInv st → (handle fuel st req).responses.length = 1 ∧ ¬ isPanic (handle fuel st req)`
  with `SessionInv` preserved.
What is proved (`one_response_per_request_partial`, `session_run_partial`) is the same with `isPanic`
replaced by `isSessionPanic`, and the response count and the preservation of `SessionInv` under the
decidable hypothesis that the request ended `ok` — i.e. every request that does not make the evaluator
itself panic (and whose user code terminates within the fuel) gets exactly one response, no `expect` / `unwrap` / index of the
session layer can fail in any state, the invariant is preserved, by induction over histories of any
length. What is missing for the full statement is evaluator safety for M4 (property C02: a
value-stack / binding-block discipline invariant of `Machine.step`) for session requests, which also
fails for a `break` / `continue` outside any loop (from `Session.fresh` the history `:type break`,
`:type break` ends in `evalPanic`, in the model as in the code), and its preservation by `:skip`
and `:replace`, which is false on the code as it is: see the witnesses
`skip_breaks_value_discipline` and `replace_breaks_value_discipline` (known findings
C09/skip-value-discipline, C09/replace-value-discipline). `Cfg.pinned` switches the `:skip` and
`:replace` guards off; the `pinned_*` witnesses show the session-layer panics that follow.
-/
namespace C09
open Machine Session

def SessionInv (st : Session.State) : Prop := NE st.m

/-- Every command of the regenerated table `Tables.replCommands` (src/commands.rs
`Command::from_string`) has a constructor in the model: a command added to the Rust makes this fail
until it is modelled. -/
theorem commands_covered :
    Tables.replCommands.all (fun r => (Cmd.ofVariant r.variant none none).isSome) = true := by
  decide +kernel

/-- `ofVariant` is defined on every constructor's variant name. The table is not mentioned: the
converse of `commands_covered` (every constructor's variant is a row of it) is not stated. -/
theorem command_variants_roundtrip (c : Cmd) :
    ∃ a i, (Cmd.ofVariant c.variant a i).map Cmd.variant = some c.variant := by
  cases c <;> exact ⟨none, none, rfl⟩

theorem handleCommand_good (fuel : Nat) (st : Session.State) (id : Option Nat) (c : Cmd)
    (h : NE st.m) : Good (handleCommand Cfg.patched fuel st id c) := by
  have hne := h
  unfold NE at hne
  cases c
  case abort => exact good_cmdResp _ _ _ (popToToplevel_ne _ _ h)
  case resume => exact good_evalToResponse _ _ _
  case skip =>
    simp only [handleCommand]
    split
    · rename_i hf; exact absurd hf hne
    · split
      · simpa [Cfg.patched] using good_cmdResp st id "nothing-to-skip" h
      · exact good_evalToResponse _ _ _
  case replace e =>
    cases e with
    | none => exact good_cmdResp _ _ _ h
    | some e =>
      simp only [handleCommand]
      split
      · rename_i hf; exact absurd hf hne
      · simp only [Cfg.patched, Bool.true_and]
        split
        · exact good_cmdResp _ _ _ h
        · exact good_evalToResponse _ _ _
  case test name =>
    cases name with
    | none => exact good_cmdResp _ _ _ h
    | some name =>
      simp only [handleCommand]
      split
      · exact good_respond _ _ h
      · exact good_evalToResponse _ _ _
  case type_ e =>
    cases e with
    | none => exact good_cmdResp _ _ _ h
    | some e =>
      simp only [handleCommand]
      obtain ⟨m, hm⟩ := setTopExprs_some st.m [e] hne
      simp only [hm]
      have he := eval_ne Cfg.patched fuel m
      split
      · rename_i m' v hr; exact good_cmdResp _ _ _ (he m' (by rw [hr]; rfl))
      · rename_i m' e' hr; exact good_cmdResp _ _ _ (he m' (by rw [hr]; rfl))
      all_goals exact good_die _ _
  case forget name =>
    cases name with
    | none => exact good_cmdResp _ _ _ h
    | some name =>
      simp only [handleCommand]
      split
      · exact good_cmdResp _ _ _ h
      · split
        · exact good_die _ _
        · exact good_cmdResp _ _ _ h
  case forgetLocal name =>
    cases name with
    | none => exact good_cmdResp _ _ _ h
    | some name =>
      simp only [handleCommand]
      split
      · rename_i hf; exact absurd hf hne
      · split
        · exact good_cmdResp _ _ _ (by simp [NE])
        · exact good_cmdResp _ _ _ h
  case locals =>
    simp only [handleCommand]
    split <;> exact good_cmdResp _ _ _ h
  case stack => exact good_cmdResp _ _ _ h
  case namespace_ arg =>
    cases arg <;> simp only [handleCommand] <;> (try split) <;>
      first
      | exact good_cmdResp _ _ _ h
      | exact good_die _ _
      | (rename_i hf; exact absurd hf hne)
  case load arg =>
    cases arg
    · exact good_cmdResp _ _ _ h
    · exact good_die _ _
  case trace => exact good_die _ _
  case quit => exact good_die _ _
  all_goals exact good_cmdResp _ _ _ h

theorem handleSource_good (fuel : Nat) (st : Session.State) (id : Option Nat) (items : List Item)
    (h : NE st.m) : Good (handleSource Cfg.patched fuel st id items) := by
  have hne := h
  unfold NE at hne
  unfold handleSource
  split
  · exact good_die _ _
  · split
    · rename_i hf; exact absurd hf hne
    · simp only
      have hst : NE ({ st with m := { st.m with prog := loadDefs st.m.prog items },
                               tests := (itemTests items).foldl addTest st.tests } : Session.State).m := h
      have ht := runTests_good Cfg.patched fuel id (itemTests items) _ hst
      split
      · rename_i r hr; exact ht.2 r hr
      · rename_i st' hr
        have hst' : NE st'.m := ht.1 st' hr
        split
        · obtain ⟨n, hn⟩ := topName_some st'.m hst'
          simp only [hn]; exact good_respond _ _ hst'
        · rename_i last hl
          have hne' : ({ st'.m with stopAt := some last.id } : Machine.State).frames ≠ [] := hst'
          obtain ⟨m, hm⟩ := setTopExprs_some _ (itemExprs items) hne'
          simp only [hm]
          have he := eval_ne Cfg.patched fuel m
          split
          · rename_i m' v hr
            have hx : NE ({ m' with stopAt := st'.m.stopAt } : Machine.State) := he m' (by rw [hr]; rfl)
            obtain ⟨n, hn⟩ := topName_some _ hx
            simp only [hn]; exact good_respond _ _ hx
          · rename_i m' e' hr
            exact good_errToResponse _ _ _ _ (he m' (by rw [hr]; rfl))
          all_goals exact good_die _ _

theorem handle_good (fuel : Nat) (st : Session.State) (req : Req) (h : SessionInv st) :
    Good (handle Cfg.patched fuel st req) := by
  have h0 : NE ({ st with m := { st.m with out := "" } } : Session.State).m := h
  unfold handle
  cases req with
  | interrupt => exact good_respond _ _ h0
  | malformed => exact good_respond _ _ h0
  | other w => exact good_die _ _
  | run id input items inline =>
    simp only [handleRun]
    split
    · split
      · exact handleCommand_good _ _ _ _ h0
      · exact good_die _ _
    · exact good_cmdResp _ _ _ h0
    · split
      · rename_i hf; exact absurd hf h0
      · split
        · exact good_respond _ _ h0
        · exact handleSource_good _ _ _ _ h0

/-- For every request (any command, with or without argument, any source, malformed input, interrupt)
in every session state, reachable or not, whose call stack is non-empty.
(`_partial`: a panic inside `eval` is a separate outcome, see the head.) -/
theorem one_response_per_request_partial (fuel : Nat) (st : Session.State) (req : Req)
    (h : SessionInv st) :
    (handle Cfg.patched fuel st req).isSessionPanic = false ∧
    ((handle Cfg.patched fuel st req).outcome = .ok →
      (handle Cfg.patched fuel st req).responses.length = 1 ∧
      SessionInv (handle Cfg.patched fuel st req).state) := by
  have := handle_good fuel st req h
  exact ⟨this.2, this.1⟩

/-- The first conjunct of `one_response_per_request_partial` with `isSessionPanic` unfolded; the
outcomes that remain (`evalPanic`, `outOfFuel`, `exit`, `unsupported`) are not mentioned. -/
theorem stops_only_through_evaluator (fuel : Nat) (st : Session.State) (req : Req)
    (h : SessionInv st) (s : String) :
    (handle Cfg.patched fuel st req).outcome ≠ .sessionPanic s := by
  have := (handle_good fuel st req h).2
  intro hc
  simp [Result.isSessionPanic, hc] at this

/-- **Histories of any length**: as many responses as requests, and never a session-layer panic. -/
theorem session_run_partial (fuel : Nat) : ∀ (reqs : List Req) (st : Session.State), SessionInv st →
    (∀ s, (run Cfg.patched fuel st reqs).outcome ≠ .sessionPanic s) ∧
    ((run Cfg.patched fuel st reqs).outcome = .ok →
      (run Cfg.patched fuel st reqs).responses.length = reqs.length ∧
      SessionInv (run Cfg.patched fuel st reqs).state)
  | [], st, h => by simp [run, h]
  | r :: rest, st, h => by
    have hg := handle_good fuel st r h
    unfold run
    simp only
    cases ho : (handle Cfg.patched fuel st r).outcome with
    | ok =>
      simp only
      have h1 := hg.1 ho
      have ih := session_run_partial fuel rest _ h1.2
      refine ⟨ih.1, fun hok => ?_⟩
      have := ih.2 hok
      simp [h1.1, this.1, this.2]; omega
    | sessionPanic s =>
      have := hg.2; simp [Result.isSessionPanic, ho] at this
    | evalPanic s => simp
    | outOfFuel => simp
    | exit => simp
    | unsupported w => simp

/-- Non-vacuity of the hypothesis `SessionInv`. -/
theorem fresh_inv : SessionInv Session.fresh := by
  simp [SessionInv, NE, Session.fresh, Session.freshWith]

def rq (input : String) (items : Option (List Item)) (inline : Option Expr := none) : Req :=
  .run none input items inline

def nosuch1 : Expr := .var 0 true "nosuch1"
def nosuch2 : Expr := .var 1 true "nosuch2"
def sumE : Expr := .binop 2 true .add nosuch1 nosuch2

/-- Without the guard, `:skip` with nothing pending hits an `expect` in json_session.rs — a
session-layer panic. The patched session answers it. -/
theorem pinned_skip_idle_panics :
    (handle Cfg.pinned 100 Session.fresh (rq ":skip" none)).isSessionPanic = true ∧
    (handle Cfg.patched 100 Session.fresh (rq ":skip" none)).responses.length = 1 := by
  decide +kernel

/-- Known finding C09/skip-value-discipline (also on the patched code): `nosuch1 + nosuch2`,
`:skip`, `:skip` — the second skip drops a value producer and the `+` underflows the value
stack: the evaluator panics, the session dies. -/
theorem skip_breaks_value_discipline :
    (run Cfg.patched 100 Session.fresh
      [rq "nosuch1 + nosuch2" (some [.expr sumE]), rq ":skip" none, rq ":skip" none]).outcome
      = .evalPanic "Popped an empty value stack for binary operator" := by
  decide +kernel

def forE1 : Expr :=
  .forE 10 true (.sym "x") (.list 11 true [.int 12 true 1, .int 13 true 2]) [.var 14 false "nosuchf"]

/-- Known finding C09/replace-value-discipline (patched code, no `:skip` involved):
`for x in [1, 2] { nosuchf }` stops in the loop body with the loop's index and list on the value
stack; two `:replace` with failing expressions pop both; after defining the missing names,
`:resume` lets the `for` continuation pop two unrelated values: the evaluator panics
(eval.rs "`for` loop index should always be an `Int`"), the session dies. -/
theorem replace_breaks_value_discipline :
    (run Cfg.patched 100 Session.fresh
      [rq "for x in [1, 2] { nosuchf }" (some [.expr forE1]),
       rq ":replace nosuch3" none (some (.var 20 true "nosuch3")),
       rq ":replace nosuch4" none (some (.var 21 true "nosuch4")),
       rq "fun nosuchf() {} fun nosuch3() {} fun nosuch4() {}"
         (some [.funD ⟨"nosuchf", [], []⟩, .funD ⟨"nosuch3", [], []⟩, .funD ⟨"nosuch4", [], []⟩]),
       rq ":resume" none]).outcome
      = .evalPanic "`for` loop index should always be an `Int`" := by
  decide +kernel

/-- Without the guard, `:replace 5` with nothing pending pops the toplevel frame's placeholder value; a later
`:type continue` finds the value stack empty (eval.rs "Should have a value from the last
expression"). The patched `:replace` refuses and keeps the placeholder. -/
theorem pinned_replace_pops_base :
    (run Cfg.pinned 100 Session.fresh
      [rq ":replace 5" none (some (.int 1 true 5)), rq ":type continue" none (some (.cont 2 true))]).outcome
      = .evalPanic "Should have a value from the last expression" ∧
    (run Cfg.patched 100 Session.fresh
      [rq ":replace 5" none (some (.int 1 true 5)), rq ":type continue" none (some (.cont 2 true))]).outcome
      = .ok := by
  decide +kernel

end C09
