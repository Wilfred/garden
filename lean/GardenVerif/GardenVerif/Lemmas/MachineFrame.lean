import GardenVerif.Lemmas.MachineStep
import GardenVerif.Lemmas.MachineDispatch
/-!
What the helpers of `Machine.dispatch` do to a frame, each as one equation or characterisation from
which every projection follows. `dispatch` writes the three stacks and `nextBlock` of the current frame,
never its header (`dispatch_header`). `break` is `continue` followed by `breakHead` on the loop found
(`evalBreakLoop_eq`), so a fact about `evalBreakLoop` is the fact about `evalContinueLoop` and a look at
`breakHead`.
-/

namespace Machine

theorem pushE_exprs (f : Frame) (st : St) (e : Expr) : (f.pushE st e).exprs = (st, e) :: f.exprs := rfl
theorem pushE_blocks (f : Frame) (st : St) (e : Expr) : (f.pushE st e).blocks = f.blocks := rfl

theorem pushVIf_eq (f : Frame) (c : Bool) (v : Value) :
    f.pushVIf c v = { f with values := if c then v :: f.values else f.values } := by
  cases c <;> rfl

theorem foldl_addNew_length (kvs : List (String × Value)) (bs : List Block) :
    (kvs.foldl (fun bs kv => addNew bs kv.1 kv.2) bs).length = bs.length := by
  induction kvs generalizing bs with
  | nil => rfl
  | cons kv kvs ih => rw [List.foldl, ih, addNew_length]

theorem evalBlock_eq (f : Frame) (u : Bool) (body : List Expr) :
    evalBlock f u body =
      { f with blocks := f.nextBlock.foldl (fun bs kv => addNew bs kv.1 kv.2) ([] :: f.blocks),
               nextBlock := [],
               exprs := body.map (fun e => (St.N, e)) ++ f.exprs,
               values := if u && body.isEmpty then vUnit :: f.values else f.values } := by
  unfold evalBlock
  split <;> simp_all [Frame.pushV]

theorem evalBlock_blocks_length (f : Frame) (u : Bool) (body : List Expr) :
    (evalBlock f u body).blocks.length = f.blocks.length + 1 := by
  simp [evalBlock_eq, foldl_addNew_length]

theorem popBlocks1_eq_some {bs bs' : List Block} :
    popBlocks1 bs = some bs' ↔ ∃ a, bs = a :: bs' ∧ bs' ≠ [] := by
  rcases bs with _ | ⟨a, _ | ⟨b, r⟩⟩ <;> simp [popBlocks1]
  rintro rfl; simp

theorem popBlock_eq_some {f f' : Frame} :
    popBlock f = some f' ↔ ∃ a b r, f.blocks = a :: b :: r ∧ f' = { f with blocks := b :: r } := by
  unfold popBlock
  split
  · rename_i a b r hb
    constructor
    · intro h; cases h; exact ⟨a, b, r, hb, rfl⟩
    · rintro ⟨_, _, _, hb', rfl⟩; cases hb.symm.trans hb'; rfl
  · rename_i hne
    constructor
    · intro h; cases h
    · rintro ⟨a, b, r, hb, _⟩; exact (hne a b r hb).elim

theorem matchCases_ok {p : Program} {used : Bool} {ty : String} {idx : Nat} {payload : Option Value}
    {cases : List Case} {f f' : Frame} (h : matchCases p f used ty idx payload cases = .ok f') :
    ∃ variant dest body bs, Case.mk variant dest body ∈ cases ∧
      (bs = f.nextBlock ∨ bindPayload payload dest = some (.ok bs)) ∧
      f' = evalBlock { f with nextBlock := bs } used body := by
  induction cases with
  | nil => cases h
  | cons c rest ih =>
    obtain ⟨variant, dest, body⟩ := c
    have tail (h' : matchCases p f used ty idx payload rest = .ok f') :
        ∃ variant' dest' body' bs, Case.mk variant' dest' body' ∈ Case.mk variant dest body :: rest ∧
          (bs = f.nextBlock ∨ bindPayload payload dest' = some (.ok bs)) ∧
          f' = evalBlock { f with nextBlock := bs } used body' := by
      obtain ⟨v, d, b, bs, hm, hbs, hf⟩ := ih h'
      exact ⟨v, d, b, bs, List.mem_cons_of_mem _ hm, hbs, hf⟩
    unfold matchCases at h
    split at h
    · cases h; exact ⟨variant, dest, body, f.nextBlock, List.mem_cons_self, Or.inl rfl, rfl⟩
    · split at h
      · cases h
      · split at h
        · cases h
        · split at h
          · split at h
            · rename_i bs hbs
              cases h; exact ⟨variant, dest, body, bs, List.mem_cons_self, Or.inr hbs, rfl⟩
            · cases h
            · exact tail h
          · exact tail h

theorem findVariant_some {enums : List EnumDef} {n : String} {v : Value} (h : findVariant enums n = some v) :
    (∃ t i, v = .enumC t i) ∨ (∃ t i, v = .enumV t i none) := by
  obtain ⟨e, _, he⟩ := List.exists_of_findSome?_eq_some h
  split at he
  · cases he
  · split at he
    · cases he; exact Or.inl ⟨_, _, rfl⟩
    · cases he; exact Or.inr ⟨_, _, rfl⟩
    · cases he

theorem nsLookup_some {p : Program} {n : String} {v : Value} (h : nsLookup p n = some v) :
    (∃ d, p.funs.find? (fun f => f.name == n) = some d ∧ v = .fn d.name) ∨
      (∃ t i, v = .enumC t i) ∨ (∃ t i, v = .enumV t i none) ∨ v = .builtin n := by
  unfold nsLookup at h
  split at h
  · cases h; exact Or.inl ⟨_, ‹_›, rfl⟩
  · split at h
    · cases h
      rcases findVariant_some ‹_› with h | h
      · exact Or.inr (Or.inl h)
      · exact Or.inr (Or.inr (Or.inl h))
    · split at h
      · cases h; exact Or.inr (Or.inr (Or.inr rfl))
      · cases h

/-- only a binding block holds an `Int`: the namespace has functions, variants and built-ins -/
theorem lookupBlocks_of_getVar_int (p : Program) (f : Frame) (name : String) (c : Int64)
    (h : getVar p f name = some (.int c)) : lookupBlocks f.blocks name ≠ none := by
  unfold getVar at h
  split at h
  · rename_i hl; rw [hl]; nofun
  · rcases nsLookup_some h with ⟨_, _, hd⟩ | ⟨_, _, hd⟩ | ⟨_, _, hd⟩ | hd <;> cases hd

theorem setExisting_isSome : ∀ (bs : List Block) (n : String) (v : Value),
    (setExisting bs n v).isSome = (lookupBlocks bs n).isSome
  | [], n, v => rfl
  | b :: rest, n, v => by
      unfold setExisting lookupBlocks
      have hfa : (b.find? (fun kv => kv.1 == n)).isSome = b.any (fun kv => kv.1 == n) := by
        rw [Bool.eq_iff_iff]; simp
      cases ha : b.any (fun kv => kv.1 == n)
      · rw [ha] at hfa
        cases hf : b.find? (fun kv => kv.1 == n) with
        | some x => simp [hf] at hfa
        | none =>
          simp
          have := setExisting_isSome rest n v
          cases h1 : setExisting rest n v <;> cases h2 : lookupBlocks rest n <;> simp [h1, h2] at this ⊢
      · rw [ha] at hfa
        cases hf : b.find? (fun kv => kv.1 == n) with
        | none => simp [hf] at hfa
        | some x => simp

theorem setExisting_of_lookup (name : String) (v : Value) (blocks : List Block)
    (h : lookupBlocks blocks name ≠ none) : setExisting blocks name v ≠ none := by
  intro hs
  have e := setExisting_isSome blocks name v
  rw [hs] at e
  exact h (by simpa using e.symm)

theorem stopCheck_cont {a s' : State} {f : Frame} {st : St} {e : Expr}
    (h : stopCheck a f st e = .cont s') : s' = a := by
  have := stopCheck_state a f st e
  rw [h] at this
  exact Option.some.inj this

theorem evalContinueLoop_N (e : Expr) (rest : List (St × Expr)) (vals : List Value) (blocks : List Block) :
    evalContinueLoop ((.N, e) :: rest) vals blocks = evalContinueLoop rest vals blocks := by
  cases e <;> rfl

theorem ownsBlock_not_loop {st : St} {e : Expr} (ho : ownsBlock st e = true) : e.isLoop = false := by
  cases e <;> first | rfl | exact nomatch (Bool.and_false _).symm.trans (ho : (st == St.E && false) = true)

theorem evalContinueLoop_owner {st : St} {e : Expr} (ho : ownsBlock st e = true)
    (rest : List (St × Expr)) (vals : List Value) (x y : Block) (B : List Block) :
    evalContinueLoop ((st, e) :: rest) vals (x :: y :: B) = evalContinueLoop rest vals (y :: B) := by
  rw [evalContinueLoop_other (ownsBlock_not_loop ho), if_pos ho]; rfl

/-- What `eval_break` does with the running loop `eval_continue` stops at. (`eval_continue` does not stop
at a `for` in state N or PW.) -/
def breakHead : List (St × Expr) → List Value → List Block → Option (List (St × Expr) × List Value × List Block)
  | (st, .whileE i u c b) :: rest, vals, blocks =>
    if st == St.PD then (popBlocks1 blocks).map fun bs => ((St.E, .whileE i u c b) :: rest, vals, bs)
    else some ((St.E, .whileE i u c b) :: rest, vals, blocks)
  | (st, .forE i u d it b) :: rest, vals, blocks =>
    if st == St.N || st == St.PW then some ((st, .forE i u d it b) :: rest, vals, blocks)
    else match vals with
      | _ :: _ :: vals' => some ((St.E, .forE i u d it b) :: rest, vals', blocks)
      | _ => none
  | exprs, vals, blocks => some (exprs, vals, blocks)

theorem evalBreakLoop_eq : ∀ (K : List (St × Expr)) (V : List Value) (B : List Block),
    evalBreakLoop K V B = (evalContinueLoop K V B).bind fun r => breakHead r.1 r.2.1 r.2.2
  | [], V, B => rfl
  | (st, e) :: rest, V, B => by
    have ih := evalBreakLoop_eq rest
    cases hl : e.isLoop with
    | false =>
      rw [evalBreakLoop_other hl, evalContinueLoop_other hl]
      split
      · cases popBlocks1 B with
        | none => rfl
        | some bs => exact ih _ _
      · exact ih _ _
    | true =>
      cases e <;> first | cases hl | skip
      · cases st <;> first | exact ih _ _ | rfl
      · cases st
        case N => exact ih _ _
        case PW => rcases V with _ | ⟨v, V⟩ <;> first | rfl | exact ih _ _
        all_goals rcases V with _ | ⟨a, _ | ⟨b, r⟩⟩ <;> rfl

theorem evalBreakLoop_congr {K K' : List (St × Expr)} {V V' : List Value} {B B' : List Block}
    (h : evalContinueLoop K V B = evalContinueLoop K' V' B') : evalBreakLoop K V B = evalBreakLoop K' V' B' := by
  rw [evalBreakLoop_eq, evalBreakLoop_eq, h]

theorem evalContinueLoop_suffix {K K' : List (St × Expr)} {V V' : List Value} {B B' : List Block}
    (h : evalContinueLoop K V B = some (K', V', B')) : V' <:+ V ∧ B' <:+ B := by
  fun_induction evalContinueLoop K V B
  case case1 => cases h; exact ⟨List.suffix_refl _, List.suffix_refl _⟩
  case case2 ih => exact ih h
  case case3 ih => exact ⟨(ih h).1.trans (List.suffix_cons _ _), (ih h).2⟩
  case case4 => cases h
  case case5 => cases h; exact ⟨List.suffix_refl _, List.suffix_refl _⟩
  case case6 hb ih =>
    obtain ⟨a, rfl, _⟩ := popBlocks1_eq_some.mp hb
    exact ⟨(ih h).1, (ih h).2.trans (List.suffix_cons _ _)⟩
  case case7 => cases h
  case case8 ih => exact ih h

theorem breakHead_suffix {K K' : List (St × Expr)} {V V' : List Value} {B B' : List Block}
    (h : breakHead K V B = some (K', V', B')) : V' <:+ V ∧ B' <:+ B := by
  revert h
  fun_cases breakHead K V B <;> intro h
  · obtain ⟨bs, hb, ⟨⟩⟩ := Option.map_eq_some_iff.mp h
    obtain ⟨a, rfl, _⟩ := popBlocks1_eq_some.mp hb
    exact ⟨List.suffix_refl _, List.suffix_cons _ _⟩
  · cases h; exact ⟨List.suffix_refl _, List.suffix_refl _⟩
  · cases h; exact ⟨List.suffix_refl _, List.suffix_refl _⟩
  · cases h; exact ⟨(List.suffix_cons _ _).trans (List.suffix_cons _ _), List.suffix_refl _⟩
  · cases h
  · cases h; exact ⟨List.suffix_refl _, List.suffix_refl _⟩

theorem evalBreakLoop_suffix {K K' : List (St × Expr)} {V V' : List Value} {B B' : List Block}
    (h : evalBreakLoop K V B = some (K', V', B')) : V' <:+ V ∧ B' <:+ B := by
  rw [evalBreakLoop_eq] at h
  obtain ⟨⟨K1, V1, B1⟩, hc, hh⟩ := Option.bind_eq_some_iff.mp h
  exact ⟨(breakHead_suffix hh).1.trans (evalContinueLoop_suffix hc).1, (breakHead_suffix hh).2.trans (evalContinueLoop_suffix hc).2⟩

def Frame.header (f : Frame) : Bool × FrameKind × Option Nat := (f.callerUses, f.kind, f.callerId)

/-- `P` holds of the current frame as a `dispatch` leaves it (also on an error, before `restore`). -/
def Disp.All (P : Frame → Prop) : Disp → Prop
  | .ok f | .okOut f _ | .newFrame f _ | .err f _ _ _ => P f
  | .panic _ | .unsupported _ => True

theorem popBlock_header {f f' : Frame} (h : popBlock f = some f') : f'.header = f.header := by
  obtain ⟨_, _, _, _, rfl⟩ := popBlock_eq_some.mp h
  rfl

theorem matchCases_header {p : Program} {used : Bool} {ty : String} {idx : Nat} {payload : Option Value}
    {cases : List Case} {f f' : Frame} (h : matchCases p f used ty idx payload cases = .ok f') :
    f'.header = f.header := by
  obtain ⟨_, _, _, _, _, _, rfl⟩ := matchCases_ok h
  rw [evalBlock_eq]; rfl

theorem evalCall_header (p : Program) (f : Frame) (callId : Nat) (used : Bool) (nargs : Nat) :
    (evalCall p f callId used nargs).All fun f' => f'.header = f.header := by
  fun_cases evalCall p f callId used nargs
  all_goals simp only [Disp.All, pushVIf_eq]
  all_goals rfl

/-- Every leaf of `dispatch` is `f` with some of its stacks and `nextBlock` replaced, possibly after
`popBlock`, `evalBlock`, `matchCases` or `evalCall`, none of which writes the header. -/
theorem dispatch_header (p : Program) (f : Frame) (st : St) (e : Expr) :
    (dispatch p f st e).All fun f' => f'.header = f.header := by
  fun_cases dispatch p f st e
  all_goals try exact evalCall_header ..
  all_goals try simp only [*, Disp.All, pushVIf_eq, evalBlock_eq, foldl_pushN]
  all_goals first
    | rfl
    | (have h := popBlock_header ‹popBlock f = some _›; exact Eq.trans rfl h)
    | (have h := matchCases_header ‹matchCases _ _ _ _ _ _ _ = .ok _›; exact h.trans rfl)

end Machine
