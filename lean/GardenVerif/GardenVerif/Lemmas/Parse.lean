import GardenVerif.Model.Print
/-!
Lemmas about the parser model `Parse` (M2) for C03, C33 and C01 (parser part): the token classes (`intTok_of_i64`: every
i64 is read back from its decimal text), the dispatchers as equations once they have looked ahead — of the branches of
`parseSimple` only those for variables, integers and parentheses; the others stand beside the node they serve in
Lemmas/RoundTrip.lean and Props/C33.lean —, and what C03's theorems and `C33.parse_print_partial` are stated with: the
operator / call / parenthesis fragment `WF`, its tokens `T`, `Follow`, `ChainStop`. Nothing uses `Reach` / `ReachAll`,
`commaSep_more`, `commaSep_last`: the round trip of the fragment is proved in Lemmas/RoundTrip.lean by the lemmas that
serve every tree.
-/

namespace ParseLemmas
open Parse Print

theorem bind_apply {α β} (m : P α) (f : α → P β) (s : St) : (m >>= f) s = P.bind m f s := rfl
theorem pure_apply {α} (a : α) (s : St) : (pure a : P α) s = .ok a s := rfl

theorem bind_ok {α β} {m : P α} {f : α → P β} {s s' : St} {a : α} (h : m s = .ok a s') :
    (m >>= f) s = f a s' := by
  simp [bind_apply, P.bind, h]

theorem bind_peek {α} (toks : Toks) (f : Option TokI → P α) (s : St) :
    (peek toks >>= f) s = f ((toks[s.idx]?).map fun t => ⟨t, s.idx⟩) s := rfl
theorem bind_peekAt {α} (toks : Toks) (k : Nat) (f : Option TokI → P α) (s : St) :
    (peekAt toks k >>= f) s = f ((toks[s.idx + k]?).map fun t => ⟨t, s.idx + k⟩) s := rfl
theorem bind_getIdx {α} (f : Nat → P α) (s : St) : (getIdx >>= f) s = f s.idx s := rfl

def stmtKeywords : List String :=
  ["let", "return", "while", "for", "break", "continue", "if", "match", "try"]

/-- A name that the grammar can express as a variable / field / method name. -/
structure ValidName (x : String) : Prop where
  sym : isSymbolTok x = true
  notKw : keywords.contains x = false
  notDict : x ≠ "Dict"
  notPh : isPlaceholderName x = false

theorem ne_of_class {f : String → Bool} {x lit : String} (h : f x = true) (hl : f lit = false) : x ≠ lit := by
  intro e; subst e; simp [h] at hl

theorem ValidName.ne_kw {x k : String} (h : ValidName x) (hk : k ∈ keywords) : x ≠ k := by
  intro e; subst e
  have := h.notKw
  simp at this
  exact this hk

theorem ValidName.beq_kw {x k : String} (h : ValidName x) (hk : k ∈ keywords) : (x == k) = false := by
  simp [h.ne_kw hk]

theorem ValidName.beq_nonsym {x lit : String} (h : ValidName x) (hl : isSymbolTok lit = false) :
    (x == lit) = false := by
  simp [ne_of_class h.sym hl]

/-- What may follow an operand: not an assignment operator (`peek_two` would take the operand's
first token for an assignment target when the operand is a single token) and not a glued `{`
(`Name{` is a struct literal). -/
def Follow (rest : List Tok) : Prop :=
  ∀ t, rest.head? = some t →
    t.text ≠ "=" ∧ t.text ≠ "+=" ∧ t.text ≠ "-=" ∧ ¬ (t.text = "{" ∧ t.touchesPrev = true)

def PostfixStop (rest : List Tok) : Prop :=
  ∀ t, rest.head? = some t → t.text ≠ "(" ∧ t.text ≠ "." ∧ t.text ≠ "::"

def ChainStop (rest : List Tok) : Prop :=
  ∀ t, rest.head? = some t →
    t.text ≠ "(" ∧ t.text ≠ "." ∧ t.text ≠ "::" ∧ gardenBinaryOps.contains t.text = false

theorem binop_ne {op : String} (h : gardenBinaryOps.contains op = true) :
    op ≠ "(" ∧ op ≠ "." ∧ op ≠ "::" ∧ op ≠ "=" ∧ op ≠ "+=" ∧ op ≠ "-=" ∧ op ≠ "{" := by
  refine ⟨?_, ?_, ?_, ?_, ?_, ?_, ?_⟩ <;> (intro e; subst e; revert h; decide)

theorem requireToken_ok (toks : Toks) (x : String) (i : Nat) (d : List DiagKind) (t : Tok)
    (h : toks[i]? = some t) (hx : t.text = x) :
    requireToken toks x ⟨i, d⟩ = .ok ⟨t, i⟩ ⟨i + 1, d⟩ := by
  simp [requireToken, checkRequiredToken, bind_apply, P.bind, pure_apply, prev, pop, h, TokI.text, hx]

theorem peekIs_some (toks : Toks) (x : String) (i : Nat) (d : List DiagKind) (t : Tok)
    (h : toks[i]? = some t) : peekIs toks x ⟨i, d⟩ = .ok (t.text == x) ⟨i, d⟩ := by
  simp [peekIs, h]

/-! Each dispatcher equation is proved by unfolding the parser for one step and `rfl`: `simp` would rewrite inside every
branch before it knows which one is taken. -/

/-- First-token dispatch of `parse_expression_no_trailing`, after its two-token look-ahead has ruled
out an assignment. -/
def stmtDispatch (toks : Toks) (pn : Bool) (fuel : Nat) (first : String) : P PExpr :=
  if first == "let" then parseLet toks pn fuel
  else if first == "return" then parseReturn toks pn fuel
  else if first == "while" then parseWhile toks pn fuel
  else if first == "for" then parseForIn toks pn fuel
  else if first == "break" then do
    let t ← requireToken toks "break"; pure ⟨.brk, t.pos⟩
  else if first == "continue" then do
    let t ← requireToken toks "continue"; pure ⟨.cont, t.pos⟩
  else if first == "if" then parseIf toks pn fuel
  else if first == "match" then parseMatch toks pn fuel
  else if first == "try" then parseTry toks pn fuel
  else parseSimple toks pn fuel

theorem parseNoTrailing_peek (toks : Toks) (pn : Bool) (fuel i : Nat) (d : List DiagKind) (t : Tok)
    (h1 : toks[i]? = some t) (second : String)
    (h2 : second = match toks[i + 1]? with | some b => b.text | none => "") :
    parseNoTrailing toks pn (fuel + 1) ⟨i, d⟩ =
      (if second == "=" then parseAssign toks pn fuel
       else if second == "+=" || second == "-=" then parseAssignUpdate toks pn fuel
       else stmtDispatch toks pn fuel t.text) ⟨i, d⟩ := by
  subst h2
  rw [parseNoTrailing, bind_peek]
  simp only [h1, Option.map_some]
  rw [bind_peekAt]
  cases toks[i + 1]? <;> rfl

theorem parseNoTrailing_none (toks : Toks) (pn : Bool) (fuel i : Nat) (d : List DiagKind) (h1 : toks[i]? = none) :
    parseNoTrailing toks pn (fuel + 1) ⟨i, d⟩ = parseSimple toks pn fuel ⟨i, d⟩ := by
  rw [parseNoTrailing, bind_peek]
  simp only [h1, Option.map_none]
  rw [bind_peekAt]
  rfl

def NoAssign (o : Option Tok) : Prop :=
  ∀ t2, o = some t2 → t2.text ≠ "=" ∧ t2.text ≠ "+=" ∧ t2.text ≠ "-="

theorem noTrailing_kw {toks : Toks} {pn : Bool} {fuel i : Nat} {d : List DiagKind} {t : Tok}
    (h1 : toks[i]? = some t) (h2 : NoAssign toks[i + 1]?) :
    parseNoTrailing toks pn (fuel + 1) ⟨i, d⟩ = stmtDispatch toks pn fuel t.text ⟨i, d⟩ := by
  cases h3 : toks[i + 1]? with
  | none => rw [parseNoTrailing_peek toks pn fuel i d t h1 "" (by rw [h3])]; rfl
  | some t2 =>
    obtain ⟨e1, e2, e3⟩ := h2 t2 h3
    rw [parseNoTrailing_peek toks pn fuel i d t h1 t2.text (by rw [h3]),
      if_neg (by simpa using e1), if_neg (by simpa using ⟨e2, e3⟩)]

theorem noTrailing_assign {toks : Toks} {pn : Bool} {fuel i : Nat} {d : List DiagKind} {t t2 : Tok}
    (h1 : toks[i]? = some t) (h2 : toks[i + 1]? = some t2) (hx : t2.text = "=") :
    parseNoTrailing toks pn (fuel + 1) ⟨i, d⟩ = parseAssign toks pn fuel ⟨i, d⟩ := by
  rw [parseNoTrailing_peek toks pn fuel i d t h1 "=" (by rw [h2, ← hx])]; rfl

theorem noTrailing_update {toks : Toks} {pn : Bool} {fuel i : Nat} {d : List DiagKind} {t t2 : Tok}
    (h1 : toks[i]? = some t) (h2 : toks[i + 1]? = some t2) (hx : t2.text = "+=" ∨ t2.text = "-=") :
    parseNoTrailing toks pn (fuel + 1) ⟨i, d⟩ = parseAssignUpdate toks pn fuel ⟨i, d⟩ := by
  rcases hx with hx | hx
  · rw [parseNoTrailing_peek toks pn fuel i d t h1 "+=" (by rw [h2, ← hx])]; rfl
  · rw [parseNoTrailing_peek toks pn fuel i d t h1 "-=" (by rw [h2, ← hx])]; rfl

section
variable {toks : Toks} {pn : Bool} {fuel i : Nat} {d : List DiagKind} {t : Tok}
  (h1 : toks[i]? = some t) (h2 : NoAssign toks[i + 1]?)
include h1 h2

theorem noTrailing_simple (hkw : t.text ∉ stmtKeywords) :
    parseNoTrailing toks pn (fuel + 1) ⟨i, d⟩ = parseSimple toks pn fuel ⟨i, d⟩ := by
  rw [noTrailing_kw h1 h2]
  simp only [stmtKeywords, List.mem_cons, List.not_mem_nil, or_false, not_or] at hkw
  obtain ⟨k1, k2, k3, k4, k5, k6, k7, k8, k9⟩ := hkw
  simp only [stmtDispatch, beq_iff_eq, k1, k2, k3, k4, k5, k6, k7, k8, k9, ↓reduceIte]

end

theorem parseSimple_peek (toks : Toks) (pn : Bool) (fuel i : Nat) (d : List DiagKind) (t : Tok)
    (h1 : toks[i]? = some t) :
    parseSimple toks pn (fuel + 1) ⟨i, d⟩ =
      (if t.text == "(" then parseTupleOrParen toks pn fuel
       else if t.text == "[" then parseListLiteral toks pn fuel
       else if t.text == "Dict" then parseDictLiteral toks pn fuel
       else if t.text == "fun" && (match toks[i + 1]? with | some n => n.text == "(" | none => false) then
         parseLambda toks pn fuel
       else if t.text == "assert" then parseAssert toks pn fuel
       else if isSymbolTok t.text then
         if (match toks[i + 1]? with | some n => n.text == "{" && n.touchesPrev | none => false) then
           parseStructLiteral toks pn fuel
         else parseVariable toks pn
       else if isStringTok t.text then do
         let _ ← pop toks
         let (n, s) := unescapeTok t.text
         diagN n .invalid
         pure ⟨.strLit s, ⟨t.line, i + 1⟩⟩
       else if isFloatTok t.text then parseFloat toks
       else if isIntTok t.text then parseInteger toks
       else do
         diag .invalid
         pure ⟨.invalid, ⟨t.line, i + 1⟩⟩ : P PExpr) ⟨i, d⟩ := by
  rw [parseSimple, bind_peek]
  simp only [h1, Option.map_some]
  rw [bind_peekAt]
  cases toks[i + 1]? <;> rfl

theorem parseSimple_none (toks : Toks) (pn : Bool) (fuel i : Nat) (d : List DiagKind) (h1 : toks[i]? = none) :
    parseSimple toks pn (fuel + 1) ⟨i, d⟩ = (do diag .incomplete; pure ⟨.invalid, Pos.todo⟩ : P PExpr) ⟨i, d⟩ := by
  rw [parseSimple, bind_peek]
  simp only [h1, Option.map_none]

theorem trailing_peek (toks : Toks) (b : Bool) (fuel i : Nat) (d : List DiagKind) (expr : PExpr) (t : Tok)
    (h1 : toks[i]? = some t) :
    trailing toks false b (fuel + 1) expr ⟨i, d⟩ =
      (if t.text == "(" && expr.pos.endPos == i && t.touchesPrev then do
        let (args, close) ← parseCallArguments toks false fuel
        let expr' : PExpr := ⟨.call expr.e args, expr.pos.merge close⟩
        if (← getIdx) > i then trailing toks false b fuel expr' else Parse.panic "parser.rs:1361"
      else if t.text == "." then do
        let _ ← pop toks
        let next ← peek toks
        let touching := match next with | some n => n.tok.touchesPrev | none => false
        if touching then do
          let v ← parseSymbol toks false
          if ← peekIs toks "(" then do
            let (args, close) ← parseCallArguments toks false fuel
            let expr' : PExpr := ⟨.mcall expr.e v.name args, expr.pos.merge close⟩
            if (← getIdx) > i then trailing toks false b fuel expr' else Parse.panic "parser.rs:1361"
          else do
            let expr' : PExpr := ⟨.dot expr.e v.name, expr.pos.merge v.pos⟩
            if (← getIdx) > i then trailing toks false b fuel expr' else Parse.panic "parser.rs:1361"
        else do
          diag .invalid
          let expr' : PExpr := ⟨.dot expr.e "__placeholder", expr.pos.merge ⟨t.line, i + 1⟩⟩
          if (← getIdx) > i then trailing toks false b fuel expr' else Parse.panic "parser.rs:1361"
      else if t.text == "::" then do
        let _ ← pop toks
        let next ← peek toks
        let touching := match next with | some n => n.tok.touchesPrev | none => false
        if touching then do
          let v ← parseSymbol toks false
          let expr' : PExpr := ⟨.ns expr.e v.name, expr.pos.merge v.pos⟩
          if (← getIdx) > i then trailing toks false b fuel expr' else Parse.panic "parser.rs:1361"
        else do
          diag .invalid
          let expr' : PExpr := ⟨.ns expr.e "__placeholder", expr.pos.merge ⟨t.line, i + 1⟩⟩
          if (← getIdx) > i then trailing toks false b fuel expr' else Parse.panic "parser.rs:1361"
      else if b && gardenBinaryOps.contains t.text then do
        let _ ← pop toks
        let rhs ← parseExpressionT toks false false fuel
        let expr' : PExpr := ⟨.binop expr.e t.text rhs.e, expr.pos.merge rhs.pos⟩
        if (← getIdx) > i then trailing toks false b fuel expr' else Parse.panic "parser.rs:1361"
      else pure expr : P PExpr) ⟨i, d⟩ := by
  rw [trailing, bind_getIdx, bind_peek]
  simp only [h1, Option.map_some]
  cases b <;> rfl

theorem trailing_none (toks : Toks) (b : Bool) (fuel i : Nat) (d : List DiagKind) (expr : PExpr)
    (h1 : toks[i]? = none) : trailing toks false b (fuel + 1) expr ⟨i, d⟩ = .ok expr ⟨i, d⟩ := by
  rw [trailing, bind_getIdx, bind_peek]
  simp only [h1, Option.map_none]
  rfl

/-- `parse_toplevel_item_from_tokens` and `parse_definition` on a definition keyword followed by a second token. -/
theorem toplevel_def (toks : Toks) (pn : Bool) (fuel i : Nat) (d : List DiagKind) (ta tb : Tok)
    (h1 : toks[i]? = some ta) (h2 : toks[i + 1]? = some tb)
    (hk : ["fun", "method", "test", "enum", "struct", "public", "import"].contains ta.text = true) :
    parseToplevelItem toks pn fuel ⟨i, d⟩ =
      (if ta.text == "fun" && tb.text != "(" then parseFunction toks pn fuel
       else if ta.text == "public" && tb.text == "fun" &&
          !(match toks[i + 2]? with | some c => c.text == "(" | none => false) then parseFunction toks pn fuel
       else if ta.text == "method" || (ta.text == "public" && tb.text == "method") then do
         let m ← parseMethod toks pn fuel; pure (some m)
       else if ta.text == "test" then do let m ← parseTest toks pn fuel; pure (some m)
       else if ta.text == "enum" || (ta.text == "public" && tb.text == "enum") then do
         let m ← parseEnum toks pn fuel; pure (some m)
       else if ta.text == "struct" || (ta.text == "public" && tb.text == "struct") then do
         let m ← parseStruct toks pn fuel; pure (some m)
       else if ta.text == "import" then parseImport toks pn
       else do diag .invalid; pure none : P (Option Item)) ⟨i, d⟩ := by
  rw [parseToplevelItem, bind_peek]
  simp only [h1, Option.map_some]
  rw [if_pos (show ["fun", "method", "test", "enum", "struct", "public", "import"].contains
    (TokI.text ⟨ta, i⟩) = true from hk), parseDefinition, bind_peek]
  simp only [h1, Option.map_some]
  rw [bind_peekAt, bind_peekAt]
  simp only [h2, Option.map_some]
  cases toks[i + 2]? <;> rfl

/-- The parser reads the token text `s` as the integer literal `i`. -/
structure IntTok (s : String) (i : Int) : Prop where
  int : isIntTok s = true
  notSym : isSymbolTok s = false
  notStr : isStringTok s = false
  notFloat : isFloatTok s = false
  val : parseI64 s = some i

theorem stmtKeywords_class : ∀ y ∈ stmtKeywords, isSymbolTok y = true ∧ keywords.contains y = true := by decide

theorem notStmt_of_notSym {s : String} (h : isSymbolTok s = false) : s ∉ stmtKeywords :=
  fun hm => by rw [(stmtKeywords_class s hm).1] at h; cases h

theorem IntTok.notStmt {s : String} {i : Int} (h : IntTok s i) : s ∉ stmtKeywords := notStmt_of_notSym h.notSym

theorem digit_not_symStart' {c : Char} (h : c.isDigit = true) : Parse.isSymStart c = false := by
  simp only [Char.isDigit, Bool.and_eq_true, decide_eq_true_eq, ge_iff_le, UInt32.le_iff_toNat_le] at h
  have h0 : ('0' : Char).val.toNat = 48 := by decide
  have h9 : ('9' : Char).val.toNat = 57 := by decide
  rw [h0, h9] at h
  cases hs : Parse.isSymStart c with
  | false => rfl
  | true =>
    simp only [Parse.isSymStart, Char.isAlpha, Char.isUpper, Char.isLower, Bool.or_eq_true, decide_eq_true_eq, ge_iff_le,
      UInt32.le_iff_toNat_le, beq_iff_eq] at hs
    have hA : ('A' : Char).val.toNat = 65 := by decide
    have hZ : ('Z' : Char).val.toNat = 90 := by decide
    have ha : ('a' : Char).val.toNat = 97 := by decide
    have hz : ('z' : Char).val.toNat = 122 := by decide
    rw [hA, hZ, ha, hz] at hs
    rcases hs with (hs | hs) | hs
    · exfalso; omega
    · simp only [Bool.and_eq_true, decide_eq_true_eq] at hs; exfalso; omega
    · subst hs; revert h; decide

theorem dropDU_all (r : List Char) (h : ∀ c ∈ r, (c.isDigit || c == '_') = true) : dropDigitsUnderscore r = [] := by
  induction r with
  | nil => rfl
  | cons c r ih =>
    rw [dropDigitsUnderscore, if_pos (h c (List.mem_cons_self ..))]
    exact ih fun x hx => h x (List.mem_cons_of_mem _ hx)

theorem dropDU_digits (r : List Char) (h : ∀ c ∈ r, c.isDigit = true) : dropDigitsUnderscore r = [] :=
  dropDU_all r fun c hc => by rw [h c hc]; rfl

theorem digitsToNat_eq (ds : List Char) : digitsToNat ds = Nat.ofDigitChars 10 ds 0 := by
  unfold digitsToNat Nat.ofDigitChars
  have : (fun (a : Nat) (c : Char) => a * 10 + (c.toNat - 48)) = (fun sofar c => 10 * sofar + (c.toNat - '0'.toNat)) := by
    funext a c
    have : ('0' : Char).toNat = 48 := by decide
    rw [this, Nat.mul_comm]
  rw [this]

theorem digits_facts (n : Nat) :
    ∃ d r, Nat.toDigits 10 n = d :: r ∧ d.isDigit = true ∧ (∀ c ∈ r, c.isDigit = true) ∧
      (d :: r).filter (· != '_') = d :: r ∧ digitsToNat (d :: r) = n := by
  have hne := Nat.toDigits_ne_nil (n := n) (b := 10)
  cases hds : Nat.toDigits 10 n with
  | nil => exact absurd hds hne
  | cons d r =>
    have hall : ∀ c ∈ d :: r, c.isDigit = true := by
      intro c hc; rw [← hds] at hc
      exact Nat.isDigit_of_mem_toDigits (by decide) (by decide) hc
    refine ⟨d, r, rfl, hall d (List.mem_cons_self ..), fun c hc => hall c (List.mem_cons_of_mem _ hc), ?_, ?_⟩
    · rw [List.filter_eq_self]
      intro c hc
      have : c ≠ '_' := by
        intro e; subst e
        rw [← hds] at hc
        exact Nat.underscore_not_in_toDigits hc
      simpa using this
    · rw [digitsToNat_eq, ← hds]; exact Nat.ofDigitChars_ten_toDigits

theorem digit_ne {c : Char} (h : c.isDigit = true) : c ≠ '-' ∧ c ≠ '"' ∧ c ≠ '_' := by
  refine ⟨?_, ?_, ?_⟩ <;> (intro e; subst e; revert h; decide)

/-- **Every i64 value's decimal text is read back by the parser as that value.** -/
theorem intTok_of_i64 (i : Int) (hlo : -9223372036854775808 ≤ i) (hhi : i ≤ 9223372036854775807) :
    IntTok (toString i) i := by
  rw [Int.toString_eq_repr, Int.repr_eq_if]
  by_cases hi : 0 ≤ i
  · simp only [hi, ↓reduceIte]
    obtain ⟨d, r, hds, hd, hr, hfil, hval⟩ := digits_facts i.toNat
    have hl : (i.toNat.repr).toList = d :: r := by rw [Nat.toList_repr]; exact hds
    obtain ⟨n1, n2, n3⟩ := digit_ne hd
    have hdd := dropDU_digits r hr
    refine ⟨?_, ?_, ?_, ?_, ?_⟩
    · simp only [isIntTok, hl]
      split
      · rename_i heq; injection heq with h1 _; exact absurd h1 n1
      · rename_i heq; injection heq with h1 _; subst h1; exact hd
      · rename_i heq; cases heq
    · simp [isSymbolTok, hl, digit_not_symStart' hd]
    · simp only [isStringTok, hl]
      split
      · rename_i heq; injection heq with h1 _; exact absurd h1 n2
      · rfl
    · simp only [isFloatTok, hl, isFloatChars]
      split
      · rename_i heq
        split at heq
        · rename_i h2; injection h2 with h3 _; exact absurd h3 n1
        · cases heq; simp [hdd]
      · rfl
    · simp only [parseI64, hl, hfil]
      have hall : (d :: r).all Char.isDigit = true := by
        rw [List.all_eq_true]; intro c hc
        rcases List.mem_cons.mp hc with rfl | hc
        · exact hd
        · exact hr c hc
      have hnn : ((i.toNat : Nat) : Int) = i := Int.toNat_of_nonneg hi
      split
      · rename_i heq; injection heq with h1 _; exact absurd h1 n1
      · simp only [List.isEmpty_cons, hall, Bool.not_true, Bool.or_self, Bool.false_eq_true, ↓reduceIte, hval, hnn]
        simp [hlo, hhi]
  · simp only [hi, ↓reduceIte]
    obtain ⟨d, r, hds, hd, hr, hfil, hval⟩ := digits_facts (-i).toNat
    have hl : ("-" ++ ((-i).toNat.repr)).toList = '-' :: d :: r := by
      simp [String.toList_append, Nat.toList_repr, hds]
    obtain ⟨n1, n2, n3⟩ := digit_ne hd
    have hdd := dropDU_digits r hr
    refine ⟨?_, ?_, ?_, ?_, ?_⟩
    · simp [isIntTok, hl, hd]
    · simp [isSymbolTok, hl, isSymStart]
    · simp [isStringTok, hl]
    · simp [isFloatTok, hl, isFloatChars, hd, hdd]
    · simp only [parseI64, hl]
      have hf : ('-' :: d :: r).filter (· != '_') = '-' :: d :: r := by
        rw [List.filter_cons]; simp [hfil]
      rw [hf]
      have hall : (d :: r).all Char.isDigit = true := by
        rw [List.all_eq_true]; intro c hc
        rcases List.mem_cons.mp hc with rfl | hc
        · exact hd
        · exact hr c hc
      simp only [List.isEmpty_cons, hall, Bool.not_true, Bool.or_self, Bool.false_eq_true, ↓reduceIte, hval]
      have : -(((-i).toNat : Nat) : Int) = i := by
        have := Int.toNat_of_nonneg (a := -i) (by omega)
        omega
      rw [this]
      simp [hlo, hhi]

def I64 (i : Int) : Prop := -9223372036854775808 ≤ i ∧ i ≤ 9223372036854775807

theorem I64.tok {i : Int} (h : I64 i) : IntTok (toString i) i := intTok_of_i64 i h.1 h.2

theorem ValidName.notStmt {x : String} (h : ValidName x) : x ∉ stmtKeywords :=
  fun hm => by have := h.notKw; rw [(stmtKeywords_class x hm).2] at this; cases this

theorem ValidName.not_mem_kw {x : String} (h : ValidName x) : x ∉ keywords := by
  have := h.notKw
  simpa using this

theorem parseSymbol_ok (toks : Toks) (i : Nat) (d : List DiagKind) (t : Tok)
    (h1 : toks[i]? = some t) (hv : ValidName t.text) :
    parseSymbol toks false ⟨i, d⟩ = .ok ⟨t.text, ⟨t.line, i + 1⟩⟩ ⟨i + 1, d⟩ := by
  simp [parseSymbol, bind_apply, P.bind, pure_apply, prev, requireAToken, pop, h1, TokI.text,
    TokI.pos, hv.sym, hv.not_mem_kw]

theorem simple_var (toks : Toks) (fuel i : Nat) (d : List DiagKind) (t : Tok)
    (h1 : toks[i]? = some t) (hv : ValidName t.text)
    (h2 : ∀ t2, toks[i + 1]? = some t2 → ¬ (t2.text = "{" ∧ t2.touchesPrev = true)) :
    parseSimple toks false (fuel + 1) ⟨i, d⟩ = .ok ⟨.var t.text, ⟨t.line, i + 1⟩⟩ ⟨i + 1, d⟩ := by
  have hnb : ¬ (match toks[i + 1]? with | some n => n.text == "{" && n.touchesPrev | none => false) = true := by
    cases h3 : toks[i + 1]? with
    | none => simp
    | some t2 => simpa using h2 t2 h3
  rw [parseSimple_peek toks false fuel i d t h1,
    if_neg (by simpa using ne_of_class hv.sym (lit := "(") (by decide)),
    if_neg (by simpa using ne_of_class hv.sym (lit := "[") (by decide)),
    if_neg (by simpa using hv.notDict),
    if_neg (by simp [hv.ne_kw (k := "fun") (by decide)]),
    if_neg (by simpa using hv.ne_kw (k := "assert") (by decide)),
    if_pos hv.sym, if_neg hnb, parseVariable]
  exact bind_ok (parseSymbol_ok toks i d t h1 hv)

theorem simple_literal (toks : Toks) (pn : Bool) (fuel i : Nat) (d : List DiagKind) (t : Tok)
    (h1 : toks[i]? = some t) (hs : isSymbolTok t.text = false) (hp : t.text ≠ "(") (hb : t.text ≠ "[") :
    parseSimple toks pn (fuel + 1) ⟨i, d⟩ =
      (if isStringTok t.text then do
         let _ ← pop toks
         let (n, s) := unescapeTok t.text
         diagN n .invalid
         pure ⟨.strLit s, ⟨t.line, i + 1⟩⟩
       else if isFloatTok t.text then parseFloat toks
       else if isIntTok t.text then parseInteger toks
       else do
         diag .invalid
         pure ⟨.invalid, ⟨t.line, i + 1⟩⟩ : P PExpr) ⟨i, d⟩ := by
  have ns : ∀ lit, isSymbolTok lit = true → ¬ (t.text == lit) = true := fun lit hl e => by
    rw [beq_iff_eq.mp e, hl] at hs; cases hs
  rw [parseSimple_peek toks pn fuel i d t h1, if_neg (by simpa using hp), if_neg (by simpa using hb),
    if_neg (ns _ (by decide)), if_neg (fun e => ns "fun" (by decide) (Bool.and_eq_true _ _ ▸ e).1),
    if_neg (ns _ (by decide)), if_neg (by simp [hs])]

theorem simple_int (toks : Toks) (fuel i : Nat) (d : List DiagKind) (t : Tok) (v : Int)
    (h1 : toks[i]? = some t) (hv : IntTok t.text v) :
    parseSimple toks false (fuel + 1) ⟨i, d⟩ = .ok ⟨.intLit v, ⟨t.line, i + 1⟩⟩ ⟨i + 1, d⟩ := by
  rw [simple_literal toks false fuel i d t h1 hv.notSym (ne_of_class hv.int (by decide))
    (ne_of_class hv.int (by decide)), if_neg (by simp [hv.notStr]), if_neg (by simp [hv.notFloat]), if_pos hv.int]
  simp [parseInteger, requireAToken, bind_apply, P.bind, pure_apply, pop, h1, hv.int, hv.val, TokI.pos, TokI.text]

theorem lexOf_cons_t (ln : Nat) (s : String) (b : Bool) (r : List PTok) :
    lexOf ln (PTok.t s b :: r) = ⟨s, b, ln, ln⟩ :: lexOf ln r := by
  simp [lexOf, lexAux]

theorem lexOf_nil (ln : Nat) : lexOf ln [] = [] := by simp [lexOf, lexAux]

def T (ln : Nat) (first : Bool) (e : Expr) : List Tok := lexOf ln (printExpr first e)

/-- The fragment of the C03 theorem and of `parse_print_partial`: `WF true e` — `e` is an operand
(integer literal, variable, call, parenthesised expression); `WF false e` — `e` is a left-nested
chain of operands. A binary operator's RIGHT child must be an operand (an unparenthesised
right-nested chain is not expressible without parentheses). -/
inductive WF : Bool → Expr → Prop
  | int {i : Int} : I64 i → WF true (.intLit i)
  | var {x : String} : ValidName x → WF true (.var x)
  | call {f : Expr} {args : List Expr} : WF true f → (∀ a ∈ args, WF false a) → WF true (.call f args)
  | paren {e : Expr} : WF false e → WF true (.paren e)
  | closed {e : Expr} : WF true e → WF false e
  | binop {l r : Expr} {op : String} :
      WF false l → gardenBinaryOps.contains op = true → WF true r → WF false (.binop l op r)

/-- From the start of the tokens of `e` the parser gets back into the trailing loop (same flag `b`)
holding `e`, positioned just after them, having spent at most `n` fuel. -/
def Reach (toks : Toks) (b : Bool) (fuel i : Nat) (d : List DiagKind) (e : Expr) (j n : Nat) : Prop :=
  ∃ ln' fuel', fuel ≤ fuel' + n ∧
    parseExpressionT toks false b fuel ⟨i, d⟩ = trailing toks false b fuel' ⟨e, ⟨ln', j⟩⟩ ⟨j, d⟩

/-- `Reach` in every context `pre … rest` that `Follow`s (and, for a chain `c = false`, stops the postfix loop). -/
def ReachAll (c : Bool) (e : Expr) (n : Nat) : Prop :=
  ∀ (b : Bool) (fuel ln : Nat) (first : Bool) (pre rest : List Tok) (d : List DiagKind) (toks : Toks),
    (c = false → b = true) → n ≤ fuel → toks = pre ++ T ln first e ++ rest → Follow rest →
    (c = false → PostfixStop rest) →
    Reach toks b fuel pre.length d e (pre.length + (T ln first e).length) n

theorem ReachAll.mono {c e n m} (h : ReachAll c e n) (hnm : n ≤ m) : ReachAll c e m := by
  intro b fuel ln first pre rest d toks hb hf ht hfo hp
  obtain ⟨ln', fuel', h1, h2⟩ := h b fuel ln first pre rest d toks hb (by omega) ht hfo hp
  exact ⟨ln', fuel', by omega, h2⟩

theorem exprT_of_noTrailing (toks : Toks) (b : Bool) (fuel : Nat) (s s' : St) (pe : PExpr)
    (h : parseNoTrailing toks false fuel s = .ok pe s') :
    parseExpressionT toks false b (fuel + 1) s = trailing toks false b fuel pe s' := by
  rw [parseExpressionT]; exact bind_ok h

theorem simple_paren (toks : Toks) (fuel i : Nat) (d : List DiagKind) (t : Tok)
    (h1 : toks[i]? = some t) (hx : t.text = "(") :
    parseSimple toks false (fuel + 1) ⟨i, d⟩ = parseTupleOrParen toks false fuel ⟨i, d⟩ := by
  rw [parseSimple_peek toks false fuel i d t h1, hx]; rfl

section
variable {toks : Toks} {fuel i j ol : Nat} {term : String} {acc : List Expr} {d : List DiagKind} {t0 t : Tok}
  {arg : PExpr} (h0 : toks[i]? = some t0) (hne : (t0.text == term) = false)
  (harg : parseExpressionT toks false true fuel ⟨i, d⟩ = .ok arg ⟨j, d⟩)
  (hinv : arg.e.isInvalidOrPlaceholder = false) (hlt : i < j) (ht : toks[j]? = some t)
include h0 hne harg hinv hlt ht

theorem commaSep_more (hc : t.text = ",") :
    commaSep toks false (fuel + 1) ol term acc ⟨i, d⟩ = commaSep toks false fuel ol term (acc ++ [arg.e]) ⟨j + 1, d⟩ := by
  rw [commaSep]
  simp [bind_apply, P.bind, peekIs_some toks term i d _ h0, hne, getIdx, harg, hinv, Nat.not_le.mpr hlt, peek,
    peekAt, ht, TokI.text, hc, pop]

theorem commaSep_last (hc : t.text = term) (hterm : term ≠ ",") :
    commaSep toks false (fuel + 1) ol term acc ⟨i, d⟩ = .ok (acc ++ [arg.e]) ⟨j, d⟩ := by
  rw [commaSep]
  simp [bind_apply, P.bind, pure_apply, peekIs_some toks term i d _ h0, hne, getIdx, harg, hinv, Nat.not_le.mpr hlt, peek,
    peekAt, ht, TokI.text, hc, hterm]

end

end ParseLemmas
