import GardenVerif.Model.Resume
import GardenVerif.Lemmas.MachineStep
/-!
For C11 (incremental = batch): what a step of `Resume.eval` (the loop around `Machine.step`) keeps,
and `eval` one step at a time (`eval_done_iff`, `Incr.eval_cont`, `Incr.eval_add`).
-/

namespace ResumeL
open Machine Resume

theorem step_prog {s s' : State} (h : (step s).state? = some s') : s'.prog = s.prog := by
  obtain ⟨fr, o, t, i, rfl, _⟩ := step_state h; rfl

theorem step_stopAt {s s' : State} (h : (step s).state? = some s') : s'.stopAt = s.stopAt := by
  obtain ⟨fr, o, t, i, rfl, _⟩ := step_state h; rfl

theorem eval_done_iff {n : Nat} {s s' : State} {v : Value} :
    Resume.eval (n + 1) s = .done s' v ↔
      step s = .done s' v ∨ ∃ s1, step s = .cont s1 ∧ Resume.eval n s1 = .done s' v := by
  rw [Resume.eval]
  cases step s <;> simp

end ResumeL

namespace Incr
open Machine Resume

theorem eval_cont (s s' : State) (h : step s = .cont s') (k : Nat) :
    Resume.eval (k + 1) s = Resume.eval k s' := by
  simp [Resume.eval, h]

theorem eval_add (m : Nat) : ∀ (s s' : State) (v : Value), Resume.eval m s = .done s' v →
    ∀ k, Resume.eval (m + k) s = .done s' v := by
  induction m with
  | zero => intro s s' v h; cases h
  | succ m ih =>
    intro s s' v h k
    rw [show m + 1 + k = (m + k) + 1 by omega, ResumeL.eval_done_iff]
    exact (ResumeL.eval_done_iff.mp h).imp id fun ⟨s1, hs, h1⟩ => ⟨s1, hs, ih s1 s' v h1 k⟩

end Incr
