import GardenVerif.Lemmas.AlphaClosure
/-!
# C19 — Rename changes exactly the occurrences of one variable

(V) certified validator. `Validators.renProg ⟨site, x, y⟩ p` is the program in which the binder at
`site` (if it binds `x`) and exactly the occurrences of `x` that RESOLVE to it (lexical resolver =
the `act` flag of `Validators.ren`: let / parameter / for / match-payload binders, block scoping,
shadowing, closures) are renamed to `y`; nothing else changes (ids and use flags included).
`IsAlphaRename p p' site x y := p' = renProg ⟨site, x, y⟩ p` is decided by `alphaCheck`, which the
driver evaluates on the two trees of the REAL parser (before / after `garden reftest-rename`).

Proved here, for ALL programs (closures included) and all fuel:
* `alphaCheck_sound` — the decision procedure implies the relation;
* `alpha_sound` — related programs, `y` fresh, have the same observable behaviour under the FULL reference
  semantics `RefSem` (`cl = true`: closures capture by value, as the evaluator does): the run ends the same way
  and prints the same, for every fuel. It is a corollary of
* `alpha_sound_related` — the two runs end with results and stores related by `Validators.VRel`: equal except
  that a closure value of the renamed run carries the renamed parameters / body and a captured environment
  whose entries for the renamed binder are called `y` (closure values carry code, so equality is impossible);
  `VRel`-related values display equally (`VRel.display`) and compare equally (`VRel.valueEq`), which is why
  the printed output is EQUAL;
* `alpha_sound_exact_closure_free` — for the closure-free restriction (`cl = false`) the runs are EQUAL (same
  result value, same store, same output);
* `apply_renames_spec` — exact model of `apply_renames` (src/rename.rs 87-101): on a text cut into
  (gap, token) segments, given the token positions in any order, it returns the text with exactly
  those tokens replaced and every gap untouched, and does not panic.
-/

namespace C19
open Validators RefSem
open Machine (Program Expr)

theorem alphaCheck_sound (p p' : Program) (site : Site) (x y : String)
    (h : alphaCheck p p' site x y = true) : IsAlphaRename p p' site x y :=
  progEq_sound _ _ h

theorem alpha_sound_exact_closure_free (p p' : Program) (site : Site) (x y : String)
    (h : IsAlphaRename p p' site x y) (hfresh : freshProg y p = true)
    (hx : x ≠ "_") (hy : y ≠ "_") (hxy : x ≠ y) :
    ∀ fuel, run false p' fuel = run false p fuel := by
  intro fuel
  unfold IsAlphaRename at h
  subst h
  simp only [freshProg, Bool.and_eq_true, List.all_eq_true] at hfresh
  have hc : RCtx ⟨site, x, y⟩ p (renProg ⟨site, x, y⟩ p) :=
    { hx := hx, hy := hy, hxy := hxy, funs := rfl, enums := rfl, freshFuns := hfresh.1 }
  exact ((renSim_all (cl := false) hc EvalRel.eq_pointwise nofun fuel).seq false [] [] St.init St.init p.toplevel
    ER.nil rfl hfresh.2).symm

theorem alpha_sound_behaviour_closure_free (p p' : Program) (site : Site) (x y : String)
    (h : IsAlphaRename p p' site x y) (hfresh : freshProg y p = true)
    (hx : x ≠ "_") (hy : y ≠ "_") (hxy : x ≠ y) :
    ∀ fuel, behaviour false p' fuel = behaviour false p fuel := by
  intro fuel
  simp only [behaviour, alpha_sound_exact_closure_free p p' site x y h hfresh hx hy hxy fuel]

theorem alphaCheck_behaviour_closure_free (p p' : Program) (site : Site) (x y : String)
    (h : alphaCheck p p' site x y = true) (hfresh : freshProg y p = true)
    (hx : x ≠ "_") (hy : y ≠ "_") (hxy : x ≠ y) :
    ∀ fuel, behaviour false p' fuel = behaviour false p fuel :=
  alpha_sound_behaviour_closure_free p p' site x y (alphaCheck_sound p p' site x y h) hfresh hx hy hxy

theorem alpha_sound_related (p p' : Program) (site : Site) (x y : String)
    (h : IsAlphaRename p p' site x y) (hfresh : freshProg y p = true)
    (hx : x ≠ "_") (hy : y ≠ "_") (hxy : x ≠ y) (cl : Bool) :
    ∀ fuel, PR ⟨site, x, y⟩ (run cl p fuel) (run cl p' fuel) := by
  intro fuel
  unfold IsAlphaRename at h
  subst h
  simp only [freshProg, Bool.and_eq_true, List.all_eq_true] at hfresh
  have hc : RCtx ⟨site, x, y⟩ p (renProg ⟨site, x, y⟩ p) :=
    { hx := hx, hy := hy, hxy := hxy, funs := rfl, enums := rfl, freshFuns := hfresh.1 }
  exact (renSim_all hc (prC_pointwise _) (fun _ => prC_closOK hx hy) fuel).seq false [] [] St.init St.init p.toplevel
    ER.nil ⟨.nil, rfl⟩ hfresh.2

/-- `alpha_sound` (no closure-free hypothesis): renaming one binder, and exactly the occurrences
that resolve to it, to a fresh name leaves the observable behaviour — how the run ends and what it
prints — unchanged, for every fuel, under the full reference semantics. -/
theorem alpha_sound (p p' : Program) (site : Site) (x y : String)
    (h : IsAlphaRename p p' site x y) (hfresh : freshProg y p = true)
    (hx : x ≠ "_") (hy : y ≠ "_") (hxy : x ≠ y) :
    ∀ fuel, behaviour true p' fuel = behaviour true p fuel := by
  intro fuel
  have hr := alpha_sound_related p p' site x y h hfresh hx hy hxy true fuel
  simp only [behaviour, hr.1.outcome, hr.2.2]

theorem alphaCheck_behaviour (p p' : Program) (site : Site) (x y : String)
    (h : alphaCheck p p' site x y = true) (hfresh : freshProg y p = true)
    (hx : x ≠ "_") (hy : y ≠ "_") (hxy : x ≠ y) :
    ∀ fuel, behaviour true p' fuel = behaviour true p fuel :=
  alpha_sound p p' site x y (alphaCheck_sound p p' site x y h) hfresh hx hy hxy

/-- Closure capturing the renamed variable: `let x = 1; let f = fun(a) { a + x }; let x = 2; f(x)`,
renaming the FIRST `x`: the use inside the closure follows, the second binder and its use do not. -/
example :
    let p : Program := ⟨[], [], [.letE 1 false (.sym "x") (.int 2 true 1),
      .letE 3 false (.sym "f") (.lambda 4 true ["a"] [.binop 5 true .add (.var 6 true "a") (.var 7 true "x")]),
      .letE 8 false (.sym "x") (.int 9 true 2),
      .call 10 true (.var 11 true "f") [.var 12 true "x"]]⟩
    (renProg ⟨.node 1 0 0, "x", "y"⟩ p).toplevel =
      [.letE 1 false (.sym "y") (.int 2 true 1),
       .letE 3 false (.sym "f") (.lambda 4 true ["a"] [.binop 5 true .add (.var 6 true "a") (.var 7 true "y")]),
       .letE 8 false (.sym "x") (.int 9 true 2),
       .call 10 true (.var 11 true "f") [.var 12 true "x"]] ∧
    freshProg "y" p = true := by
  exact ⟨rfl, by decide⟩

theorem apply_renames_spec {α} (new : List α) (segs : List (List α × List α)) (last : List α)
    (positions : List (Nat × Nat))
    (hpos : positions.mergeSort (fun a b => a.1 ≤ b.1) = positionsOf 0 segs) :
    applyRenames (buildText segs last) new positions = some (buildRenamed new segs last) := by
  unfold applyRenames
  rw [hpos]
  have := applyRenamesGo_spec new segs [] last []
  simpa using this

/-- Non-trivial instance (bytes as numbers): tokens at 1..2 and 4..6 replaced by `9 9`. -/
example : applyRenamesGo [0, 1, 2, 3, 4, 5, 6] [9, 9] 0 [(1, 2), (4, 6)] []
    = some [0, 9, 9, 2, 3, 9, 9, 6] := by decide

/-- Shadowing: renaming the outer `x` of `let x = 1; if c { let x = 2; x }; x` leaves the inner
binder and its use alone. -/
example :
    let p : Program := ⟨[], [], [.letE 1 false (.sym "x") (.int 2 true 1),
      .ifE 3 false (.var 4 true "c") [.letE 5 false (.sym "x") (.int 6 true 2), .var 7 false "x"] none,
      .var 8 true "x"]⟩
    (renProg ⟨.node 1 0 0, "x", "y"⟩ p).toplevel =
      [.letE 1 false (.sym "y") (.int 2 true 1),
       .ifE 3 false (.var 4 true "c") [.letE 5 false (.sym "x") (.int 6 true 2), .var 7 false "x"] none,
       .var 8 true "y"] := by
  rfl

end C19
