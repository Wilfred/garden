import GardenVerif.Lemmas.RoundTrip
import GardenVerif.Lemmas.RoundTripNames
/-!
C33 — Printing a syntax tree and parsing it gives the same tree.

`Print.printExpr` / `Print.printItems` give the canonical source text of every tree of the model, as
print tokens with explicit adjacency and newlines; `Print.lexOf` turns them into parser tokens (text,
adjacency, line). No statement here mentions the lexer or a text: that the real lexer yields these
tokens on the rendered text is what the harness checks, on every generated tree.

## What is proved

Main theorem `C33.parse_print` (whole files, every node kind):
  `∀ its, (∀ it ∈ its, WTI it) → IAdj its → ∃ N, ∀ fuel ≥ N,`
  `  parseItems fuel (lexOf 0 (printItems its)) = ok its ⟨all tokens consumed, no diagnostics⟩`
and, for use inside other contexts, `parse_print_stmt` (one expression / statement before any token
that satisfies `RT.Stop`), `parse_print_stmt_whole`, `parse_print_block` (any context).  `demo_roundtrip` instantiates the main theorem
on a program with every item kind and most node kinds (`demo_wf` shows the hypotheses are satisfiable).

Covered constructors (`RT.WT`, `RT.WTI`): EVERY constructor of `Expr` except `invalid` —
intLit, floatLit, strLit, var, binop, call, mcall, dot, ns, letE (symbol and destructuring
destinations, optional type hint), assign, update (`+=`/`-=`), ifE (with and without `else`; an
`else if` is the same position-free tree as `else { if … }`, which is what the printer emits),
whileE, forIn (symbol and destructuring), matchE (patterns with and without payload, payload a symbol or
a destructuring), tryE, ret (with and without value), brk, cont, list, tuple (0, 1, n elements), dict,
structLit, lambda, assertE, paren — and EVERY constructor of `Item` — func, method, test, enum, struct,
importI (with and without alias), expr, block — with type hints of any nesting (`Name`, `Name<…>`,
tuple hints), type parameters, parameters with optional hints, visibility.

`WT` / `WTI` / `IAdj` are meant to be the trees the concrete syntax can express. Known differences.
Excluded although the parser reads them without a diagnostic: a bare `return` continued on a LATER line
by `+ e`, `.f` or `.f(…)` (read as left operand / receiver); a method receiver without type hint (its
hint becomes the parser's `__placeholder`); `Dict` and `__placeholder` as bound or field names.
Included although no text yields them: `ValidName` looks at the first character only (`isSymbolTok`
tests a prefix), so `var "a + b"` is in `WT` and the theorem then speaks of a one-token list that no
text lexes to. Otherwise the side conditions are things the grammar cannot express or reads
differently:
* names are `ParseLemmas.ValidName` (texts that begin like a symbol token and are not keywords, `Dict`,
  or the parser's placeholder names); a named type hint is not called `Tuple`; integer literals are i64
  (`ParseLemmas.I64`; `intTok_of_i64` proves the decimal text of every i64 reads back as that value);
  float literals are `RT.FloatTok` texts (`digits.digits`, optional `-`, no `_`); `update`'s operator is
  `+=` or `-=`; binary operators are the 21 of `gardenBinaryOps`; strings are arbitrary (`unescape ∘
  escape = id` is proved: `RT.unescapeTok_strTok`);
* positions (`RT.Kind`): receivers, callees and right operands of binary operators are closed forms
  (`closed`), left operands are chains (`chain`); `let`, assignments and `return` (`stmt`) are complete
  expressions (`full`) and may also be the right operand of the LAST operator of a chain (`a + x = 1`,
  `WT.binopStmt`), not of an inner one; a callee does not end in a dot access (`a.b(…)` is a method
  call).  A bare `return` may end any complete expression, also inside arguments, lists, conditions
  (`f(return)`): the printer then puts a newline before the separator, which the cursor of the judgement
  `Rd` tracks (`Cur.adv`, `LineOk`);
* parameter / destructuring names are not repeated (`RT.dupFree`, as the parser's diagnostics see
  them: `_` may repeat); lambdas have no type parameters; a top-level expression does not start with
  `fun`, `method`, `test`, `enum`, `struct`, `public`, `import` (`RT.defKw`);
* `RT.Adj` / `RT.IAdj`: in a block / at top level, an expression that ends in a dot access is not
  followed by one starting with `(` (the method-call parenthesis need not touch, even across lines).

## Structure

`namespace C33` (first part): the operator/call/parenthesis fragment over `ParseLemmas.WF` (`parse_print_partial`).
`namespace RT`: on the judgement `Rd` (the head of Lemmas/Reads.lean says how such a proof goes), the node kinds that
Lemmas/RoundTrip.lean does not treat — lambda, `match`, struct literal, `try`, `assert`, dictionary, float, `let`,
`for` —, the items, and the inductions `wt_all` over `WT` and `wti_ok` over `WTI`.
`namespace C33` (second part): the theorems named above.

Negative integer literals: printed as the single token `-n`; the printer never glues an operator to a
literal (operators have a space on both sides), so `a - 1` and `a -1` (= `a` then literal `-1`) are
never confused.
-/

namespace C33
open Parse Print ParseLemmas

/-- **Round trip (partial: operator/call/parenthesis fragment).** For every well-formed tree `e` of
the fragment, in every context (`pre` before; `rest` after, not continuing the expression), for every
fuel above a bound depending only on `e`: parsing the lexed canonical text of `e` returns `e`,
consumes exactly its tokens and emits no diagnostic. -/
theorem parse_print_partial {e : Expr} (h : WF false e) :
    ∃ n, ∀ (fuel ln : Nat) (first : Bool) (pre rest : List Tok) (d : List DiagKind),
      n ≤ fuel → Follow rest → ChainStop rest →
      ∃ ln', parseExpression (pre ++ lexOf ln (printExpr first e) ++ rest) false fuel ⟨pre.length, d⟩ =
        .ok ⟨e, ⟨ln', pre.length + (lexOf ln (printExpr first e)).length⟩⟩
            ⟨pre.length + (lexOf ln (printExpr first e)).length, d⟩ :=
  parse_print_fragment h

/-- The same for a whole text: index 0, nothing before or after, no diagnostics at all. -/
theorem parse_print_whole_partial {e : Expr} (h : WF false e) :
    ∃ n, ∀ fuel, n ≤ fuel →
      ∃ ln', parseExpression (lexOf 0 (printExpr true e)) false fuel ⟨0, []⟩ =
        .ok ⟨e, ⟨ln', (lexOf 0 (printExpr true e)).length⟩⟩ ⟨(lexOf 0 (printExpr true e)).length, []⟩ := by
  obtain ⟨n, hn⟩ := parse_print_partial h
  refine ⟨n, fun fuel hf => ?_⟩
  have := hn fuel 0 true [] [] [] hf (by intro t h; simp at h) (by intro t h; simp at h)
  simpa using this

/-- A tree of the fragment with every node kind: `f(1, (g() + x) * 2) - -3`. -/
example : WF false
    (.binop (.call (.var "f") [.intLit 1, .binop (.paren (.binop (.call (.var "g") []) "+" (.var "x"))) "*" (.intLit 2)])
      "-" (.intLit (-3))) := by
  have i1 : I64 (1) := ⟨by decide, by decide⟩
  have i2 : I64 (2) := ⟨by decide, by decide⟩
  have i3 : I64 (-3) := ⟨by decide, by decide⟩
  have vf : ValidName "f" := ⟨by decide, by decide, by decide, by decide⟩
  have vg : ValidName "g" := ⟨by decide, by decide, by decide, by decide⟩
  have vx : ValidName "x" := ⟨by decide, by decide, by decide, by decide⟩
  refine .binop (.closed (.call (.var vf) ?_)) (by decide) (.int i3)
  intro a ha
  simp at ha
  rcases ha with rfl | rfl
  · exact .closed (.int i1)
  · refine .binop (.closed (.paren (.binop (.closed (.call (.var vg) ?_)) (by decide) (.var vx)))) (by decide) (.int i2)
    intro a ha; simp at ha

end C33

namespace RT
open Parse Print ParseLemmas

def TF (ln : Nat) (tps : List String) (ps : List Param) (r : Option TypeHint) (es : List Expr) : List Tok :=
  lexAux false ln (printFun (.mk tps ps r (.mk es)))

theorem simple_lambda (toks : Toks) (fuel i : Nat) (d : List DiagKind) (t t2 : Tok)
    (h1 : toks[i]? = some t) (hx : t.text = "fun") (h2 : toks[i + 1]? = some t2) (hx2 : t2.text = "(") :
    parseSimple toks false (fuel + 1) ⟨i, d⟩ = parseLambda toks false fuel ⟨i, d⟩ := by
  rw [parseSimple_peek toks false fuel i d t h1, hx, if_neg (by decide), if_neg (by decide), if_neg (by decide),
    if_pos (by simp [h2, hx2])]

theorem atom_lambda {ps : List Param} {r : Option TypeHint} {es : List Expr} {el : Bool} {nb : Nat} (wf : WTF [] ps r)
    (hb : Blk es nb) : ∃ n, Atom el (.lambda (.mk [] ps r (.mk es))) n := by
  obtain ⟨nh, hh⟩ := funHead_rd wf
  apply Exists.intro; intro toks C first
  rw [show printExpr first (.lambda (.mk [] ps r (.mk es))) = .t "fun" first :: (printTParams [] ++ (printParams ps ++
    (printHintOpt r ++ (printBlock (.mk es) ++ [])))) by simp [printExpr, printFun], printBlock_eq]
  apply Rd.simple (p := parseLambda toks false) (P2 := fun o => ∃ t2, o = some t2 ∧ t2.text = "(") (by decide)
    (.first (s := "(") rfl fun t ht => ⟨fun t2 h => by cases h; rw [ht]; decide, t, rfl, ht⟩)
    (fun k d _ ⟨t2, ho, hx⟩ h0 h1 => simple_lambda toks k C.i d _ t2 h0 rfl (ho ▸ h1) hx)
  apply Rd.succ (parseLambda.eq_2 toks false)
  apply Rd.req
  apply hh
  · exact fun _ _ => .of_text (.inr (.inr (.inr rfl)))
  apply Rd.bind (hb toks _ false)
  · exact fun _ _ => trivial
  intro body hbody
  exact .pure ⟨by simp [PBlock.block, hbody.1], by simp only [Pos.merge, TokI.pos, hbody.2, Cur.adv_i, Cur.tok_i]; omega⟩

theorem pf_lambda {f : FunInfo} : PF (.lambda f) := by
  obtain ⟨tps, ps, r, ⟨es⟩⟩ := f
  obtain ⟨X, hX⟩ := printBlock_split es
  exact pf_kw "fun" (printTParams tps ++ printParams ps ++ printHintOpt r ++ X) "}" false
    (fun first => by simp [printExpr, printFun, hX]) (sym_not_bad (by decide) (by decide)) rfl rfl

theorem caseBlock_rd {es : List Expr} {nb : Nat} (hb : Blk es nb) :
    ∃ n, ∀ toks C, Rd toks n C (parseCaseBlock toks false) (.t "{" false :: (printBlockItems es ++ [.nl, .t "}" false]) ++ [.t "," true])
      (fun _ => True) fun r _ => r.exprs = es := by
  apply Exists.intro; intro toks C
  apply Rd.succ (parseCaseBlock.eq_2 toks false)
  simp only [P.bind_assoc]
  apply Rd.peekIs (.t rfl)
  apply Rd.bind (hb toks _ false)
  · exact fun _ _ => trivial
  intro b hb
  apply Rd.peekIs (.t rfl)
  apply Rd.pop
  exact .pure hb.1

theorem matchLoop_rd (cs : List Case) (hok : ∀ p es, Case.mk p (.mk es) ∈ cs → WTPat p ∧ ∃ n, Blk es n) :
    ∃ N, ∀ toks C acc, Rd toks N C (fun k => matchLoop toks false k acc) (printCases cs ++ [.nl]) (Closes "}")
      fun r _ => r = acc ++ cs := by
  induction cs with
  | nil =>
    apply Exists.intro; intro toks C acc
    apply Rd.succ (matchLoop.eq_2 toks false acc)
    apply Rd.peekT (A := [.nl]) (fun o h _ => isTok_iff.mp h); intro t ht
    simp only [TokI.text, ht, beq_self_eq_true, ↓reduceIte]
    exact .nl (.pure (by simp))
  | cons c r ih =>
    obtain ⟨p, ⟨es⟩⟩ := c
    obtain ⟨wp, nb, hb⟩ := hok p es (List.mem_cons_self ..)
    obtain ⟨np, hnp⟩ := pattern_rd wp
    obtain ⟨ncb, hcb⟩ := caseBlock_rd hb
    obtain ⟨N, hN⟩ := ih fun p es h => hok p es (List.mem_cons_of_mem _ h)
    apply Exists.intro; intro toks C acc
    rw [show printCases (.mk p (.mk es) :: r) ++ [.nl] = .nl :: (printPattern p ++ (.t "=>" false ::
      ((.t "{" false :: (printBlockItems es ++ [.nl, .t "}" false]) ++ [.t "," true]) ++ (printCases r ++ [.nl])))) by
      simp [printCases, printBlock, w, g]]
    apply Rd.succ (matchLoop.eq_2 toks false acc)
    apply Rd.peekT (.text (s := p.variant) (by simp [first?, first?_append, first?_pattern])); intro t ht
    simp only [TokI.text, ht, wp.variant.beq_nonsym (show isSymbolTok "}" = false by decide), Bool.false_eq_true, ↓reduceIte]
    apply Rd.nl; apply Rd.getIdx
    apply Rd.bind (hnp toks _)
    · exact fun _ _ => rfl
    intro rp hrp
    apply Rd.req
    apply Rd.bind (hcb toks _)
    · exact fun _ _ => trivial
    intro rb hrb
    apply Rd.getIdx
    simp only [Nat.not_le.mpr (Nat.lt_of_lt_of_le (Cur.lt_adv_tok C.nl _) (Cur.le_adv ..)), ↓reduceIte]
    exact (hN toks _ _).conseq (by simp [hrp, PBlock.block, hrb])

theorem atom_match {s : Expr} {cs : List Case} {el el' : Bool} {ns : Nat} (hs : Full el' s ns) (ps : PF s)
    (hok : ∀ p es, Case.mk p (.mk es) ∈ cs → WTPat p ∧ ∃ n, Blk es n) : ∃ n, Atom el (.matchE s cs) n := by
  obtain ⟨N, hN⟩ := matchLoop_rd cs hok
  apply Exists.intro; intro toks C first
  rw [show printExpr first (.matchE s cs) = .t "match" first :: (printExpr false s ++ (.t "{" false :: ((printCases cs ++ [.nl]) ++
    (.t "}" false :: [])))) by simp [printExpr, w]]
  apply Rd.stmtKw (p := parseMatch toks false) (fun _ => rfl) ps.nx_noAssign
  apply Rd.succ (parseMatch.eq_2 toks false)
  apply Rd.req
  apply Rd.bind (hs toks _ false)
  · exact fun _ _ => .tk (by decide) (fun h => by cases h) (fun _ => by decide)
  intro rs hrs
  apply Rd.req
  simp only [TokI.text, tk_text, bne_self_eq_false, Bool.false_eq_true, ↓reduceIte]
  apply Rd.bind (hN toks _ [])
  · exact fun _ _ => rfl
  intro r hr
  apply Rd.req
  exact .pure ⟨by simp [hrs.1, hr], by simp only [Pos.merge, TokI.pos, Cur.adv_i, Cur.tok_i]; omega⟩

theorem pf_match {s : Expr} {cases : List Case} : PF (.matchE s cases) :=
  pf_kw "match" (printExpr false s ++ [w "{"] ++ printCases cases ++ [PTok.nl]) "}" false
    (fun first => by simp [printExpr, w]) (sym_not_bad (by decide) (by decide)) rfl rfl

theorem fieldsLoop_rd (fs : List Field) (el : Bool) (hn : ∀ f e, Field.mk f e ∈ fs → ValidName f)
    (hfu : ∀ f e, Field.mk f e ∈ fs → ∃ n, Full el e n) :
    ∃ N, ∀ toks C acc, Rd toks N C (fun k => fieldsLoop toks false k acc) (printFields fs) (Closes "}")
      fun r _ => r = acc ++ fs := by
  induction fs with
  | nil =>
    apply Exists.intro; intro toks C acc
    apply Rd.succ (fieldsLoop.eq_2 toks false acc)
    exact .peekIs (.nil fun _ h => h) (.pure (by simp))
  | cons x r ih =>
    obtain ⟨f, e⟩ := x
    have vf := hn f e (List.mem_cons_self ..)
    obtain ⟨ne, hne⟩ := hfu f e (List.mem_cons_self ..)
    obtain ⟨N, hN⟩ := ih (fun f e h => hn f e (List.mem_cons_of_mem _ h)) (fun f e h => hfu f e (List.mem_cons_of_mem _ h))
    apply Exists.intro; intro toks C acc
    rw [show printFields (.mk f e :: r) = .t f false :: .t ":" true :: (printExpr false e ++ (.t "," true :: printFields r)) by
      simp [printFields, w, g]]
    apply Rd.succ (fieldsLoop.eq_2 toks false acc)
    apply Rd.peekIs (.t (vf.beq_nonsym (by decide)))
    apply Rd.getIdx
    apply Rd.sym vf
    simp only [show ∀ p, PSym.isPlaceholder ⟨f, p⟩ = false from fun _ => vf.notPh, Bool.false_eq_true, ↓reduceIte]
    apply Rd.req
    apply Rd.bind (hne toks _ false)
    · exact fun _ _ => .sep (x := ",") (by decide) rfl
    intro re hre
    apply Rd.getIdx
    have hlt : C.i < (C.tok.tok.adv (printExpr false e)).i ∧ C.i < (C.tok.tok.adv (printExpr false e)).tok.i := by
      simp only [Cur.adv_i, Cur.tok_i]; omega
    simp only [beq_eq_false_iff_ne.mpr (Nat.ne_of_gt hlt.1), Bool.false_eq_true, ↓reduceIte]
    apply Rd.peekTok
    simp only [TokI.text, tk_text, beq_self_eq_true, ↓reduceIte]
    apply Rd.pop
    apply Rd.getIdx
    simp only [beq_eq_false_iff_ne.mpr (Nat.ne_of_gt hlt.2), Bool.and_false, Bool.false_eq_true, ↓reduceIte]
    exact (hN toks _ _).conseq (by simp [hre.1])

theorem simple_struct (toks : Toks) (fuel i : Nat) (d : List DiagKind) (t t2 : Tok)
    (h1 : toks[i]? = some t) (hv : ValidName t.text) (h2 : toks[i + 1]? = some t2) (hx2 : t2.text = "{")
    (ht2 : t2.touchesPrev = true) :
    parseSimple toks false (fuel + 1) ⟨i, d⟩ = parseStructLiteral toks false fuel ⟨i, d⟩ := by
  rw [parseSimple_peek toks false fuel i d t h1,
    if_neg (by simpa using ne_of_class hv.sym (lit := "(") (by decide)),
    if_neg (by simpa using ne_of_class hv.sym (lit := "[") (by decide)),
    if_neg (by simpa using hv.notDict),
    if_neg (by simp [hv.ne_kw (k := "fun") (by decide)]),
    if_neg (by simpa using hv.ne_kw (k := "assert") (by decide)),
    if_pos hv.sym, if_pos (by simp [h2, hx2, ht2])]

theorem atom_struct {n : String} {fs : List Field} {el el' : Bool} (vn : ValidName n) (hn : ∀ f e, Field.mk f e ∈ fs → ValidName f)
    (hfu : ∀ f e, Field.mk f e ∈ fs → ∃ n, Full el' e n) :
    ∃ k, Atom el (.structLit n fs) k := by
  obtain ⟨N, hN⟩ := fieldsLoop_rd fs el' hn hfu
  apply Exists.intro; intro toks C first
  rw [show printExpr first (.structLit n fs) = .t n first :: .t "{" true :: (printFields fs ++ (.t "}" false :: [])) by
    simp [printExpr, g, w]]
  apply Rd.simple (p := parseStructLiteral toks false) (P2 := fun o => ∃ t2, o = some t2 ∧ t2.text = "{" ∧ t2.touchesPrev = true)
    vn.notStmt (.t ⟨noAssign_tk (by decide), _, rfl, rfl, rfl⟩)
    (fun k d _ ⟨t2, ho, hx, ht⟩ h0 h1 => simple_struct toks k C.i d _ t2 h0 vn (ho ▸ h1) hx ht)
  apply Rd.succ (parseStructLiteral.eq_2 toks false)
  apply Rd.getIdx
  apply Rd.sym vn
  apply Rd.getIdx
  simp only [Cur.tok_i, beq_eq_false_iff_ne.mpr (Nat.succ_ne_self C.i), Bool.and_false, Bool.false_eq_true, ↓reduceIte]
  apply Rd.req
  apply Rd.bind (hN toks _ [])
  · exact fun _ _ => rfl
  intro r hr
  apply Rd.req
  exact .pure ⟨by simp [hr], by simp only [Pos.merge, TokI.pos, Cur.adv_i, Cur.tok_i]; omega⟩

theorem pf_struct {n : String} {fs : List Field} (vn : ValidName n) : PF (.structLit n fs) :=
  pf_kw n (g "{" :: printFields fs) "}" false (fun first => by simp [printExpr, w]) (validName_not_bad vn) rfl rfl

theorem atom_try {es es2 : List Expr} {x : String} {el : Bool} {nb nb2 : Nat} (hb : Blk es nb) (vx : ValidName x) (hb2 : Blk es2 nb2) :
    ∃ n, Atom el (.tryE (.mk es) x (.mk es2)) n := by
  apply Exists.intro; intro toks C first
  rw [show printExpr first (.tryE (.mk es) x (.mk es2)) = .t "try" first :: (printBlock (.mk es) ++ (.t "catch" false ::
      .t "(" false :: .t x true :: .t ")" true :: (printBlock (.mk es2) ++ []))) by simp [printExpr, w, g], printBlock_eq, printBlock_eq]
  apply Rd.stmtKw (p := parseTry toks false) (fun _ => rfl) (.t (noAssign_tk (by decide)))
  apply Rd.succ (parseTry.eq_2 toks false)
  apply Rd.req
  apply Rd.bind (hb toks _ false)
  · exact fun _ _ => trivial
  intro rb hrb
  apply Rd.req
  apply Rd.req
  apply Rd.sym vx
  apply Rd.req
  apply Rd.bind (hb2 toks _ false)
  · exact fun _ _ => trivial
  intro rb2 hrb2
  exact .pure ⟨by simp [hrb.1, hrb2.1, PBlock.block], by
    simp only [Pos.merge, TokI.pos, hrb2.2, Cur.adv_i, Cur.tok_i]; omega⟩

theorem pf_try {es es2 : List Expr} {x : String} : PF (.tryE (.mk es) x (.mk es2)) := by
  obtain ⟨X, hX⟩ := printBlock_split es2
  exact pf_kw "try" (printBlock (.mk es) ++ [w "catch", w "(", g x, g ")"] ++ X) "}" false
    (fun first => by simp [printExpr, hX]) (sym_not_bad (by decide) (by decide)) rfl rfl

theorem simple_assert (toks : Toks) (fuel i : Nat) (d : List DiagKind) (t : Tok)
    (h1 : toks[i]? = some t) (hx : t.text = "assert") :
    parseSimple toks false (fuel + 1) ⟨i, d⟩ = parseAssert toks false fuel ⟨i, d⟩ := by
  rw [parseSimple_peek toks false fuel i d t h1, hx]; rfl

theorem atom_assert {e : Expr} {el el' : Bool} {n : Nat} (he : Full el' e n) (pe : PF e) : ∃ k, Atom el (.assertE e) k := by
  apply Exists.intro; intro toks C first
  rw [show printExpr first (.assertE e) = .t "assert" first :: .t "(" true :: (printExpr true e ++ (.t ")" true :: [])) by
    simp [printExpr, g]]
  apply Rd.simple (p := parseAssert toks false) (P2 := fun _ => True) (by decide) (.t ⟨noAssign_tk (by decide), trivial⟩)
    (fun k d _ _ h0 _ => simple_assert toks k C.i d _ h0 rfl)
  apply Rd.succ (parseAssert.eq_2 toks false)
  apply Rd.req
  apply Rd.req
  apply Rd.peekIs (pe.nx_isTok (by decide))
  apply Rd.bind (he toks _ true)
  · exact fun _ _ => .sep (x := ")") (by decide) rfl
  intro r hr
  apply Rd.req
  exact .pure ⟨by simp [hr.1], by simp only [Pos.merge, TokI.pos, Cur.adv_i, Cur.tok_i]; omega⟩

theorem pf_assert {e : Expr} : PF (.assertE e) :=
  pf_kw "assert" ([g "("] ++ printExpr true e) ")" true (fun first => by simp [printExpr, g]) (sym_not_bad (by decide) (by decide)) rfl rfl

theorem dictLoop_rd (kvs : List KV) (el : Bool)
    (hfu : ∀ k v, KV.mk k v ∈ kvs → (∃ n, Full el k n) ∧ ∃ n, Full el v n) (hpf : ∀ k v, KV.mk k v ∈ kvs → PF k) :
    ∃ N, ∀ toks C first acc, Rd toks N C (fun k => dictLoop toks false k acc) (printKVs first kvs) (Closes "]")
      fun r _ => r = acc ++ kvs := by
  induction kvs with
  | nil =>
    apply Exists.intro; intro toks C first acc
    apply Rd.succ (dictLoop.eq_2 toks false acc)
    exact .peekIs (.nil fun _ h => h) (.pure (by simp))
  | cons x r ih =>
    obtain ⟨k, v⟩ := x
    obtain ⟨⟨nk, hnk⟩, nv, hnv⟩ := hfu k v (List.mem_cons_self ..)
    have pk := hpf k v (List.mem_cons_self ..)
    obtain ⟨N, hN⟩ := ih (fun k v h => hfu k v (List.mem_cons_of_mem _ h)) (fun k v h => hpf k v (List.mem_cons_of_mem _ h))
    apply Exists.intro; intro toks C first acc
    rw [show printKVs first (.mk k v :: r) = printExpr first k ++ (.t "=>" false :: (printExpr false v ++
      (.t "," true :: printKVs false r))) by simp [printKVs, w, g]]
    apply Rd.succ (dictLoop.eq_2 toks false acc)
    apply Rd.peekIs (pk.nx_isTok (by decide))
    apply Rd.getIdx
    apply Rd.bind (hnk toks C first)
    · exact fun _ _ => .sep (x := "=>") (by decide) rfl
    intro rk hrk
    simp only [hrk.1, pk.ninv, Bool.false_eq_true, ↓reduceIte]
    apply Rd.req
    apply Rd.bind (hnv toks _ false)
    · exact fun _ _ => .sep (x := ",") (by decide) rfl
    intro rv hrv
    apply Rd.getIdx
    simp only [gt_iff_lt, Nat.lt_of_lt_of_le (Cur.lt_adv_tok C _) (Cur.le_adv ..), decide_true, Bool.not_true,
      Bool.false_eq_true, ↓reduceIte]
    apply Rd.peekTok
    simp only [TokI.text, tk_text, beq_self_eq_true, ↓reduceIte]
    apply Rd.pop
    exact (hN toks _ false _).conseq (by simp [hrv.1])

theorem simple_dict (toks : Toks) (fuel i : Nat) (d : List DiagKind) (t : Tok)
    (h1 : toks[i]? = some t) (hx : t.text = "Dict") :
    parseSimple toks false (fuel + 1) ⟨i, d⟩ = parseDictLiteral toks false fuel ⟨i, d⟩ := by
  rw [parseSimple_peek toks false fuel i d t h1, hx]; rfl

theorem atom_dict {kvs : List KV} {el el' : Bool}
    (hfu : ∀ k v, KV.mk k v ∈ kvs → (∃ n, Full el' k n) ∧ ∃ n, Full el' v n) (hpf : ∀ k v, KV.mk k v ∈ kvs → PF k) :
    ∃ n, Atom el (.dict kvs) n := by
  obtain ⟨N, hN⟩ := dictLoop_rd kvs el' hfu hpf
  apply Exists.intro; intro toks C first
  rw [show printExpr first (.dict kvs) = .t "Dict" first :: .t "[" true :: (printKVs true kvs ++ (.t "]" true :: [])) by
    simp [printExpr, g]]
  apply Rd.simple (p := parseDictLiteral toks false) (P2 := fun _ => True) (by decide) (.t ⟨noAssign_tk (by decide), trivial⟩)
    (fun k d _ _ h0 _ => simple_dict toks k C.i d _ h0 rfl)
  apply Rd.succ (parseDictLiteral.eq_2 toks false)
  apply Rd.req
  apply Rd.req
  apply Rd.bind (hN toks _ true [])
  · exact fun _ _ => rfl
  intro r hr
  apply Rd.req
  exact .pure ⟨by simp [hr], by simp only [Pos.merge, TokI.pos, Cur.adv_i, Cur.tok_i]; omega⟩

theorem pf_dict {kvs : List KV} : PF (.dict kvs) :=
  pf_kw "Dict" ([g "["] ++ printKVs true kvs) "]" true (fun first => by simp [printExpr, g]) (sym_not_bad (by decide) (by decide)) rfl rfl

/-- A token text the parser reads as the float literal with the same text. -/
structure FloatTok (s : String) : Prop where
  flt : isFloatTok s = true
  notSym : isSymbolTok s = false
  notStr : isStringTok s = false
  clean : s.toList.filter (· != '_') = s.toList
  whole : floatWhole s.toList = true

theorem FloatTok.notBad {s : String} (h : FloatTok s) : s ∉ badFirst :=
  fun hm => ne_of_class h.flt (badFirst_class s hm).2.2.1 rfl

theorem FloatTok.notStmt {s : String} (h : FloatTok s) : s ∉ stmtKeywords := notStmt_of_notSym h.notSym

theorem simple_float (toks : Toks) (fuel i : Nat) (d : List DiagKind) (t : Tok)
    (h1 : toks[i]? = some t) (hf : FloatTok t.text) :
    parseSimple toks false (fuel + 1) ⟨i, d⟩ = .ok ⟨.floatLit t.text, ⟨t.line, i + 1⟩⟩ ⟨i + 1, d⟩ := by
  rw [simple_literal toks false fuel i d t h1 hf.notSym (ne_of_class hf.flt (by decide)) (ne_of_class hf.flt (by decide)),
    if_neg (by simp [hf.notStr]), if_pos hf.flt]
  simp [parseFloat, requireAToken, bind_apply, P.bind, pure_apply, pop, h1, hf.flt, hf.clean, hf.whole, TokI.pos,
    TokI.text, String.ofList_toList]

theorem atom_float {el : Bool} {s : String} (hs : FloatTok s) : Atom el (.floatLit s) 2 :=
  atom_leaf (fun _ => by simp [printExpr]) hs.notStmt fun toks k i d t h0 ht _ => by
    rw [← ht] at hs ⊢; exact simple_float toks k i d t h0 hs

theorem pf_float {s : String} (hs : FloatTok s) : PF (.floatLit s) :=
  pf_leaf _ s (fun _ => by simp [printExpr]) hs.notBad rfl rfl

example : FloatTok "1.5" := ⟨by decide, by decide, by decide, by decide, by decide⟩
example : FloatTok "-0.25" := ⟨by decide, by decide, by decide, by decide, by decide⟩

theorem pf_let' {dst : LetDest} {h : Option TypeHint} {e : Expr} (pe : PF e) : PF (.letE dst h e) :=
  pf_stmt pe "let" (printDest dst ++ printHintOpt h ++ [w "="]) (fun first => by simp [printExpr]) (sym_not_bad (by decide) (by decide)) rfl rfl

theorem pf_let {x : String} {e : Expr} (pe : PF e) : PF (.letE (.sym x) none e) := pf_let' pe

theorem WTD.nx_noAssign {dst : LetDest} (wd : WTD dst) {C : Cur} {X : List PTok} {F : Fw} :
    Nx C (printDest dst ++ X) F NoAssign := by
  obtain ⟨s, hs, hne⟩ := first?_dest wd
  exact .first (by rw [first?_append, hs]; rfl) fun t ht t2 h2 => by cases h2; rw [ht]; exact hne

theorem stmt_let_core {el : Bool} {dst : LetDest} {h : Option TypeHint} {e : Expr} {n nd nh : Nat} (wd : WTD dst)
    (hd : DestRd dst nd) (hh : HintOptRd h nh) (he : Full el e n) : Stmt el (.letE dst h e) (n + nd + nh + 3) := by
  intro toks C first b
  rw [show printExpr first (.letE dst h e) = .t "let" first :: (printDest dst ++ (printHintOpt h ++ (.t "=" false ::
    (printExpr false e ++ [])))) by simp [printExpr, w]]
  -- the rules find the bound `max nd (max nh (max n 0)) + 3`; the last goal compares it with the stated one
  apply Rd.mono (N' := n + nd + nh + 3)
  apply Rd.exprT_stop (e := .letE dst h e) (dot := endsDot e)
  apply Rd.stmtKw (p := parseLet toks false) (fun _ => rfl) wd.nx_noAssign
  apply Rd.succ (parseLet.eq_2 toks false)
  apply Rd.req
  apply Rd.bind (hd toks _)
  · exact fun _ _ => trivial
  intro rd hrd
  apply Rd.bind (hh toks _)
  · exact fun _ _ => .of_text (.inl rfl)
  intro rh hrh
  apply Rd.req
  apply Rd.bind (he toks _ false)
  · exact fun _ h => h
  intro r hr
  exact .pure ⟨by simp [hrd, hrh, hr.1], by simp only [Pos.merge, TokI.pos, hr.2, Cur.adv_i, Cur.tok_i]; omega⟩
  omega

theorem stmt_let {el : Bool} {dst : LetDest} {h : Option TypeHint} {e : Expr} {n : Nat} (wd : WTD dst) (wh : WTHO h)
    (he : Full el e n) : ∃ k, Stmt el (.letE dst h e) k :=
  (dest_rd wd).elim fun _ hd => (hintOpt_rd wh).elim fun _ hh => ⟨_, stmt_let_core wd hd hh he⟩

theorem fu_let {x : String} {e : Expr} {n : Nat} (hx : ValidName x) (he : FU e n) (pe : PF e) :
    FS (.letE (.sym x) none e) (n + 3) :=
  (stmt_let_core (.sym hx) (dest_rd_sym hx) hintOpt_rd_none (he.full pe)).fs (pf_let pe)

theorem atom_for {dst : LetDest} {c : Expr} {es : List Expr} {el el' : Bool} {nc nb : Nat} (wd : WTD dst) (hc : Full el' c nc)
    (hb : Blk es nb) : ∃ n, Atom el (.forIn dst c (.mk es)) n := by
  obtain ⟨nd, hd⟩ := dest_rd wd
  apply Exists.intro; intro toks C first
  rw [show printExpr first (.forIn dst c (.mk es)) = .t "for" first :: (printDest dst ++ (.t "in" false :: (printExpr false c ++
    (printBlock (.mk es) ++ [])))) by simp [printExpr, w], printBlock_eq]
  apply Rd.stmtKw (p := parseForIn toks false) (fun _ => rfl) wd.nx_noAssign
  apply Rd.succ (parseForIn.eq_2 toks false)
  apply Rd.req
  apply Rd.bind (hd toks _)
  · exact fun _ _ => trivial
  intro rd hrd
  apply Rd.req
  apply Rd.bind (hc toks _ false)
  · exact fun _ _ => .tk (by decide) (fun h => by cases h) (fun _ => by decide)
  intro rc hrc
  apply Rd.bind (hb toks _ false)
  · exact fun _ _ => trivial
  intro rb hrb
  exact .pure ⟨by simp [hrd, hrc.1, hrb.1, PBlock.block], by
    simp only [Pos.merge, TokI.pos, hrb.2, Cur.adv_i, Cur.tok_i]; omega⟩

theorem r_for {x : String} {c : Expr} {es : List Expr} {nc : Nat} (hx : ValidName x) (hc : FU c nc) (pc : PF c)
    (hb : BlockOK es) : ∃ n, R true (.forIn (.sym x) c (.mk es)) n :=
  hb.blk.elim fun _ hnb => (atom_for (.sym hx) (hc.full pc) hnb).elim fun _ h => ⟨_, .of_atom h pf_for rfl⟩

/-- The first tokens on which `parse_toplevel_item_from_tokens` goes to `parse_definition`. -/
def defKw : List String := ["fun", "method", "test", "enum", "struct", "public", "import"]

theorem notKwPh {name : String} (vn : ValidName name) : (name == "__keyword_placeholder") = false := by
  have := vn.notPh
  simp [isPlaceholderName] at this
  simp [this.2]

section
variable {toks : Toks} {α β : Type} {N : Nat} {C : Cur} {A : List PTok} {F : Fw}

theorem Rd.of_lt {m : Nat → P α} {Q : α → Nat → Prop} (h0 : 0 < ntok A) (h : C.i < toks.length → Rd toks N C m A F Q) :
    Rd toks N C m A F Q := by
  intro fuel rest d hf hD hfo hl
  refine h ?_ fuel rest d hf hD hfo hl
  have := congrArg List.length hD
  rw [List.length_drop, List.length_append, Cur.lex, length_lexAux] at this
  omega

theorem Rd.of_ge {m : Nat → P α} {Q : α → Nat → Prop} (h : toks.length ≤ C.i → Rd toks N C m [] (· = none) Q) :
    Rd toks N C m [] (· = none) Q := by
  intro fuel rest d hf hD hfo hl
  obtain rfl : rest = [] := List.head?_eq_none_iff.mp hfo
  exact h (List.drop_eq_nil_iff.mp hD) fuel [] d hf hD hfo hl

theorem Rd.pubKw {Q : β → Nat → Prop} {first pub : Bool} {kw : String} {f : Nat → Bool → P β} (hkw : kw ≠ "public")
    (hr : Rd toks N (C.adv (pubTok first pub kw)) (fun k => f k pub) A F Q) :
    Rd toks N C (fun k => popIfPublic toks >>= fun a => requireToken toks kw >>= fun _ => f k a) (pubTok first pub kw ++ A) F Q := by
  unfold popIfPublic
  simp only [P.bind_assoc]
  cases pub with
  | false =>
    apply Rd.peekIs (v := false) (.t (show (kw == "public") = false by simpa using hkw))
    simp only [Bool.false_eq_true, ↓reduceIte]
    apply Rd.req
    exact hr
  | true =>
    apply Rd.peekIs (v := true) (.t rfl)
    simp only [↓reduceIte, P.bind_assoc]
    apply Rd.pop
    apply Rd.req
    exact hr

/-- An index type and not the keyword's text, so that the proof of `Rd.topKw` evaluates only the string comparisons the
two dispatchers make (each evaluated comparison of literals is dear), not those of a third, string-valued case
distinction. -/
inductive TopKw where
  | func | method | test | enum | struct | imp

def TopKw.text : TopKw → String
  | .func => "fun" | .method => "method" | .test => "test" | .enum => "enum" | .struct => "struct" | .imp => "import"

/-- What `parse_toplevel_item_from_tokens` and `parse_definition` come to on a definition keyword, `public` skipped. -/
def TopKw.parser (toks : Toks) : TopKw → Nat → P (Option Item)
  | .func, fuel => parseFunction toks false fuel
  | .method, fuel => do let m ← parseMethod toks false fuel; pure (some m)
  | .test, fuel => do let m ← parseTest toks false fuel; pure (some m)
  | .enum, fuel => do let m ← parseEnum toks false fuel; pure (some m)
  | .struct, fuel => do let m ← parseStruct toks false fuel; pure (some m)
  | .imp, _ => parseImport toks false

/-- The two dispatchers look at up to three tokens: `public`, the keyword, and for `fun` the token after it (not `(`). -/
theorem Rd.topKw {Q : Option Item → Nat → Prop} {first pub : Bool} (kw : TopKw) {x : String} {tx : Bool}
    (hpub : pub = true → kw ≠ .test ∧ kw ≠ .imp) (hx : kw = .func → x ≠ "(")
    (h : Rd toks N C (kw.parser toks) (pubTok first pub kw.text ++ .t x tx :: A) F Q) :
    Rd toks N C (parseToplevelItem toks false) (pubTok first pub kw.text ++ .t x tx :: A) F Q := by
  intro fuel rest d hf hD hfo hl
  refine ok_rw ?_ (h fuel rest d hf hD hfo hl)
  cases pub with
  | false =>
    rw [show pubTok first false kw.text ++ .t x tx :: A = .t kw.text first :: .t x tx :: A from rfl, Cur.lex_t, Cur.lex_t] at hD
    cases kw with
    | func => rw [toplevel_def toks false fuel C.i d _ _ hD.head hD.tail.head rfl, if_pos (by simpa [TopKw.text] using hx rfl)]; rfl
    | _ => rw [toplevel_def toks false fuel C.i d _ _ hD.head hD.tail.head rfl]; rfl
  | true =>
    rw [show pubTok first true kw.text ++ .t x tx :: A = .t "public" first :: .t kw.text false :: .t x tx :: A from rfl, Cur.lex_t,
      Cur.lex_t, Cur.lex_t] at hD
    rw [toplevel_def toks false fuel C.i d _ _ hD.head hD.tail.head rfl]
    cases kw with
    | func => rw [if_neg (by simp), if_pos (by rw [hD.tail.tail.head]; simpa [TopKw.text] using hx rfl)]; rfl
    | test => exact absurd rfl (hpub rfl).1
    | imp => exact absurd rfl (hpub rfl).2
    | _ => rfl

end

def IStopT : Item → Fw
  | .expr e => StopT (endsDot e) true
  | .importI _ none => NotTok "as"
  | _ => fun _ => True

def ItemRd (it : Item) (n : Nat) : Prop :=
  ∀ toks C first, Rd toks n C (parseToplevelItem toks false) (printItem first it) (IStopT it) fun r _ => r = some it

theorem IStopT.none {it : Item} : IStopT it none := by
  cases it with
  | expr e => exact fun _ h => nomatch h
  | importI p al =>
    cases al with
    | none => rfl
    | some a => trivial
  | _ => trivial

theorem IStopT.tk {it : Item} {s : String} {l : Nat} (hs : s ∉ istopSet) (hd : ∀ e, it = .expr e → endsDot e = true → s ≠ "(") :
    IStopT it (some (tk s false l)) := by
  cases it with
  | expr e => exact StopT.tk hs (fun h => nomatch h) (hd e rfl)
  | importI p al =>
    cases al with
    | none => exact beq_eq_false_iff_ne.mpr fun (h : s = "as") => hs (h ▸ by decide)
    | some a => trivial
  | _ => trivial

theorem item_func {pub : Bool} {name : String} {tps : List String} {ps : List Param} {r : Option TypeHint}
    {es : List Expr} {nb : Nat} (vn : ValidName name) (wf : WTF tps ps r) (hb : Blk es nb) :
    ∃ n, ItemRd (.func pub name (.mk tps ps r (.mk es))) n := by
  obtain ⟨nh, hh⟩ := funHead_rd wf
  apply Exists.intro; intro toks C first
  rw [show printItem first (.func pub name (.mk tps ps r (.mk es))) = pubTok first pub "fun" ++ (.t name false :: (printTParams tps ++
    (printParams ps ++ (printHintOpt r ++ (printBlock (.mk es) ++ []))))) by simp [printItem, printFun, w], printBlock_eq]
  apply Rd.topKw .func (fun _ => ⟨nofun, nofun⟩) (fun _ => ne_of_class vn.sym (by decide))
  unfold TopKw.parser parseFunction
  apply Rd.pubKw (by decide)
  apply Rd.sym vn
  simp only [notKwPh vn, Bool.false_eq_true, ↓reduceIte]
  apply hh
  · exact fun _ _ => .of_text (.inr (.inr (.inr rfl)))
  apply Rd.bind (hb toks _ false)
  · exact fun _ _ => trivial
  intro body hbody
  exact .pure (by simp [PBlock.block, hbody.1])

theorem item_method {pub : Bool} {name recv : String} {rh : TypeHint} {tps : List String} {ps : List Param}
    {r : Option TypeHint} {es : List Expr} {nb : Nat} (vn : ValidName name) (wf : WTF tps (⟨recv, some rh⟩ :: ps) r)
    (hb : Blk es nb) : ∃ n, ItemRd (.method pub name recv rh (.mk tps ps r (.mk es))) n := by
  obtain ⟨n1, h1⟩ := tparams_rd tps wf.tpsOk
  obtain ⟨n2, h2⟩ := params_rd _ wf.psOk wf.dup
  obtain ⟨n3, h3⟩ := hintOpt_rd wf.ret
  apply Exists.intro; intro toks C first
  rw [show printItem first (.method pub name recv rh (.mk tps ps r (.mk es))) = pubTok first pub "method" ++ (.t name false ::
    (printTParams tps ++ (printParams (⟨recv, some rh⟩ :: ps) ++ (printHintOpt r ++ (printBlock (.mk es) ++ []))))) by
    simp [printItem, printFun, w], printBlock_eq]
  apply Rd.topKw .method (fun _ => ⟨nofun, nofun⟩) nofun
  unfold TopKw.parser parseMethod
  simp only [P.bind_assoc]
  apply Rd.pubKw (by decide)
  apply Rd.sym vn
  apply Rd.bind (h1 toks _)
  · exact fun _ _ => rfl
  intro a ha
  apply Rd.bind (h2 toks _)
  · exact fun _ _ => trivial
  intro b hb'
  simp only [hb', P.pure_bind]
  apply Rd.bind (h3 toks _)
  · exact fun _ _ => .of_text (.inr (.inr (.inr rfl)))
  intro c hc
  apply Rd.bind (hb toks _ false)
  · exact fun _ _ => trivial
  intro body hbody
  exact .pure (by simp [PBlock.block, hbody.1, ha, hc])

theorem item_test {name : String} {es : List Expr} {nb : Nat} (vn : ValidName name) (hb : Blk es nb) :
    ∃ n, ItemRd (.test name (.mk es)) n := by
  apply Exists.intro; intro toks C first
  rw [show printItem first (.test name (.mk es)) = pubTok first false "test" ++ (.t name false :: (printBlock (.mk es) ++ [])) by
    simp [printItem, pubTok, w], printBlock_eq]
  apply Rd.topKw (pub := false) .test nofun nofun
  unfold TopKw.parser parseTest
  simp only [P.bind_assoc]
  apply Rd.req
  apply Rd.sym vn
  apply Rd.peekIs (v := false) (.t rfl)
  simp only [Bool.false_eq_true, ↓reduceIte, P.pure_bind, P.bind_assoc]
  apply Rd.bind (hb toks _ false)
  · exact fun _ _ => trivial
  intro body hbody
  exact .pure (by simp [PBlock.block, hbody.1])

structure VariantOK (v : Variant) : Prop where
  name : ValidName v.name
  payload : ∀ h, v.payload = some h → WTH h

theorem enumBodyLoop_rd (vs : List Variant) (hok : ∀ v ∈ vs, VariantOK v) :
    ∃ N, ∀ toks C acc, Rd toks N C (fun k => enumBodyLoop toks false k acc) (vs.flatMap printVariant ++ [.nl]) (Closes "}")
      fun r _ => r = acc ++ vs := by
  induction vs with
  | nil =>
    apply Exists.intro; intro toks C acc
    apply Rd.succ (enumBodyLoop.eq_2 toks false acc)
    exact .peekIs (A := [.nl]) (v := true) (fun _ h _ => h) (.nl (.pure (by simp)))
  | cons v r ih =>
    obtain ⟨vn, pl⟩ := v
    have hv := hok _ (List.mem_cons_self ..)
    obtain ⟨N, hN⟩ := ih fun x hx => hok x (List.mem_cons_of_mem _ hx)
    cases pl with
    | none =>
      apply Exists.intro; intro toks C acc
      rw [show (⟨vn, none⟩ :: r).flatMap printVariant ++ [.nl] = .nl :: .t vn false :: .t "," true :: (r.flatMap printVariant ++ [.nl]) by
        simp [printVariant, w, g]]
      apply Rd.succ (enumBodyLoop.eq_2 toks false acc)
      apply Rd.nl
      apply Rd.peekIs (v := false) (.t (hv.name.beq_nonsym (by decide)))
      apply Rd.getIdx
      unfold parseVariant
      simp only [P.bind_assoc]
      apply Rd.sym hv.name
      apply Rd.peekIs (v := false) (.t rfl)
      simp only [Bool.false_eq_true, ↓reduceIte, P.pure_bind]
      apply Rd.peekTok
      simp only [TokI.text, tk_text, beq_self_eq_true, ↓reduceIte]
      apply Rd.pop; apply Rd.getIdx
      simp only [Cur.tok_i, show ¬ C.nl.i + 1 + 1 ≤ C.nl.i by omega, decide_false, Bool.and_false, Bool.false_eq_true, ↓reduceIte]
      exact (hN toks _ _).conseq (by simp)
    | some h =>
      obtain ⟨nh, hnh⟩ := hint_rd (hv.payload h rfl)
      apply Exists.intro; intro toks C acc
      rw [show (⟨vn, some h⟩ :: r).flatMap printVariant ++ [.nl] = .nl :: .t vn false :: .t "(" true :: (printHint h ++
        (.t ")" true :: .t "," true :: (r.flatMap printVariant ++ [.nl]))) by simp [printVariant, w, g]]
      apply Rd.succ (enumBodyLoop.eq_2 toks false acc)
      apply Rd.nl
      apply Rd.peekIs (v := false) (.t (hv.name.beq_nonsym (by decide)))
      apply Rd.getIdx
      unfold parseVariant
      simp only [P.bind_assoc]
      apply Rd.sym hv.name
      apply Rd.peekIs (v := true) (.t rfl)
      simp only [↓reduceIte, P.bind_assoc]
      apply Rd.pop
      apply Rd.bind (hnh toks _)
      · exact fun _ _ => rfl
      intro rh hrh
      apply Rd.req
      simp only [P.pure_bind]
      apply Rd.peekTok
      simp only [TokI.text, tk_text, beq_self_eq_true, ↓reduceIte]
      apply Rd.pop; apply Rd.getIdx
      simp only [Cur.adv_i, Cur.tok_i, show ∀ k, ¬ C.nl.i + 1 + 1 + k + 1 + 1 ≤ C.nl.i by omega, decide_false, Bool.and_false,
        Bool.false_eq_true, ↓reduceIte]
      exact (hN toks _ _).conseq (by simp [hrh])

theorem item_enum {pub : Bool} {name : String} {tps : List String} {vs : List Variant} (vn : ValidName name)
    (htps : ∀ x ∈ tps, ValidName x) (hok : ∀ v ∈ vs, VariantOK v) : ∃ n, ItemRd (.enum pub name tps vs) n := by
  obtain ⟨n1, h1⟩ := tparams_rd tps htps
  obtain ⟨n2, h2⟩ := enumBodyLoop_rd vs hok
  apply Exists.intro; intro toks C first
  rw [show printItem first (.enum pub name tps vs) = pubTok first pub "enum" ++ (.t name false :: (printTParams tps ++
    (.t "{" false :: ((vs.flatMap printVariant ++ [.nl]) ++ (.t "}" false :: []))))) by simp [printItem, w]]
  apply Rd.topKw .enum (fun _ => ⟨nofun, nofun⟩) nofun
  unfold TopKw.parser parseEnum requiredTokenOk
  simp only [P.bind_assoc]
  apply Rd.pubKw (by decide)
  apply Rd.sym vn
  apply Rd.bind (h1 toks _)
  · exact fun _ _ => rfl
  intro a ha
  apply Rd.chk
  simp only [P.pure_bind, Bool.not_true, Bool.false_eq_true, ↓reduceIte, P.bind_assoc]
  apply Rd.bind (h2 toks _ [])
  · exact fun _ _ => rfl
  intro vs' hvs
  apply Rd.req
  exact .pure (by simp [ha, hvs])

structure SFieldOK (f : StructField) : Prop where
  name : ValidName f.name
  hint : WTH f.hint

theorem structFieldsLoop_rd (fs : List StructField) (hok : ∀ f ∈ fs, SFieldOK f) :
    ∃ N, ∀ toks C acc, Rd toks N C (fun k => structFieldsLoop toks false k acc) (fs.flatMap printStructField ++ [.nl]) (Closes "}")
      fun r _ => r = acc ++ fs := by
  induction fs with
  | nil =>
    apply Exists.intro; intro toks C acc
    apply Rd.succ (structFieldsLoop.eq_2 toks false acc)
    exact .peekIs (A := [.nl]) (v := true) (fun _ h _ => h) (.nl (.pure (by simp)))
  | cons f r ih =>
    have hf := hok _ (List.mem_cons_self ..)
    obtain ⟨nh, hnh⟩ := hint_rd hf.hint
    obtain ⟨N, hN⟩ := ih fun x hx => hok x (List.mem_cons_of_mem _ hx)
    apply Exists.intro; intro toks C acc
    rw [show (f :: r).flatMap printStructField ++ [.nl] = .nl :: .t f.name false :: ((.t ":" true :: printHint f.hint) ++
      (.t "," true :: (r.flatMap printStructField ++ [.nl]))) by simp [printStructField, w, g]]
    apply Rd.succ (structFieldsLoop.eq_2 toks false acc)
    apply Rd.nl
    apply Rd.peekIs (v := false) (.t (hf.name.beq_nonsym (by decide)))
    apply Rd.peekTok
    apply Rd.sym hf.name
    apply Rd.bind (colonAnd_rd hnh toks _)
    · exact fun _ _ => rfl
    intro rh hrh
    apply Rd.peekTok
    simp only [TokI.text, tk_text, beq_self_eq_true, ↓reduceIte]
    apply Rd.pop
    exact (hN toks _ _).conseq (by simp [hrh])

theorem item_struct {pub : Bool} {name : String} {tps : List String} {fs : List StructField} (vn : ValidName name)
    (htps : ∀ x ∈ tps, ValidName x) (hok : ∀ f ∈ fs, SFieldOK f) : ∃ n, ItemRd (.struct pub name tps fs) n := by
  obtain ⟨n1, h1⟩ := tparams_rd tps htps
  obtain ⟨n2, h2⟩ := structFieldsLoop_rd fs hok
  apply Exists.intro; intro toks C first
  rw [show printItem first (.struct pub name tps fs) = pubTok first pub "struct" ++ (.t name false :: (printTParams tps ++
    (.t "{" false :: ((fs.flatMap printStructField ++ [.nl]) ++ (.t "}" false :: []))))) by simp [printItem, w]]
  apply Rd.topKw .struct (fun _ => ⟨nofun, nofun⟩) nofun
  unfold TopKw.parser parseStruct requiredTokenOk
  simp only [P.bind_assoc]
  apply Rd.pubKw (by decide)
  apply Rd.sym vn
  apply Rd.bind (h1 toks _)
  · exact fun _ _ => rfl
  intro a ha
  apply Rd.chk
  simp only [P.pure_bind, Bool.not_true, Bool.false_eq_true, ↓reduceIte, P.bind_assoc]
  apply Rd.bind (h2 toks _ [])
  · exact fun _ _ => rfl
  intro fs' hfs
  apply Rd.req
  exact .pure (by simp [ha, hfs])

theorem item_import {path : String} {al : Option String} (hal : ∀ a, al = some a → ValidName a) :
    ∃ n, ItemRd (.importI path al) n := by
  apply Exists.intro; intro toks C first
  rw [show printItem first (.importI path al) = pubTok first false "import" ++ (.t (strTok path) false ::
    (match al with | none => [] | some a => [.t "as" false, .t a false])) by cases al <;> simp [printItem, pubTok, w]]
  apply Rd.topKw (pub := false) .imp nofun nofun
  unfold TopKw.parser parseImport
  apply Rd.req
  apply Rd.pop
  simp only [TokI.text, tk_text, (strFacts path).str, unescapeTok_strTok, diagN, P.pure_bind, ↓reduceIte]
  cases al with
  | none => exact .peekIs (v := false) (.nil fun _ h => h) (.pure rfl)
  | some a =>
    apply Rd.peekIs (v := true) (.t rfl)
    simp only [↓reduceIte]
    apply Rd.pop
    apply Rd.sym (hal a rfl)
    exact .pure rfl

theorem item_expr {e : Expr} {n : Nat} (he : Full true e n) (pe : PF e)
    (htop : ∀ s tl, printExpr true e = PTok.t s true :: tl → s ∉ defKw) : ∃ k, ItemRd (.expr e) k := by
  obtain ⟨s0, tl0, hp0, hb0⟩ := pe.hd
  have hk : (["fun", "method", "test", "enum", "struct", "public", "import"].contains s0) = false := by
    simpa [defKw] using htop s0 tl0 (hp0 true)
  apply Exists.intro; intro toks C first
  rw [show printItem first (.expr e) = printExpr first e ++ [] by simp [printItem]]
  unfold parseToplevelItem
  apply Rd.peekT (.text (s := s0) (by rw [hp0]; rfl)); intro t ht
  simp only [TokI.text, ht, hk, not_badFirst hb0 (show "{" ∈ badFirst by decide), Bool.false_eq_true, ↓reduceIte]
  apply Rd.bind (he toks C first)
  · exact fun _ h => h
  intro r hr
  exact .pure (by rw [hr.1])

theorem item_block {es : List Expr} {nb : Nat} (hb : Blk es nb) : ∃ n, ItemRd (.block (.mk es)) n := by
  apply Exists.intro; intro toks C first
  rw [show printItem first (.block (.mk es)) = (.t "{" first :: (printBlockItems es ++ [.nl, .t "}" false])) ++ [] by
    simp [printItem, printBlock, w]]
  unfold parseToplevelItem
  apply Rd.peekTok
  simp only [TokI.text, tk_text, show (["fun", "method", "test", "enum", "struct", "public", "import"].contains "{") = false by decide,
    beq_self_eq_true, Bool.false_eq_true, ↓reduceIte]
  apply Rd.bind (hb toks C first)
  · exact fun _ _ => trivial
  intro b hb
  exact .pure (by simp [PBlock.block, hb.1])

structure ItemOK (it : Item) : Prop where
  parse : ∃ n, ItemRd it n
  head : ∃ s tl, (∀ first, printItem first it = PTok.t s first :: tl) ∧ s ∉ istopSet
  ninv : it.isInvalidOrPlaceholder = false

theorem printItems_cons (it : Item) (r : List Item) : printItems (it :: r) = printItem true it ++ printItems.go r := by
  cases r with
  | nil => simp [printItems, printItems.go]
  | cons a r2 => simp [printItems]

/-- Adjacent items: an expression item that ends in a dot access is not followed by an item starting with `(`. -/
def IAdj : List Item → Prop
  | [] => True
  | [_] => True
  | a :: b :: r =>
    (∀ e, a = .expr e → endsDot e = true → ∀ s tl, printItem false b = PTok.t s false :: tl → s ≠ "(") ∧ IAdj (b :: r)

/-- The items after this one start with a newline. -/
theorem itemsLoop_step (it : Item) (r : List Item) (hok : ∀ x ∈ it :: r, ItemOK x) (hadj : IAdj (it :: r)) {N : Nat}
    (hN : ∀ toks C acc, Rd toks N C (fun k => itemsLoop toks false k acc) (printItems.go r) (· = none) fun x _ => x = acc ++ r) :
    ∃ N', ∀ toks C first acc, Rd toks N' C (fun k => itemsLoop toks false k acc) (printItem first it ++ printItems.go r) (· = none)
      fun x _ => x = acc ++ it :: r := by
  have hit := hok it (List.mem_cons_self ..)
  obtain ⟨n, hn⟩ := hit.parse
  obtain ⟨s0, tl0, hh0, _⟩ := hit.head
  apply Exists.intro; intro toks C first acc
  have hpos : 0 < ntok (printItem first it) := by rw [hh0]; exact Nat.succ_pos _
  apply Rd.of_lt (by rw [ntok_append]; omega); intro hlt
  apply Rd.succ (itemsLoop.eq_2 toks false acc)
  apply Rd.getIdx
  simp only [ge_iff_le, Nat.not_le.mpr hlt, ↓reduceIte]
  apply Rd.bind (hn toks C first)
  · rintro _ rfl
    cases r with
    | nil => exact .none
    | cons b r2 =>
      obtain ⟨s2, tl2, hh2, hs2⟩ := (hok b (List.mem_cons_of_mem _ (List.mem_cons_self ..))).head
      rw [show printItems.go (b :: r2) = .nl :: (printItem false b ++ printItems.go r2) from rfl, hh2]
      exact .tk hs2 fun e he hd => hadj.1 e he hd s2 tl2 (hh2 false)
  intro ro hro
  simp only [hro, hit.ninv, Bool.false_eq_true, ↓reduceIte]
  apply Rd.getIdx
  simp only [gt_iff_lt, show C.i < (C.adv (printItem first it)).i from Nat.lt_add_of_pos_right hpos, ↓reduceIte]
  exact (hN toks _ _).conseq (by simp)

theorem itemsGo_rd (its : List Item) (hok : ∀ it ∈ its, ItemOK it) (hadj : IAdj its) :
    ∃ N, ∀ toks C acc, Rd toks N C (fun k => itemsLoop toks false k acc) (printItems.go its) (· = none) fun x _ => x = acc ++ its := by
  induction its with
  | nil =>
    apply Exists.intro; intro toks C acc
    apply Rd.of_ge; intro hge
    apply Rd.succ (itemsLoop.eq_2 toks false acc)
    apply Rd.getIdx
    simp only [ge_iff_le, hge, ↓reduceIte]
    exact .pure (by simp)
  | cons it r ih =>
    obtain ⟨N, hN⟩ := ih (fun x hx => hok x (List.mem_cons_of_mem _ hx)) (by cases r with | nil => trivial | cons b r2 => exact hadj.2)
    obtain ⟨N', hN'⟩ := itemsLoop_step it r hok hadj hN
    exact ⟨N', fun toks C acc => .nl (hN' toks C.nl false acc)⟩

/-- The whole-file round trip for a list of items that parse back individually. -/
theorem items_roundtrip (its : List Item) (hok : ∀ it ∈ its, ItemOK it) (hadj : IAdj its) :
    ∃ N, ∀ fuel, N ≤ fuel →
      parseItems fuel (lexOf 0 (printItems its)) = .ok its ⟨(lexOf 0 (printItems its)).length, []⟩ := by
  have : ∃ N, ∀ toks C acc, Rd toks N C (fun k => itemsLoop toks false k acc) (printItems its) (· = none) fun x _ => x = acc ++ its := by
    cases its with
    | nil => exact itemsGo_rd [] hok hadj
    | cons it r =>
      obtain ⟨N, hN⟩ := itemsGo_rd r (fun x hx => hok x (List.mem_cons_of_mem _ hx)) (by cases r with | nil => trivial | cons b r2 => exact hadj.2)
      obtain ⟨N', hN'⟩ := itemsLoop_step it r hok hadj hN
      exact ⟨N', fun toks C acc => printItems_cons it r ▸ hN' toks C true acc⟩
  obtain ⟨N, hN⟩ := this
  refine ⟨N, fun fuel hf => ?_⟩
  obtain ⟨r, s', h1, h2, h3⟩ := hN (lexOf 0 (printItems its)) ⟨0, false, 0⟩ [] fuel [] [] hf (by simp [D, Cur.lex, lexOf]) rfl
    (fun _ _ h => nomatch h)
  rw [h2, h3] at h1
  simpa [parseItems, parseItemsCfg, Cur.adv, lexOf, length_lexAux] using h1

/-- Syntactic position: an operand (`closed`), an operator chain (`chain`), a statement form (`stmt`:
`let`, assignment, `return`), a complete expression (`full`). -/
inductive Kind where
  | closed | chain | stmt | full

/-- The expression trees covered by the machine-checked round trip: every constructor of `Expr` except
`invalid` (see the header of this file for the side conditions and why they are there). -/
inductive WT : Kind → Expr → Prop
  | int {i : Int} : I64 i → WT .closed (.intLit i)
  | float {s : String} : FloatTok s → WT .closed (.floatLit s)
  | str {s : String} : WT .closed (.strLit s)
  | var {x : String} : ValidName x → WT .closed (.var x)
  | call {f : Expr} {args : List Expr} : WT .closed f → endsDot f = false →
      (∀ a ∈ args, WT .full a) → WT .closed (.call f args)
  | mcall {r : Expr} {m : String} {args : List Expr} : WT .closed r → ValidName m →
      (∀ a ∈ args, WT .full a) → WT .closed (.mcall r m args)
  | dot {r : Expr} {f : String} : WT .closed r → ValidName f → WT .closed (.dot r f)
  | ns {r : Expr} {f : String} : WT .closed r → ValidName f → WT .closed (.ns r f)
  | paren {e : Expr} : WT .full e → WT .closed (.paren e)
  | list {items : List Expr} : (∀ a ∈ items, WT .full a) → WT .closed (.list items)
  | tuple {items : List Expr} : (∀ a ∈ items, WT .full a) → WT .closed (.tuple items)
  | dict {kvs : List KV} : (∀ k v, KV.mk k v ∈ kvs → WT .full k) →
      (∀ k v, KV.mk k v ∈ kvs → WT .full v) → WT .closed (.dict kvs)
  | structLit {n : String} {fs : List Field} : ValidName n → (∀ f e, Field.mk f e ∈ fs → ValidName f) →
      (∀ f e, Field.mk f e ∈ fs → WT .full e) → WT .closed (.structLit n fs)
  | lambda {ps : List Param} {r : Option TypeHint} {es : List Expr} : WTF [] ps r →
      (∀ e ∈ es, WT .full e) → Adj es → WT .closed (.lambda (.mk [] ps r (.mk es)))
  | assertE {e : Expr} : WT .full e → WT .closed (.assertE e)
  | brk : WT .closed .brk
  | cont : WT .closed .cont
  | whileE {c : Expr} {es : List Expr} : WT .full c → (∀ e ∈ es, WT .full e) → Adj es →
      WT .closed (.whileE c (.mk es))
  | forIn {dst : LetDest} {c : Expr} {es : List Expr} : WTD dst → WT .full c →
      (∀ e ∈ es, WT .full e) → Adj es → WT .closed (.forIn dst c (.mk es))
  | ifNone {c : Expr} {es : List Expr} : WT .full c → (∀ e ∈ es, WT .full e) → Adj es →
      WT .closed (.ifE c (.mk es) none)
  | ifSome {c : Expr} {es es2 : List Expr} : WT .full c → (∀ e ∈ es, WT .full e) → Adj es →
      (∀ e ∈ es2, WT .full e) → Adj es2 → WT .closed (.ifE c (.mk es) (some (.mk es2)))
  | matchE {s : Expr} {cases : List Case} : WT .full s →
      (∀ p es, Case.mk p (.mk es) ∈ cases → WTPat p ∧ Adj es) →
      (∀ p es e, Case.mk p (.mk es) ∈ cases → e ∈ es → WT .full e) → WT .closed (.matchE s cases)
  | tryE {es es2 : List Expr} {x : String} : (∀ e ∈ es, WT .full e) → Adj es → ValidName x →
      (∀ e ∈ es2, WT .full e) → Adj es2 → WT .closed (.tryE (.mk es) x (.mk es2))
  | ofClosed {e : Expr} : WT .closed e → WT .chain e
  | binop {l r : Expr} {op : String} : WT .chain l → gardenBinaryOps.contains op = true → WT .closed r →
      WT .chain (.binop l op r)
  | ofChain {e : Expr} : WT .chain e → WT .full e
  | letE {dst : LetDest} {h : Option TypeHint} {e : Expr} : WTD dst → WTHO h → WT .full e →
      WT .stmt (.letE dst h e)
  | assign {x : String} {e : Expr} : ValidName x → WT .full e → WT .stmt (.assign x e)
  | update {op x : String} {e : Expr} : (op = "+=" ∨ op = "-=") → ValidName x → WT .full e →
      WT .stmt (.update op x e)
  | retNone : WT .stmt (.ret none)
  | retSome {e : Expr} : WT .full e → WT .stmt (.ret (some e))
  | ofStmt {e : Expr} : WT .stmt e → WT .full e
  | binopStmt {l r : Expr} {op : String} : WT .chain l → gardenBinaryOps.contains op = true → WT .stmt r →
      WT .full (.binop l op r)

def Goal : Kind → Expr → Prop
  | .closed, e => ∃ n, Opd true true e n
  | .chain, e => ∃ n, Opd false true e n
  | .stmt, e => ∃ n, Stmt true e n
  | .full, e => ∃ n, Full true e n

def NoTail : Kind → Expr → Prop
  | .full, _ => True
  | .stmt, _ => True
  | _, e => tailRet e = false

theorem blk_of {es : List Expr} (hadj : Adj es) (ih : ∀ e ∈ es, PF e ∧ NoTail .full e ∧ Goal .full e) : ∃ n, Blk es n :=
  block_rd es true (fun e he => (ih e he).2.2) (fun e he => (ih e he).1) hadj

theorem wt_all {k : Kind} {e : Expr} (h : WT k e) : PF e ∧ NoTail k e ∧ Goal k e := by
  induction h with
  | int hi => exact ⟨pf_int hi.tok, rfl, _, .of_atom (atom_int hi.tok)⟩
  | float hs => exact ⟨pf_float hs, rfl, _, .of_atom (atom_float hs)⟩
  | @str s => exact ⟨pf_str s, rfl, _, .of_atom (atom_str s)⟩
  | var hx => exact ⟨pf_var hx, rfl, _, .of_atom (atom_var hx)⟩
  | call _ hnd _ ihf iha =>
    obtain ⟨pf, tf, nf, hf⟩ := ihf
    obtain ⟨na, ha⟩ := callArgs_rd _ true (fun a h => (iha a h).2.2) fun a h => (iha a h).1
    exact ⟨pf_call pf, rfl, _, opd_call hf pf tf hnd ha⟩
  | mcall _ hm _ ihr iha =>
    obtain ⟨pr, tr, nr, hr⟩ := ihr
    obtain ⟨na, ha⟩ := callArgs_rd _ true (fun a h => (iha a h).2.2) fun a h => (iha a h).1
    exact ⟨pf_mcall pr, rfl, _, opd_mcall hr hm ha⟩
  | dot _ hf ih =>
    obtain ⟨pr, tr, nr, hr⟩ := ih
    exact ⟨pf_dot pr, rfl, _, opd_dot hr hf⟩
  | ns _ hf ih =>
    obtain ⟨pr, tr, nr, hr⟩ := ih
    exact ⟨pf_ns pr, rfl, _, opd_ns hr hf⟩
  | paren _ ih =>
    obtain ⟨pe, te, n, he⟩ := ih
    exact ⟨pf_paren, rfl, Opd.of_atoms (atom_paren he pe)⟩
  | list _ iha => exact ⟨pf_list, rfl, Opd.of_atoms (atom_list (fun a h => (iha a h).2.2) fun a h => (iha a h).1)⟩
  | tuple _ iha => exact ⟨pf_tuple, rfl, Opd.of_atoms (atom_tuple (fun a h => (iha a h).2.2) fun a h => (iha a h).1)⟩
  | dict _ _ ihk ihv =>
    exact ⟨pf_dict, rfl, Opd.of_atoms (atom_dict (fun k v h => ⟨(ihk k v h).2.2, (ihv k v h).2.2⟩)
      fun k v h => (ihk k v h).1)⟩
  | structLit vn hfn _ ihe =>
    exact ⟨pf_struct vn, rfl, Opd.of_atoms (atom_struct vn hfn fun f e h => (ihe f e h).2.2)⟩
  | lambda wf _ hadj ihb => exact (blk_of hadj ihb).elim fun _ hb => ⟨pf_lambda, rfl, Opd.of_atoms (atom_lambda wf hb)⟩
  | assertE _ ih =>
    obtain ⟨pe, te, n, he⟩ := ih
    exact ⟨pf_assert, rfl, Opd.of_atoms (atom_assert he pe)⟩
  | brk => exact ⟨pf_brk, rfl, _, .of_atom atom_brk⟩
  | cont => exact ⟨pf_cont, rfl, _, .of_atom atom_cont⟩
  | whileE _ _ hadj ihc ihb =>
    obtain ⟨pc, tc, nc, hc⟩ := ihc
    exact (blk_of hadj ihb).elim fun _ hb => ⟨pf_while, rfl, Opd.of_atoms (atom_while hc pc hb)⟩
  | forIn wd _ _ hadj ihc ihb =>
    obtain ⟨pc, tc, nc, hc⟩ := ihc
    exact (blk_of hadj ihb).elim fun _ hb => ⟨pf_for, rfl, Opd.of_atoms (atom_for wd hc hb)⟩
  | ifNone _ _ hadj ihc ihb =>
    obtain ⟨pc, tc, nc, hc⟩ := ihc
    exact (blk_of hadj ihb).elim fun _ hb => ⟨pf_if_none, rfl, Opd.of_atoms (atom_if_none hc pc hb)⟩
  | ifSome _ _ hadj _ hadj2 ihc ihb ihb2 =>
    obtain ⟨pc, tc, nc, hc⟩ := ihc
    exact (blk_of hadj ihb).elim fun _ hb => (blk_of hadj2 ihb2).elim fun _ hb2 =>
      ⟨pf_if_some, rfl, Opd.of_atoms (atom_if_some hc pc hb hb2)⟩
  | matchE _ hpat _ ihs ihc =>
    obtain ⟨ps, ts, ns, hs⟩ := ihs
    exact ⟨pf_match, rfl, Opd.of_atoms (atom_match hs ps fun p es h => ⟨(hpat p es h).1, blk_of (hpat p es h).2 (ihc p es · h)⟩)⟩
  | tryE _ hadj vx _ hadj2 ihb ihb2 =>
    exact (blk_of hadj ihb).elim fun _ hb => (blk_of hadj2 ihb2).elim fun _ hb2 => ⟨pf_try, rfl, Opd.of_atoms (atom_try hb vx hb2)⟩
  | ofClosed _ ih =>
    obtain ⟨pe, te, n, he⟩ := ih
    exact ⟨pe, te, n, he.chain⟩
  | binop _ hop _ ihl ihr =>
    obtain ⟨pl, tl, nl, hl⟩ := ihl
    obtain ⟨pr, tr, nr, hr⟩ := ihr
    exact ⟨pf_binop pl pr, tr, _, opd_binop hl hr pr hop⟩
  | ofChain _ ih =>
    obtain ⟨pe, te, n, he⟩ := ih
    exact ⟨pe, trivial, _, Full.of_opd he⟩
  | letE wd wh _ ih =>
    obtain ⟨pe, te, n, he⟩ := ih
    exact ⟨pf_let' pe, trivial, stmt_let wd wh he⟩
  | assign hx _ ih =>
    obtain ⟨pe, te, n, he⟩ := ih
    exact ⟨pf_assign hx pe, trivial, stmt_assign hx he⟩
  | update hop hx _ ih =>
    obtain ⟨pe, te, n, he⟩ := ih
    exact ⟨pf_update hx pe, trivial, stmt_update hop hx he⟩
  | retNone => exact ⟨pf_ret_none, trivial, stmt_ret_none⟩
  | retSome _ ih =>
    obtain ⟨pe, te, n, he⟩ := ih
    exact ⟨pf_ret_some pe, trivial, stmt_ret_some he pe⟩
  | ofStmt _ ih =>
    obtain ⟨pe, _, n, he⟩ := ih
    exact ⟨pe, trivial, n, he.full⟩
  | binopStmt _ hop _ ihl ihr =>
    obtain ⟨pl, tl, nl, hl⟩ := ihl
    obtain ⟨pr, _, nr, hr⟩ := ihr
    exact ⟨pf_binop pl pr, trivial, _, full_binop_stmt hl hr pr hop⟩

theorem blk_wt {es : List Expr} (h : ∀ e ∈ es, WT .full e) (hadj : Adj es) : ∃ n, Blk es n :=
  blk_of hadj fun e he => wt_all (h e he)

/-- The items covered by the round trip: every constructor of `Item`. -/
inductive WTI : Item → Prop
  | func {pub : Bool} {name : String} {tps : List String} {ps : List Param} {r : Option TypeHint} {es : List Expr} :
      ValidName name → WTF tps ps r → (∀ e ∈ es, WT .full e) → Adj es →
      WTI (.func pub name (.mk tps ps r (.mk es)))
  | method {pub : Bool} {name recv : String} {rh : TypeHint} {tps : List String} {ps : List Param}
      {r : Option TypeHint} {es : List Expr} :
      ValidName name → WTF tps (⟨recv, some rh⟩ :: ps) r → (∀ e ∈ es, WT .full e) → Adj es →
      WTI (.method pub name recv rh (.mk tps ps r (.mk es)))
  | test {name : String} {es : List Expr} : ValidName name → (∀ e ∈ es, WT .full e) → Adj es →
      WTI (.test name (.mk es))
  | enum {pub : Bool} {name : String} {tps : List String} {vs : List Variant} : ValidName name →
      (∀ x ∈ tps, ValidName x) → (∀ v ∈ vs, VariantOK v) → WTI (.enum pub name tps vs)
  | struct {pub : Bool} {name : String} {tps : List String} {fs : List StructField} : ValidName name →
      (∀ x ∈ tps, ValidName x) → (∀ f ∈ fs, SFieldOK f) → WTI (.struct pub name tps fs)
  | importI {path : String} {al : Option String} : (∀ a, al = some a → ValidName a) → WTI (.importI path al)
  | expr {e : Expr} : WT .full e → (∀ s tl, printExpr true e = PTok.t s true :: tl → s ∉ defKw) → WTI (.expr e)
  | block {es : List Expr} : (∀ e ∈ es, WT .full e) → Adj es → WTI (.block (.mk es))

theorem pubTok_head (pub : Bool) (kw : String) (hk : kw ∉ istopSet) (X : List PTok) :
    ∃ s tl, (∀ first, pubTok first pub kw ++ X = PTok.t s first :: tl) ∧ s ∉ istopSet := by
  cases pub with
  | false => exact ⟨kw, X, fun first => by simp [pubTok], hk⟩
  | true => exact ⟨"public", w kw :: X, fun first => by simp [pubTok], by decide⟩

theorem wti_ok {it : Item} (h : WTI it) : ItemOK it := by
  cases h with
  | @func pub name tps ps r es vn wf hb hadj =>
    refine ⟨(blk_wt hb hadj).elim fun _ hnb => item_func vn wf hnb, ?_, vn.notPh⟩
    obtain ⟨s, tl, h1, h2⟩ := pubTok_head pub "fun" (by decide) ([w name] ++ printFun (.mk tps ps r (.mk es)))
    exact ⟨s, tl, fun first => by rw [← h1 first]; simp [printItem], h2⟩
  | @method pub name recv rh tps ps r es vn wf hb hadj =>
    refine ⟨(blk_wt hb hadj).elim fun _ hnb => item_method vn wf hnb, ?_, vn.notPh⟩
    obtain ⟨s, tl, h1, h2⟩ := pubTok_head pub "method" (by decide)
      ([w name] ++ printFun (.mk tps (⟨recv, some rh⟩ :: ps) r (.mk es)))
    exact ⟨s, tl, fun first => by rw [← h1 first]; simp [printItem], h2⟩
  | @test name es vn hb hadj =>
    refine ⟨(blk_wt hb hadj).elim fun _ hnb => item_test vn hnb, ?_, vn.notPh⟩
    exact ⟨"test", _, fun first => by simp only [printItem, List.cons_append]; rfl, by decide⟩
  | @enum pub name tps vs vn htps hvs =>
    refine ⟨item_enum vn htps hvs, ?_, vn.notPh⟩
    obtain ⟨s, tl, h1, h2⟩ := pubTok_head pub "enum" (by decide)
      ([w name] ++ printTParams tps ++ [w "{"] ++ vs.flatMap printVariant ++ [PTok.nl, w "}"])
    exact ⟨s, tl, fun first => by rw [← h1 first]; simp [printItem], h2⟩
  | @struct pub name tps fs vn htps hfs =>
    refine ⟨item_struct vn htps hfs, ?_, vn.notPh⟩
    obtain ⟨s, tl, h1, h2⟩ := pubTok_head pub "struct" (by decide)
      ([w name] ++ printTParams tps ++ [w "{"] ++ fs.flatMap printStructField ++ [PTok.nl, w "}"])
    exact ⟨s, tl, fun first => by rw [← h1 first]; simp [printItem], h2⟩
  | @importI path al hal =>
    refine ⟨item_import hal, ?_, rfl⟩
    cases al <;> exact ⟨"import", _, fun first => by simp only [printItem]; rfl, by decide⟩
  | @expr e he htop =>
    obtain ⟨pe, _, n, hn⟩ := wt_all he
    refine ⟨item_expr hn pe htop, ?_, pe.ninv⟩
    obtain ⟨s, tl, h1, h2⟩ := pe.hd
    exact ⟨s, tl, fun first => by simp [printItem, h1], fun hm => h2 (istop_sub_bad s hm)⟩
  | @block es hb hadj =>
    refine ⟨(blk_wt hb hadj).elim fun _ hnb => item_block hnb, ?_, rfl⟩
    exact ⟨"{", printBlockItems es ++ [PTok.nl, w "}"], fun first => by simp [printItem, printBlock, w], by decide⟩

end RT


namespace C33
open Parse Print ParseLemmas RT

/-- **Round trip for expressions and statements.** For every well-formed tree `e` (`RT.WT`, every node
kind) in a complete-expression position, in every token context (`toks.drop i` = the lexed canonical text of `e`
followed by `rest`, where `rest` does not continue the expression: `RT.Stop`), for every fuel above a
bound depending only on `e`: `parse_expression` returns exactly `e`, consumes exactly its tokens and
emits no diagnostic. -/
theorem parse_print_stmt {e : Expr} (h : WT .full e) :
    ∃ n, ∀ (fuel ln : Nat) (first : Bool) (i : Nat) (rest : List Tok) (d : List DiagKind) (toks : Toks),
      n ≤ fuel → toks.drop i = lexAux false ln (printExpr first e) ++ rest → Stop e ln rest →
      ∃ r, parseExpression toks false fuel ⟨i, d⟩ = .ok r ⟨i + (lexAux false ln (printExpr first e)).length, d⟩ ∧
        r.e = e := by
  obtain ⟨pe, _, n, hn⟩ := wt_all h
  refine ⟨n, ?_⟩
  intro fuel ln first i rest d toks hf hD hs
  obtain ⟨r, s', h1, h2, _, rfl⟩ := hn.fu pe fuel ln first i rest d toks hf hD hs
  exact ⟨r, h1, h2⟩

/-- The same for a whole text: index 0, nothing after, no diagnostics at all. -/
theorem parse_print_stmt_whole {e : Expr} (h : WT .full e) :
    ∃ n, ∀ fuel, n ≤ fuel →
      ∃ r, parseExpression (lexOf 0 (printExpr true e)) false fuel ⟨0, []⟩ =
        .ok r ⟨(lexOf 0 (printExpr true e)).length, []⟩ ∧ r.e = e := by
  obtain ⟨n, hn⟩ := parse_print_stmt h
  refine ⟨n, fun fuel hf => ?_⟩
  have := hn fuel 0 true 0 [] [] (lexOf 0 (printExpr true e)) hf (by simp [lexOf]) (by intro t ht; simp at ht)
  simpa [lexOf] using this

/-- **Blocks**: `{`, the items each on its own line, `}` parse back to exactly the items. -/
theorem parse_print_block (es : List Expr) (h : ∀ e ∈ es, WT .full e) (hadj : Adj es) :
    ∃ n, ∀ (fuel ln i : Nat) (rest : List Tok) (d : List DiagKind) (toks : Toks),
      n ≤ fuel → toks.drop i = lexAux false ln (printBlock (.mk es)) ++ rest →
      ∃ r, parseBlock toks false fuel ⟨i, d⟩ = .ok r ⟨i + (lexAux false ln (printBlock (.mk es))).length, d⟩ ∧
        r.exprs = es := by
  obtain ⟨N, hN⟩ := blk_wt h hadj
  refine ⟨N, fun fuel ln i rest d toks hf hD => ?_⟩
  rw [printBlock_eq] at hD ⊢
  obtain ⟨r, s', h1, h2, rfl⟩ := hN toks ⟨i, false, ln⟩ false fuel rest d hf hD trivial
    (fun hb => by simp [Cur.adv, fl, fl_append] at hb)
  exact ⟨r, h1.trans (by simp [Cur.adv, length_lexAux]), h2.1⟩

/-- **C33, main theorem (whole files, whole grammar).** For every list of well-formed top-level items (`RT.WTI`:
functions, methods, tests, enums, structs, imports, expression items and blocks, whose expressions are
`RT.WT` trees of any node kind) with `RT.IAdj`, for every fuel above a bound depending only on the
items: lexing the canonical text of the items and parsing it returns exactly the items, consumes every
token and emits no diagnostic. -/
theorem parse_print (its : List Item) (h : ∀ it ∈ its, WTI it) (hadj : IAdj its) :
    ∃ N, ∀ fuel, N ≤ fuel →
      parseItems fuel (lexOf 0 (printItems its)) = .ok its ⟨(lexOf 0 (printItems its)).length, []⟩ :=
  items_roundtrip its (fun it hit => wti_ok (h it hit)) hadj

local macro "vname" : tactic => `(tactic| exact ⟨by decide, by decide, by decide, by decide⟩)
local macro "i64" : tactic => `(tactic| exact ⟨by decide, by decide⟩)

/-- ```
import "lib.gdn" as lib
public struct Point { x: Int, ys: List<Int>, }
enum Opt<T> { Some(T), None, }
public fun f<T>(a: Opt<T>, b): (Int, T) {
  let (p, q) = (1, 2)
  let g: Fun = fun(z: Int) { z * -2 }
  for (i, v) in [p, q].enumerate() { continue }
  match a { Some(x) => { return (g(p), x) }, None => { lib::fail("none\\") }, }
  try { Point{ x: 1, ys: [], } } catch (e) { Dict["k" => 1.5, ] }
  p + q = 1
  g(return
  )
  return
}
method len(this: Point): Int { this.x }
test t { assert(f(1, 2) == 3) }
f(1, 2)
{ break }
``` -/
def demo : List Item :=
  [ .importI "lib.gdn" (some "lib"),
    .struct true "Point" [] [⟨"x", .mk "Int" []⟩, ⟨"ys", .mk "List" [.mk "Int" []]⟩],
    .enum false "Opt" ["T"] [⟨"Some", some (.mk "T" [])⟩, ⟨"None", none⟩],
    .func true "f" (.mk ["T"] [⟨"a", some (.mk "Opt" [.mk "T" []])⟩, ⟨"b", none⟩]
      (some (.mk "Tuple" [.mk "Int" [], .mk "T" []]))
      (.mk [ .letE (.destr ["p", "q"]) none (.tuple [.intLit 1, .intLit 2]),
             .letE (.sym "g") (some (.mk "Fun" []))
               (.lambda (.mk [] [⟨"z", some (.mk "Int" [])⟩] none (.mk [.binop (.var "z") "*" (.intLit (-2))]))),
             .forIn (.destr ["i", "v"]) (.mcall (.list [.var "p", .var "q"]) "enumerate" []) (.mk [.cont]),
             .matchE (.var "a")
               [ .mk ⟨"Some", some (.sym "x")⟩ (.mk [.ret (some (.tuple [.call (.var "g") [.var "p"], .var "x"]))]),
                 .mk ⟨"None", none⟩ (.mk [.call (.ns (.var "lib") "fail") [.strLit "none\\"]]) ],
             .tryE (.mk [.structLit "Point" [.mk "x" (.intLit 1), .mk "ys" (.list [])]]) "e"
               (.mk [.dict [.mk (.strLit "k") (.floatLit "1.5")]]),
             .binop (.var "p") "+" (.assign "q" (.intLit 1)),
             .call (.var "g") [.ret none],
             .ret none ])),
    .method false "len" "this" (.mk "Point" []) (.mk [] [] (some (.mk "Int" [])) (.mk [.dot (.var "this") "x"])),
    .test "t" (.mk [.assertE (.binop (.call (.var "f") [.intLit 1, .intLit 2]) "==" (.intLit 3))]),
    .expr (.call (.var "f") [.intLit 1, .intLit 2]),
    .block (.mk [.brk]) ]

theorem forall_mem_one {α} {P : α → Prop} {a : α} (ha : P a) : ∀ x ∈ [a], P x :=
  List.forall_mem_cons.mpr ⟨ha, fun _ h => nomatch h⟩

theorem forall_mem_two {α} {P : α → Prop} {a b : α} (ha : P a) (hb : P b) : ∀ x ∈ [a, b], P x :=
  List.forall_mem_cons.mpr ⟨ha, forall_mem_one hb⟩

theorem demo_wf : (∀ it ∈ demo, WTI it) ∧ IAdj demo := by
  have : ValidName "lib" := by vname
  have : ValidName "Point" := by vname
  have vx : ValidName "x" := by vname
  have : ValidName "ys" := by vname
  have : ValidName "Int" := by vname
  have : ValidName "List" := by vname
  have : ValidName "Opt" := by vname
  have : ValidName "T" := by vname
  have : ValidName "Some" := by vname
  have : ValidName "None" := by vname
  have vf : ValidName "f" := by vname
  have va : ValidName "a" := by vname
  have : ValidName "b" := by vname
  have vp : ValidName "p" := by vname
  have vq : ValidName "q" := by vname
  have vg : ValidName "g" := by vname
  have : ValidName "Fun" := by vname
  have : ValidName "z" := by vname
  have : ValidName "i" := by vname
  have : ValidName "v" := by vname
  have : ValidName "enumerate" := by vname
  have : ValidName "fail" := by vname
  have : ValidName "e" := by vname
  have : ValidName "this" := by vname
  have : ValidName "len" := by vname
  have : ValidName "t" := by vname
  have hInt : WTH (.mk "Int" []) := .named (by assumption) (by decide) (fun _ h => nomatch h)
  have hT : WTH (.mk "T" []) := .named (by assumption) (by decide) (fun _ h => nomatch h)
  have cl : ∀ {e : Expr}, WT .closed e → WT .full e := fun h => .ofChain (.ofClosed h)
  have one : WT .full (.intLit 1) := cl (.int (by i64))
  have hcall : WT .closed (.call (.var "f") [.intLit 1, .intLit 2]) :=
    .call (.var vf) rfl (forall_mem_two one (cl (.int (by i64))))
  refine ⟨?_, ?_⟩
  · intro it hit
    simp [demo] at hit
    rcases hit with rfl | rfl | rfl | rfl | rfl | rfl | rfl | rfl
    · exact .importI (by intro a ha; cases ha; assumption)
    · exact .struct (by assumption) (fun _ h => nomatch h) (forall_mem_two ⟨(by assumption), hInt⟩
        ⟨(by assumption), .named (by assumption) (by decide) (forall_mem_one hInt)⟩)
    · exact .enum (by assumption) (forall_mem_one (by assumption)) (forall_mem_two
        ⟨(by assumption), (by intro h hh; cases hh; exact hT)⟩ ⟨(by assumption), (by intro h hh; cases hh)⟩)
    · refine .func vf ⟨forall_mem_one (by assumption), ?_, (by decide), ?_⟩ ?_ ?_
      · exact forall_mem_two ⟨va, .named (by assumption) (by decide) (forall_mem_one hT)⟩ ⟨(by assumption), trivial⟩
      · exact .tuple (forall_mem_two hInt hT)
      · intro e he; simp at he
        rcases he with rfl | rfl | rfl | rfl | rfl | rfl | rfl | rfl
        · exact .ofStmt (.letE (.destr (forall_mem_two vp vq) (by decide)) trivial
            (cl (.tuple (forall_mem_two one (cl (.int (by i64)))))))
        · refine .ofStmt (.letE (.sym vg) (.named (by assumption) (by decide) (fun _ h => nomatch h))
            (cl (.lambda ?_ ?_ (by trivial))))
          · exact ⟨(fun _ h => nomatch h), forall_mem_one ⟨(by assumption), hInt⟩, (by decide), trivial⟩
          · exact forall_mem_one (.ofChain (.binop (.ofClosed (.var (by assumption))) (by decide) (.int (by i64))))
        · exact cl (.forIn (.destr (forall_mem_two (by assumption) (by assumption)) (by decide))
            (cl (.mcall (.list (forall_mem_two (cl (.var vp)) (cl (.var vq)))) (by assumption) (fun _ h => nomatch h)))
            (forall_mem_one (cl .cont)) (by trivial))
        · refine cl (.matchE (cl (.var va)) ?_ ?_)
          · intro p es hc; simp at hc
            rcases hc with ⟨rfl, rfl⟩ | ⟨rfl, rfl⟩
            · exact ⟨⟨(by assumption), (by intro d hd; cases hd; exact .sym vx)⟩, trivial⟩
            · exact ⟨⟨(by assumption), (by intro d hd; cases hd)⟩, trivial⟩
          · intro p es e hc he; simp at hc
            rcases hc with ⟨rfl, rfl⟩ | ⟨rfl, rfl⟩
            · simp at he; subst he
              exact .ofStmt (.retSome (cl (.tuple (forall_mem_two
                (cl (.call (.var vg) rfl (forall_mem_one (cl (.var vp))))) (cl (.var vx))))))
            · simp at he; subst he
              exact cl (.call (.ns (.var (by assumption)) (by assumption)) rfl (forall_mem_one (cl .str)))
        · refine cl (.tryE (forall_mem_one (cl (.structLit (by assumption) ?_ ?_))) (by trivial) (by assumption)
            (forall_mem_one (cl (.dict ?_ ?_))) (by trivial))
          · intro f e hf; simp at hf
            rcases hf with ⟨rfl, rfl⟩ | ⟨rfl, rfl⟩ <;> assumption
          · intro f e hf; simp at hf
            rcases hf with ⟨rfl, rfl⟩ | ⟨rfl, rfl⟩
            · exact one
            · exact cl (.list (fun _ h => nomatch h))
          · intro k v hk; simp at hk; obtain ⟨rfl, rfl⟩ := hk; exact cl .str
          · intro k v hk; simp at hk; obtain ⟨rfl, rfl⟩ := hk
            exact cl (.float ⟨by decide, by decide, by decide, by decide, by decide⟩)
        · exact .binopStmt (.ofClosed (.var vp)) (by decide) (.assign vq one)
        · exact cl (.call (.var vg) rfl (forall_mem_one (.ofStmt .retNone)))
        · exact .ofStmt .retNone
      · simp [Adj, endsDot]
    · exact .method (by assumption) ⟨(fun _ h => nomatch h),
        forall_mem_one ⟨(by assumption), .named (by assumption) (by decide) (fun _ h => nomatch h)⟩, (by decide), hInt⟩
        (forall_mem_one (cl (.dot (.var (by assumption)) vx))) (by trivial)
    · exact .test (by assumption)
        (forall_mem_one (cl (.assertE (.ofChain (.binop (.ofClosed hcall) (by decide) (.int (by i64))))))) (by trivial)
    · refine .expr (cl hcall) ?_
      intro s tl hs
      simp [printExpr] at hs
      obtain ⟨rfl, _⟩ := hs
      decide
    · exact .block (forall_mem_one (cl .brk)) (by trivial)
  · simp [demo, IAdj, endsDot]

theorem demo_roundtrip : ∃ N, ∀ fuel, N ≤ fuel →
    parseItems fuel (lexOf 0 (printItems demo)) = .ok demo ⟨(lexOf 0 (printItems demo)).length, []⟩ :=
  parse_print demo demo_wf.1 demo_wf.2

end C33
