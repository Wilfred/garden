import GardenVerif.Lemmas.Extract
/-! For `C20.let_hoist_sound_partial`: the simulation between `p` and `hoistProg t n p` is up to store extension
(`RelH`: the hoisted variable is one more cell; stores of assignment-free programs only grow); `spBad`: if the
hoisted node evaluates badly, so does its statement in the original. -/

namespace Extract
open Machine (Expr Case Dest BinOp Program FunDef EnumDef)
open RefSem Validators

/-- `a` (run of the original from state `s`) and `b` (run of the transformed program from `s'`):
unless `a` is bad, same result, same output, and both stores extend the stores they started from. -/
def RelH (s s' : RefSem.St) (a b : Res × RefSem.St) : Prop :=
  bad a.1 = true ∨ (a.1 = b.1 ∧ a.2.out = b.2.out ∧ s.store <+: a.2.store ∧ s'.store <+: b.2.store)

theorem RelH.bad {s s' a b} (h : Extract.bad a.1 = true) : RelH s s' a b := Or.inl h

theorem RelH.mono {s0 s0' s s' a b} (h : RelH s s' a b) (h1 : s0.store <+: s.store) (h2 : s0'.store <+: s'.store) :
    RelH s0 s0' a b := by
  rcases h with h | ⟨e1, e2, e3, e4⟩
  · exact Or.inl h
  · exact Or.inr ⟨e1, e2, h1.trans e3, h2.trans e4⟩

theorem RelH.same {s s' : RefSem.St} (r : Res) (ho : s.out = s'.out) : RelH s s' (r, s) (r, s') :=
  Or.inr ⟨rfl, ho, List.prefix_refl _, List.prefix_refl _⟩

/-- `bind`, `loopStep` and `funResult` keep a bad result bad; so `RelH` goes through them once it does
where the results are the same. -/
theorem RelH.lift {s s' : RefSem.St} {a b : Res × RefSem.St} {F G : Res × RefSem.St → Res × RefSem.St}
    (hF : ∀ r t, Extract.bad r = true → Extract.bad (F (r, t)).1 = true) (h : RelH s s' a b)
    (hd : ∀ r t t', t.out = t'.out → s.store <+: t.store → s'.store <+: t'.store →
      RelH s s' (F (r, t)) (G (r, t'))) :
    RelH s s' (F a) (G b) := by
  obtain ⟨r, s1⟩ := a
  obtain ⟨r', s1'⟩ := b
  rcases h with h | ⟨e1, e2, e3, e4⟩
  · exact Or.inl (hF _ _ h)
  · simp only at e1 e2 e3 e4
    subst e1
    exact hd _ _ _ e2 e3 e4

def relH : EvalRel where
  toValRel := ValRel.eq
  C s s' := s.out = s'.out
  E s s' s1 s1' := s1.out = s1'.out ∧ s.store <+: s1.store ∧ s'.store <+: s1'.store
  Q := RelH
  start h := h.1
  trans h1 h2 := ⟨h2.1, h1.2.1.trans h2.2.1, h1.2.2.trans h2.2.2⟩
  done h hr := by rw [hr.eq]; exact RelH.same _ h
  emit t h := Or.inr ⟨rfl, by simp [h], List.prefix_refl _, List.prefix_refl _⟩
  mono h q := q.mono h.2.1 h.2.2
  bind {_ _ _ _ k k'} h hk :=
    RelH.lift (F := (RefSem.bind · k)) (G := (RefSem.bind · k'))
      (fun r _ hb => by cases r <;> first | exact hb | nomatch hb) h fun r t t' o p1 p1' => by
        cases r <;> first | exact (hk _ _ t t' rfl ⟨o, p1, p1'⟩).mono p1 p1' | exact Or.inr ⟨rfl, o, p1, p1'⟩
  loop {_ _ _ _ k k'} h hk :=
    RelH.lift (F := (loopStep · k)) (G := (loopStep · k'))
      (fun r _ hb => by cases r <;> first | exact hb | nomatch hb) h fun r t t' o p1 p1' => by
        cases r <;> first | exact (hk t t' ⟨o, p1, p1'⟩).mono p1 p1' | exact Or.inr ⟨rfl, o, p1, p1'⟩
  funResult h :=
    RelH.lift (F := funResult) (G := funResult) (fun r _ hb => by cases r <;> first | exact hb | nomatch hb) h
      fun r t t' o p1 p1' => by cases r <;> exact Or.inr ⟨rfl, o, p1, p1'⟩

def Agree (n : String) (p p' : Program) (env : Env) (st : List Val) (env' : Env) (st' : List Val) : Prop :=
  ∀ x, x ≠ n → lookupVar p env st x = lookupVar p' env' st' x

def WF (env : Env) (st : List Val) : Prop := ∀ kl ∈ env, kl.2 < st.length

theorem WF.nil {st} : WF [] st := by intro kl h; cases h

theorem WF.ext {env st st2} (h : WF env st) (hp : st <+: st2) : WF env st2 :=
  fun kl hkl => Nat.lt_of_lt_of_le (h kl hkl) hp.length_le

theorem lookupVar_ext (p : Program) {env : Env} {st st2 : List Val} (h : WF env st) (hp : st <+: st2)
    (x : String) : lookupVar p env st2 x = lookupVar p env st x := by
  unfold lookupVar
  cases hl : lookup env x with
  | none => rfl
  | some l =>
    simp only
    obtain ⟨tl, rfl⟩ := hp
    exact List.getElem?_append_left (h _ (lookup_mem hl))

theorem Agree.ext {n p p' env st env' st' st2 st2'} (h : Agree n p p' env st env' st')
    (w : WF env st) (w' : WF env' st') (hp : st <+: st2) (hp' : st' <+: st2') :
    Agree n p p' env st2 env' st2' := by
  intro x hx
  rw [lookupVar_ext p w hp, lookupVar_ext p' w' hp', h x hx]

theorem lookupVar_cons (p : Program) (k : String) (l : Nat) (env : Env) (st : List Val) (x : String) :
    lookupVar p ((k, l) :: env) st x = if k == x then st[l]? else lookupVar p env st x := by
  by_cases hk : (k == x) = true <;> simp [lookupVar, lookup, hk]

theorem bindNames_out : ∀ (ns : List String) (vs : List Val) (env : Env) (s : RefSem.St),
    (bindNames ns vs env s).2.out = s.out ∧ s.store <+: (bindNames ns vs env s).2.store
  | [], vs, env, s => by cases vs <;> simp [bindNames]
  | n :: ns, [], env, s => by simp [bindNames]
  | n :: ns, v :: vs, env, s => by
      simp only [bindNames]
      have := bindNames_out ns vs (if n == "_" then env else (n, s.store.length) :: env) { s with store := s.store ++ [v] }
      exact ⟨this.1, (List.prefix_append _ _).trans this.2⟩

theorem wf_push {env' : Env} {st' : List Val} (w' : WF env' st') (n : String) (v : Val) :
    WF ((n, st'.length) :: env') (st' ++ [v]) := by
  intro kl hkl
  rcases List.mem_cons.mp hkl with rfl | hkl
  · simp
  · exact (w'.ext (List.prefix_append _ _)) kl hkl

structure Ok (n : String) (p p' : Program) (env : Env) (s : RefSem.St) (env' : Env) (s' : RefSem.St) : Prop where
  agree : Agree n p p' env s.store env' s'.store
  wf : WF env s.store
  wf' : WF env' s'.store
  out : s.out = s'.out

theorem Ok.step {n p p' env s env' s' s1 s1'} (h : Ok n p p' env s env' s') (e : relH.E s s' s1 s1') :
    Ok n p p' env s1 env' s1' :=
  ⟨h.agree.ext h.wf h.wf' e.2.1 e.2.2, h.wf.ext e.2.1, h.wf'.ext e.2.2, e.1⟩

theorem bindNames_both {n : String} {p p' : Program} : ∀ (ns : List String) (vs : List Val) {env env' : Env}
    {s s' : RefSem.St}, Ok n p p' env s env' s' →
    relH.E s s' (bindNames ns vs env s).2 (bindNames ns vs env' s').2 ∧
      Ok n p p' (bindNames ns vs env s).1 (bindNames ns vs env s).2 (bindNames ns vs env' s').1 (bindNames ns vs env' s').2
  | [], vs, _, _, _, _, h => by cases vs <;> exact ⟨⟨h.out, List.prefix_refl _, List.prefix_refl _⟩, h⟩
  | x :: ns, [], _, _, _, _, h => ⟨⟨h.out, List.prefix_refl _, List.prefix_refl _⟩, h⟩
  | x :: ns, v :: vs, env, env', s, s', h => by
      simp only [bindNames]
      have e1 : relH.E s s' { s with store := s.store ++ [v] } { s' with store := s'.store ++ [v] } :=
        ⟨h.out, List.prefix_append _ _, List.prefix_append _ _⟩
      have h1 := h.step e1
      suffices h2 : Ok n p p' (if x == "_" then env else (x, s.store.length) :: env) { s with store := s.store ++ [v] }
          (if x == "_" then env' else (x, s'.store.length) :: env') { s' with store := s'.store ++ [v] } from
        ⟨relH.trans e1 (bindNames_both ns vs h2).1, (bindNames_both ns vs h2).2⟩
      by_cases hu : (x == "_") = true
      · simp only [hu, if_true]; exact h1
      · simp only [hu, if_false, Bool.false_eq_true]
        refine ⟨fun y hy => ?_, wf_push h.wf x v, wf_push h.wf' x v, h.out⟩
        rw [lookupVar_cons, lookupVar_cons]
        split
        · simp
        · exact h1.agree y hy

theorem Ok.bind {n p p' env s env' s'} (h : Ok n p p' env s env' s') (dest : Dest) (v : Val) :
    relH.Bound s s' (bindDest dest v env s) (bindDest dest v env' s') (Ok n p p') := by
  cases dest with
  | sym x => exact bindNames_both [x] [v] h
  | destr ns =>
    cases v with
    | tuple items =>
      simp only [bindDest]
      by_cases hl : (items.length != ns.length) = true
      · simp only [hl, if_true]; exact rfl
      · simp only [hl, if_false, Bool.false_eq_true]
        exact bindNames_both ns items h
    | _ => exact rfl

mutual
theorem H_arith (t : Nat) (n : String) : ∀ e : Expr, arithE e = true → H t n e = e
  | .int .., _ | .str .., _ | .var .., _ => rfl
  | .binop _ _ _ l r, h => by
      simp only [arithE, Bool.and_eq_true] at h
      simp only [H, H_arith t n l h.1, H_arith t n r h.2]
  | .paren _ _ e, h => by
      simp only [arithE] at h
      simp only [H, H_arith t n e h]
  | .list _ _ es, h | .tuple _ _ es, h => by
      simp only [arithE] at h
      simp only [H, HList_arith t n es h]
  | .letE .., h | .assign .., h | .update .., h | .ifE .., h | .whileE .., h | .forE .., h | .matchE .., h
  | .ret .., h | .brk .., h | .cont .., h | .call .., h | .lambda .., h | .invalid .., h | .unsup .., h =>
      nomatch h
theorem HList_arith (t : Nat) (n : String) : ∀ es : List Expr, arithL es = true → HList t n es = es
  | [], _ => rfl
  | e :: rest, h => by
      simp only [arithL, Bool.and_eq_true] at h
      simp only [HList, H_arith t n e h.1, HList_arith t n rest h.2]
end

theorem pick_none {t id : Nat} {e : Expr} {rest : Option Expr} :
    pick t id e rest = none ↔ (id == t) = false ∧ rest = none := by
  unfold pick
  by_cases h : (id == t) = true <;> simp [h]

mutual
theorem HR_noSp (t : Nat) (n : String) : ∀ e : Expr, findSp t e = none → HR t n e = H t n e
  | .int .., h | .str .., h | .var .., h | .ret _ _ none, h | .brk .., h | .cont .., h | .lambda .., h
  | .invalid .., h | .unsup .., h => by
      simp only [findSp, pick_none] at h
      simp only [HR, H, h.1, Bool.false_eq_true, if_false]
  | .binop _ _ _ l r, h => by
      simp only [findSp, pick_none, Option.or_eq_none_iff] at h
      simp only [HR, H, h.1, Bool.false_eq_true, if_false, HR_noSp t n l h.2.1, HR_noSp t n r h.2.2]
  | .letE _ _ _ c, h => by
      simp only [findSp] at h
      simp only [HR, H, HR_noSp t n c h]
  | .assign _ _ _ c, h | .update _ _ _ _ c, h | .ifE _ _ c _ _, h | .whileE _ _ c _, h | .forE _ _ _ c _, h
  | .matchE _ _ c _, h | .ret _ _ (some c), h | .paren _ _ c, h => by
      simp only [findSp, pick_none] at h
      simp only [HR, H, h.1, Bool.false_eq_true, if_false, HR_noSp t n c h.2]
  | .list _ _ es, h | .tuple _ _ es, h => by
      simp only [findSp, pick_none] at h
      simp only [HR, H, h.1, Bool.false_eq_true, if_false, HRList_noSp t n es h.2]
  | .call _ _ f as, h => by
      simp only [findSp, pick_none, Option.or_eq_none_iff] at h
      simp only [HR, H, h.1, Bool.false_eq_true, if_false, HR_noSp t n f h.2.1, HRList_noSp t n as h.2.2]
theorem HRList_noSp (t : Nat) (n : String) : ∀ es : List Expr, findSpL t es = none → HRList t n es = HList t n es
  | [], _ => rfl
  | e :: rest, h => by
      simp only [findSpL, Option.or_eq_none_iff] at h
      simp only [HRList, HList, HR_noSp t n e h.1, HRList_noSp t n rest h.2]
end

mutual
theorem G_arith (t : Nat) (n : String) : ∀ e : Expr, arithE e = true → fresh n e = true → G t n e = true
  | .int .., _, _ | .str .., _, _ => rfl
  | .var .., _, hf => by simpa [G, fresh] using hf
  | .binop _ _ _ l r, h, hf => by
      simp only [arithE, Bool.and_eq_true] at h
      simp only [fresh, Bool.and_eq_true] at hf
      simp only [G, G_arith t n l h.1 hf.1, G_arith t n r h.2 hf.2, Bool.and_self]
  | .paren _ _ e, h, hf => by
      simp only [arithE] at h
      simp only [fresh] at hf
      simp only [G, G_arith t n e h hf]
  | .list _ _ es, h, hf | .tuple _ _ es, h, hf => by
      simp only [arithE] at h
      simp only [fresh] at hf
      simp only [G, GList_arith t n es h hf]
  | .letE .., h, _ | .assign .., h, _ | .update .., h, _ | .ifE .., h, _ | .whileE .., h, _ | .forE .., h, _
  | .matchE .., h, _ | .ret .., h, _ | .brk .., h, _ | .cont .., h, _ | .call .., h, _ | .lambda .., h, _
  | .invalid .., h, _ | .unsup .., h, _ => nomatch h
theorem GList_arith (t : Nat) (n : String) : ∀ es : List Expr, arithL es = true → freshSeq n es = true → GList t n es = true
  | [], _, _ => rfl
  | e :: rest, h, hf => by
      simp only [arithL, Bool.and_eq_true] at h
      simp only [freshSeq, Bool.and_eq_true] at hf
      simp only [GList, G_arith t n e h.1 hf.1, GList_arith t n rest h.2 hf.2, Bool.and_self]
end


theorem findSp_hit {t : Nat} {e : Expr} (h : (e.id == t) = true) (hl : isLet e = false) : findSp t e = some e := by
  cases e <;> first | exact Bool.noConfusion hl | exact if_pos h | (rename_i o; cases o <;> exact if_pos h)

theorem HR_hit {t : Nat} {n : String} {e : Expr} (h : (e.id == t) = true) (hl : isLet e = false) :
    HR t n e = .var 0 false n := by
  cases e <;> first | exact Bool.noConfusion hl | exact if_pos h | (rename_i o; cases o <;> exact if_pos h)

theorem eval_unparen (cl : Bool) (p : Program) (k : Nat) (env : Env) (s : RefSem.St) (e : Expr) :
    ∃ j, j ≤ k + 1 ∧ eval cl p (k + 1) env s e = eval cl p j env s (unparen e) := by
  cases e <;> first | exact ⟨k + 1, Nat.le_refl _, rfl⟩ | skip
  exact ⟨k, Nat.le_succ k, by simp only [eval, unparen]⟩

theorem bad_bind {a : Res × RefSem.St} {k : Val → RefSem.St → Res × RefSem.St} (h : bad a.1 = true) :
    bad (RefSem.bind a k).1 = true := by
  obtain ⟨r, s⟩ := a
  cases r <;> simp [bad] at h <;> simp [RefSem.bind, bad]

theorem PureIn.bad_bind {s : RefSem.St} {a : Res × RefSem.St} {k : Val → RefSem.St → Res × RefSem.St}
    (h : PureIn s a) (hk : ∀ v, bad (k v s).1 = true) : bad (RefSem.bind a k).1 = true := by
  obtain ⟨r, s1⟩ := a
  obtain ⟨rfl, hv⟩ := h
  cases r <;> first | exact hk _ | exact hv

/-- About the original program alone: if the node on the spine evaluates badly, so does the statement. -/
structure SpBad (t : Nat) (p : Program) (k : Nat) : Prop where
  ev : ∀ env s e ux, sp t e = true → (findSp t e).map unparen = some ux →
    (∀ j, j ≤ k → bad (eval false p j env s ux).1 = true) → bad (eval false p k env s e).1 = true
  lst : ∀ env s es ux, spL t es = true → (findSpL t es).map unparen = some ux →
    (∀ j, j ≤ k → bad (eval false p j env s ux).1 = true) → bad (evalList false p k env s es).1 = true

theorem spBad (t : Nat) (p : Program) : ∀ k, SpBad t p k
  | 0 => ⟨fun _ _ _ _ _ _ _ => rfl, fun _ _ _ _ _ _ _ => rfl⟩
  | k + 1 => by
    have ih := spBad t p k
    have down : ∀ {env s ux}, (∀ j, j ≤ k + 1 → bad (eval false p j env s ux).1 = true) →
        ∀ j, j ≤ k → bad (eval false p j env s ux).1 = true := fun h j hj => h j (Nat.le_succ_of_le hj)
    constructor
    · intro env s e ux hsp hf h0
      by_cases hl : isLet e = true
      · obtain ⟨id, u, d, r, rfl⟩ := isLet_iff.mp hl
        rfl
      have hl' : isLet e = false := by simpa using hl
      by_cases hid : (e.id == t) = true
      · rw [findSp_hit hid hl'] at hf
        simp only [Option.map_some, Option.some.injEq] at hf
        obtain ⟨j, hj, he⟩ := eval_unparen false p k env s e
        rw [he, hf]; exact h0 j hj
      have hid' : (e.id == t) = false := by simpa using hid
      cases e <;> simp only [Expr.id] at hid' <;> (try simp only [sp, hid', Bool.false_or, Bool.false_eq_true] at hsp)
      case binop id u op l r =>
        simp only [findSp, pick, hid', Bool.false_eq_true, if_false] at hf
        simp only [eval]
        simp only [Bool.or_eq_true, Bool.and_eq_true, noSp, Option.isNone_iff_eq_none] at hsp
        rcases hsp with ⟨h1, h2⟩ | ⟨⟨h1, h2⟩, h3⟩
        · rw [h2, Option.or_none] at hf
          exact bad_bind (ih.ev _ _ _ _ h1 hf (down h0))
        · rw [h2] at hf
          exact ((arithPure false p k).ev _ _ _ h1).bad_bind fun v => bad_bind (ih.ev _ _ _ _ h3 hf (down h0))
      case letE => simp [isLet] at hl'
      case ifE id u c th el =>
        simp only [findSp, pick, hid', Bool.false_eq_true, if_false] at hf
        simp only [eval]
        exact bad_bind (ih.ev _ _ _ _ hsp hf (down h0))
      case forE id u d it b =>
        simp only [findSp, pick, hid', Bool.false_eq_true, if_false] at hf
        simp only [eval]
        exact bad_bind (ih.ev _ _ _ _ hsp hf (down h0))
      case matchE id u sc cs =>
        simp only [findSp, pick, hid', Bool.false_eq_true, if_false] at hf
        simp only [eval]
        exact bad_bind (ih.ev _ _ _ _ hsp hf (down h0))
      case ret id u o =>
        cases o with
        | none => simp [sp, hid'] at hsp
        | some x =>
          simp only [sp, hid', Bool.false_or] at hsp
          simp only [findSp, pick, hid', Bool.false_eq_true, if_false] at hf
          simp only [eval]
          exact bad_bind (ih.ev _ _ _ _ hsp hf (down h0))
      case list id u es =>
        simp only [findSp, pick, hid', Bool.false_eq_true, if_false] at hf
        simp only [eval]
        exact ih.lst _ _ _ _ hsp hf (down h0)
      case tuple id u es =>
        simp only [findSp, pick, hid', Bool.false_eq_true, if_false] at hf
        simp only [eval]
        exact bad_bind (ih.lst _ _ _ _ hsp hf (down h0))
      case call id u f as =>
        simp only [findSp, pick, hid', Bool.false_eq_true, if_false] at hf
        simp only [eval]
        simp only [Bool.or_eq_true, Bool.and_eq_true, noSp, noSpL, Option.isNone_iff_eq_none] at hsp
        rcases hsp with ⟨h1, h2⟩ | ⟨⟨h1, h2⟩, h3⟩
        · rw [h2, Option.or_none] at hf
          exact bad_bind (ih.ev _ _ _ _ h1 hf (down h0))
        · rw [h2] at hf
          exact ((arithPure false p k).ev _ _ _ h1).bad_bind fun v => bad_bind (ih.lst _ _ _ _ h3 hf (down h0))
      case paren id u x =>
        simp only [findSp, pick, hid', Bool.false_eq_true, if_false] at hf
        simp only [eval]
        exact ih.ev _ _ _ _ hsp hf (down h0)
    · intro env s es ux hsp hf h0
      cases es with
      | nil => simp [spL] at hsp
      | cons e rest =>
        simp only [spL, Bool.or_eq_true, Bool.and_eq_true, noSp, noSpL, Option.isNone_iff_eq_none] at hsp
        simp only [findSpL] at hf
        simp only [evalList]
        rcases hsp with ⟨h1, h2⟩ | ⟨⟨h1, h2⟩, h3⟩
        · rw [h2, Option.or_none] at hf
          exact bad_bind (ih.ev _ _ _ _ h1 hf (down h0))
        · rw [h2] at hf
          exact ((arithPure false p k).ev _ _ _ h1).bad_bind fun v => bad_bind (ih.lst _ _ _ _ h3 hf (down h0))


structure HCtx (t : Nat) (n : String) (p p' : Program) : Prop where
  hn : n ≠ "_"
  funs : p'.funs = p.funs.map (fun d => { d with body := HSeq t n d.body })
  enums : p'.enums = p.enums
  gfuns : ∀ d ∈ p.funs, GFun t n d = true

theorem HCtx.mapped {t n p p'} (hc : HCtx t n p p') :
    Mapped (fun d => { d with body := HSeq t n d.body }) p p' := ⟨hc.funs, hc.enums, fun _ => rfl⟩

theorem HCtx.agree_nil {t n p p'} (hc : HCtx t n p p') (st st' : List Val) : Agree n p p' [] st [] st' := by
  intro x _
  simp [lookupVar, lookup, hc.mapped.funNames, hc.enums]

theorem agree_push {n p p' env st env' st'} (h : Agree n p p' env st env' st') (w' : WF env' st') (v : Val) :
    Agree n p p' env st ((n, st'.length) :: env') (st' ++ [v]) := by
  intro x hx
  rw [lookupVar_cons]
  have : (n == x) = false := by simpa using Ne.symm hx
  simp only [this, Bool.false_eq_true, if_false]
  rw [lookupVar_ext p' w' (List.prefix_append _ _), h x hx]

theorem isLet_H (t : Nat) (n : String) (e : Expr) : isLet (H t n e) = isLet e := by
  cases e <;> first | rfl | (rename_i o; cases o <;> rfl)

theorem isLet_HR (t : Nat) (n : String) {e : Expr} (h : isLet e = false) : isLet (HR t n e) = false := by
  have ite : ∀ (c : Prop) [Decidable c] (b : Expr), isLet b = false → isLet (if c then .var 0 false n else b) = false :=
    fun c _ b hb => by split <;> first | rfl | exact hb
  cases e <;> first | exact Bool.noConfusion h | exact ite _ _ rfl | (rename_i o; cases o <;> exact ite _ _ rfl)

theorem bad_of_le {a b : Res × RefSem.St} (h : LeX none none a b) (hb : bad b.1 = true) : bad a.1 = true :=
  h.nn.elim (fun h => by rw [isTO_eq h]; rfl) fun e => e ▸ hb

theorem RelH.of_le {s s' : RefSem.St} {a a2 b : Res × RefSem.St} (h : LeX none none a a2) (h2 : RelH s s' a2 b) :
    RelH s s' a b :=
  h.nn.elim (fun h => Or.inl (by rw [isTO_eq h]; rfl)) fun e => e ▸ h2

end Extract
