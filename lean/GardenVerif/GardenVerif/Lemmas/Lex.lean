import GardenVerif.Model.Lex
/-! Lemmas about the lexer model M1: byte arithmetic, `LinePositions::from_offset` against its
specification, what the scanners return, the cases of one iteration (`step_elim`, with `Emits` for the token
texts) and the two facts read off them (the invariant `Inv`; every token text is an emitted one), the loop. -/

namespace Lex
variable {any : Bool}

theorem csize_bounds (c : Char) : 0 < csize c ∧ csize c ≤ 4 := by
  unfold csize; split <;> (try split) <;> (try split) <;> omega

theorem csize_pos (c : Char) : 0 < csize c := (csize_bounds c).1

theorem csize_le_four (c : Char) : csize c ≤ 4 := (csize_bounds c).2

@[simp] theorem bytes_nil : bytes [] = 0 := rfl
@[simp] theorem bytes_cons (c : Char) (cs : List Char) : bytes (c :: cs) = csize c + bytes cs := rfl

@[simp] theorem bytes_append (a b : List Char) : bytes (a ++ b) = bytes a + bytes b := by
  induction a with
  | nil => simp
  | cons c cs ih => simp [ih]; omega

theorem bytes_eq_zero {l : List Char} : bytes l = 0 ↔ l = [] := by
  cases l with
  | nil => simp
  | cons c cs => have := csize_pos c; simp; omega

theorem length_le_bytes (l : List Char) : l.length ≤ bytes l := by
  induction l with
  | nil => simp
  | cons c cs ih => have := csize_pos c; simp; omega

theorem splitBytes_append (m t : List Char) : splitBytes (m ++ t) (bytes m) = some (m, t) := by
  induction m with
  | nil => cases t <;> simp [splitBytes]
  | cons c cs ih =>
    have := csize_pos c
    simp only [List.cons_append, splitBytes, bytes_cons]
    rw [if_neg (by omega), if_pos (by omega)]
    have : csize c + bytes cs - csize c = bytes cs := by omega
    rw [this, ih]

theorem splitBytes_some : ∀ (cs : List Char) (n : Nat) (a b : List Char),
    splitBytes cs n = some (a, b) → cs = a ++ b ∧ bytes a = n := by
  intro cs
  induction cs with
  | nil =>
    intro n a b h
    simp only [splitBytes] at h
    split at h <;> simp_all
  | cons c cs ih =>
    intro n a b h
    simp only [splitBytes] at h
    split at h
    · simp_all
    · split at h
      · split at h
        · rename_i a' b' heq
          have := ih _ _ _ heq
          simp at h
          obtain ⟨rfl, rfl⟩ := h
          simp [this.1.symm] at *
          omega
        · simp at h
      · simp at h

theorem prefix_of_bytes_le {p q src : List Char} (hp : p <+: src) (hq : q <+: src)
    (h : bytes p ≤ bytes q) : p <+: q := by
  rcases Nat.le_total p.length q.length with hl | hl
  · exact List.prefix_of_prefix_length_le hp hq hl
  · have hqp : q <+: p := List.prefix_of_prefix_length_le hq hp hl
    obtain ⟨t, rfl⟩ := hqp
    have : bytes t = 0 := by simp at h; omega
    rw [bytes_eq_zero] at this
    subst this
    simp

theorem bytes_le_of_prefix {p q : List Char} (h : p <+: q) : bytes p ≤ bytes q := by
  obtain ⟨t, rfl⟩ := h; simp

def lastLine (p : List Char) : List Char := (p.reverse.takeWhile (· != '\n')).reverse

def lineOf (p : List Char) : Nat := p.count '\n'

def colOf (p : List Char) : Nat := bytes (lastLine p)

theorem lastLine_snoc (p : List Char) (c : Char) :
    lastLine (p ++ [c]) = if c = '\n' then [] else lastLine p ++ [c] := by
  simp only [lastLine, List.reverse_append, List.reverse_cons, List.reverse_nil, List.nil_append,
    List.cons_append, List.takeWhile_cons]
  by_cases h : c = '\n' <;> simp [h]

def colFold : List Char → Nat → Nat
  | [], c0 => c0
  | c :: cs, c0 => if c = '\n' then colFold cs 0 else colFold cs (c0 + csize c)

theorem colFold_snoc (p : List Char) (c : Char) (c0 : Nat) :
    colFold (p ++ [c]) c0 = if c = '\n' then 0 else colFold p c0 + csize c := by
  induction p generalizing c0 with
  | nil => simp [colFold]
  | cons d ds ih =>
    simp only [List.cons_append, colFold]
    split <;> simp [ih]

theorem bytes_reverse (l : List Char) : bytes l.reverse = bytes l := by
  induction l with
  | nil => simp
  | cons c cs ih => simp [ih]; omega

theorem colFold_zero_eq (p : List Char) : colFold p 0 = colOf p := by
  suffices h : ∀ r : List Char, colFold r.reverse 0 = colOf r.reverse by
    have := h p.reverse; simpa using this
  intro r
  induction r with
  | nil => simp [colFold, colOf, lastLine]
  | cons c cs ih =>
    simp only [List.reverse_cons, colFold_snoc, colOf, lastLine_snoc]
    by_cases h : c = '\n'
    · simp [h]
    · simp only [h, if_false, bytes_append, bytes_cons, bytes_nil]
      rw [ih]; simp [colOf]

theorem colFold_eq (p : List Char) (c0 : Nat) :
    colFold p c0 = if '\n' ∈ p then colOf p else c0 + bytes p := by
  rw [← colFold_zero_eq]
  induction p generalizing c0 with
  | nil => simp [colFold]
  | cons c cs ih =>
    by_cases h : c = '\n'
    · subst h; simp [colFold]
    · have hne : ¬ ('\n' = c) := fun e => h e.symm
      simp only [colFold, h, if_false, List.mem_cons, hne, false_or, bytes_cons]
      rw [ih (c0 + csize c), ih (0 + csize c)]
      split
      · rfl
      · omega

theorem linePositionsGo_head (s : List Char) (ls cur : Nat) :
    ∃ e rest, linePositionsGo s ls cur = (ls, e) :: rest ∧ cur ≤ e := by
  induction s generalizing cur with
  | nil => exact ⟨cur, [], rfl, Nat.le_refl _⟩
  | cons c cs ih =>
    simp only [linePositionsGo]
    split
    · exact ⟨cur, _, rfl, Nat.le_refl _⟩
    · obtain ⟨e, rest, h, hle⟩ := ih (cur + csize c)
      exact ⟨e, rest, h, by omega⟩

theorem findLine_go (pre rest : List Char) (ls cur idx : Nat) (hls : ls ≤ cur) :
    findLine (linePositionsGo (pre ++ rest) ls cur) (cur + bytes pre) idx =
      some (idx + lineOf pre, colFold pre (cur - ls)) := by
  induction pre generalizing ls cur idx with
  | nil =>
    obtain ⟨e, r, h, hle⟩ := linePositionsGo_head rest ls cur
    simp only [List.nil_append, h, findLine, bytes_nil, Nat.add_zero, lineOf, List.count_nil, colFold]
    rw [if_pos ⟨hls, hle⟩]
  | cons c cs ih =>
    have hc := csize_pos c
    simp only [List.cons_append, linePositionsGo, bytes_cons]
    by_cases h : c = '\n'
    · subst h
      have h1 : csize '\n' = 1 := by decide
      simp only [if_true, findLine, colFold, h1]
      rw [if_neg (by omega)]
      have := ih (cur + 1) (cur + 1) (idx + 1) (Nat.le_refl _)
      have e : cur + (1 + bytes cs) = cur + 1 + bytes cs := by omega
      rw [e, this]
      simp [lineOf]
      omega
    · simp only [h, if_false, colFold]
      have := ih ls (cur + csize c) idx (by omega)
      have e : cur + (csize c + bytes cs) = cur + csize c + bytes cs := by omega
      rw [e, this]
      have hne : ¬ (c == '\n') = true := by simpa using h
      simp [lineOf, List.count_cons, hne]
      congr 1; omega

/-- `LinePositions::from(src).from_offset(o)` at a character boundary `o = bytes pre`. -/
theorem fromOffset_spec (pre rest : List Char) :
    fromOffset (linePositions (pre ++ rest)) (bytes pre) = some (lineOf pre, colOf pre) := by
  have := findLine_go pre rest 0 0 0 (Nat.le_refl _)
  simp only [Nat.zero_add, Nat.sub_self] at this
  simp [fromOffset, linePositions, this, colFold_zero_eq]

def specPos (p1 p2 : List Char) : Pos :=
  ⟨bytes p1, bytes p2, lineOf p1, lineOf p2, colOf p1, colOf p2⟩

/-- C23 for one position of the text `src`. -/
def Consistent (src : List Char) (pos : Pos) : Prop :=
  ∃ p1 p2, p1 <+: p2 ∧ p2 <+: src ∧ pos = specPos p1 p2

theorem consistent_mk {src pre m post : List Char} (h : src = pre ++ m ++ post) :
    Consistent src (specPos pre (pre ++ m)) :=
  ⟨pre, pre ++ m, List.prefix_append _ _, ⟨post, h.symm⟩, rfl⟩

theorem mkPos_fixed {src pre m post : List Char} (h : src = pre ++ m ++ post) :
    mkPos (Cfg.fixed any) (linePositions src) (bytes pre) (bytes pre + bytes m) =
      some (specPos pre (pre ++ m)) := by
  have h1 := fromOffset_spec pre (m ++ post)
  have h2 := fromOffset_spec (pre ++ m) post
  rw [← List.append_assoc, ← h] at h1
  rw [← h, bytes_append] at h2
  simp [mkPos, h1, h2, Cfg.fixed, specPos]

theorem lineOf_mono {p q : List Char} (h : p <+: q) : lineOf p ≤ lineOf q := by
  obtain ⟨t, rfl⟩ := h; simp [lineOf, List.count_append]

theorem merge_consistent_aux {src : List Char} {a b : Pos}
    (ha : Consistent src a) (hb : Consistent src b) : Consistent src (Pos.merge a b) := by
  obtain ⟨a1, a2, ha12, ha2, rfl⟩ := ha
  obtain ⟨b1, b2, hb12, hb2, rfl⟩ := hb
  by_cases h : bytes a2 > bytes b2
  · have hp : b2 <+: a2 := prefix_of_bytes_le hb2 ha2 (by omega)
    have := lineOf_mono hp
    refine ⟨a1, a2, ha12, ha2, ?_⟩
    simp only [Pos.merge, specPos, h, if_true]
    congr 1 <;> omega
  · have hp : a2 <+: b2 := prefix_of_bytes_le ha2 hb2 (by omega)
    have := lineOf_mono hp
    refine ⟨a1, b2, List.IsPrefix.trans ha12 hp, hb2, ?_⟩
    simp only [Pos.merge, specPos, h, if_false]
    congr 1 <;> omega

theorem scanInt_some {s m : List Char} (h : scanInt s = some m) :
    ∃ sign d r, (sign = [] ∨ sign = ['-']) ∧ isDigit d = true ∧ s = sign ++ d :: r ∧
      m = sign ++ d :: r.takeWhile isDigitU := by
  unfold scanInt at h
  split at h
  · rename_i d r
    split at h
    · cases h; exact ⟨['-'], d, r, Or.inr rfl, ‹_›, rfl, rfl⟩
    · cases h
  · rename_i d r _
    split at h
    · cases h; exact ⟨[], d, r, Or.inl rfl, ‹_›, rfl, rfl⟩
    · cases h
  · cases h

theorem scanFloat_some {s m : List Char} (h : scanFloat s = some m) :
    ∃ mi d r, scanInt s = some mi ∧ isDigit d = true ∧ s.drop mi.length = '.' :: d :: r ∧
      m = mi ++ '.' :: d :: r.takeWhile isDigitU := by
  unfold scanFloat at h
  split at h
  · cases h
  · rename_i mi hmi
    split at h
    · rename_i d r hdrop
      split at h
      · cases h; exact ⟨mi, d, r, hmi, ‹_›, hdrop, rfl⟩
      · cases h
    · cases h

theorem scanSymbol_some {s m : List Char} (h : scanSymbol s = some m) :
    ∃ c r, isSymStart c = true ∧ s = c :: r ∧ m = c :: r.takeWhile isSymChar := by
  unfold scanSymbol at h
  split at h
  · rename_i c r
    split at h
    · cases h; exact ⟨c, r, ‹_›, rfl, rfl⟩
    · cases h
  · cases h

theorem scanString_some {s m : List Char} (h : scanString any s = some m) :
    ∃ r, s = '"' :: r ∧ m = '"' :: strBody any false r := by
  unfold scanString at h
  split at h
  · rename_i c r
    split at h
    · rename_i hc; subst hc; cases h; exact ⟨r, rfl, rfl⟩
    · cases h
  · cases h

theorem scanInt_prefix {s m : List Char} (h : scanInt s = some m) : m <+: s ∧ m ≠ [] := by
  obtain ⟨sign, d, r, _, _, rfl, rfl⟩ := scanInt_some h
  refine ⟨?_, by simp⟩
  rw [List.prefix_append_right_inj, List.prefix_cons_inj]
  exact List.takeWhile_prefix _

theorem scanFloat_prefix {s m : List Char} (h : scanFloat s = some m) : m <+: s ∧ m ≠ [] := by
  obtain ⟨mi, d, r, hmi, _, hdrop, rfl⟩ := scanFloat_some h
  obtain ⟨⟨t, rfl⟩, hne⟩ := scanInt_prefix hmi
  refine ⟨?_, by simp⟩
  rw [List.drop_left] at hdrop
  subst hdrop
  rw [List.prefix_append_right_inj, List.prefix_cons_inj, List.prefix_cons_inj]
  exact List.takeWhile_prefix _

theorem scanSymbol_prefix {s m : List Char} (h : scanSymbol s = some m) : m <+: s ∧ m ≠ [] := by
  obtain ⟨c, r, _, rfl, rfl⟩ := scanSymbol_some h
  exact ⟨(List.prefix_cons_inj _).mpr (List.takeWhile_prefix _), by simp⟩

theorem strBody_prefix (any esc : Bool) (r : List Char) : strBody any esc r <+: r := by
  induction r generalizing esc with
  | nil => simp [strBody]
  | cons c cs ih =>
    simp only [strBody]
    by_cases h1 : (esc && (if any = true then c != '\n' else c == '"')) = true
    · rw [if_pos h1, List.prefix_cons_inj]; exact ih _
    · rw [if_neg h1]
      by_cases h2 : c = '"'
      · rw [if_pos h2]; subst h2; exact ⟨cs, rfl⟩
      · rw [if_neg h2, List.prefix_cons_inj]; exact ih _

theorem scanString_prefix {s m : List Char} (h : scanString any s = some m) :
    m <+: s ∧ m.head? = some '"' := by
  obtain ⟨r, rfl, rfl⟩ := scanString_some h
  exact ⟨(List.prefix_cons_inj _).mpr (strBody_prefix _ _ _), rfl⟩

def TokOK (src : List Char) (t : Token) : Prop :=
  ∃ pre post, src = pre ++ t.text ++ post ∧ t.pos = specPos pre (pre ++ t.text)

theorem TokOK.consistent {src : List Char} {t : Token} (h : TokOK src t) : Consistent src t.pos := by
  obtain ⟨pre, post, h1, h2⟩ := h
  rw [h2]; exact consistent_mk h1

structure Inv (src : List Char) (st : State) : Prop where
  split : ∃ pre, src = pre ++ st.rest ∧ st.off = bytes pre
  toks : ∀ t ∈ st.toks, TokOK src t ∧ ∀ c ∈ t.comments, Consistent src c.1
  pending : ∀ c ∈ st.pending, Consistent src c.1
  errs : ∀ e ∈ st.errs, Consistent src e.pos

def Good (src : List Char) (st : State) (r : Step) : Prop :=
  r = .done ∨ ∃ st', r = .next st' ∧ Inv src st' ∧ st'.rest.length < st.rest.length

theorem advance_good {src : List Char} {st0 st : State} {m t : List Char}
    (hrest : st.rest = m ++ t) (hm : m ≠ []) (hsame : st.rest = st0.rest)
    (hsplit : ∃ pre, src = pre ++ st.rest ∧ st.off = bytes pre)
    (htoks : ∀ t ∈ st.toks, TokOK src t ∧ ∀ c ∈ t.comments, Consistent src c.1)
    (hpend : ∀ c ∈ st.pending, Consistent src c.1)
    (herrs : ∀ e ∈ st.errs, Consistent src e.pos) :
    Good src st0 (advance st (bytes m)) := by
  right
  unfold advance
  rw [hrest, splitBytes_append]
  refine ⟨_, rfl, ⟨?_, htoks, hpend, herrs⟩, ?_⟩
  · obtain ⟨pre, h1, h2⟩ := hsplit
    refine ⟨pre ++ m, ?_, ?_⟩
    · simp [h1, hrest]
    · simp [h2]
  · simp only
    rw [← hsame, hrest]
    have : 0 < m.length := List.length_pos_iff.mpr hm
    simp; omega

theorem emit_good {src : List Char} {st : State} {m : List Char} (err : Option ErrKind)
    (inv : Inv src st) (hp : m <+: st.rest) (hm : m ≠ []) :
    Good src st (emit (Cfg.fixed any) (linePositions src) st m err) := by
  obtain ⟨pre, h1, h2⟩ := inv.split
  obtain ⟨t, ht⟩ := hp
  have hsrc : src = pre ++ m ++ t := by rw [h1, ← ht]; simp
  have hmk : mkPos (Cfg.fixed any) (linePositions src) st.off (st.off + bytes m) =
      some (specPos pre (pre ++ m)) := by rw [h2]; exact mkPos_fixed hsrc
  unfold emit
  rw [hmk]
  simp only
  have hc : Consistent src (specPos pre (pre ++ m)) := consistent_mk hsrc
  refine advance_good (st0 := st) (m := m) (t := t) ht.symm hm rfl ⟨pre, h1, h2⟩ ?_ ?_ ?_
  · exact List.forall_mem_cons.mpr ⟨⟨⟨pre, t, hsrc, rfl⟩, fun c hcm => inv.pending c (List.mem_reverse.mp hcm)⟩, inv.toks⟩
  · exact fun _ h => nomatch h
  · cases err with
    | none => exact inv.errs
    | some k => exact List.forall_mem_cons.mpr ⟨hc, inv.errs⟩

theorem takeWhile_nl_split (l : List Char) :
    l.takeWhile (· != '\n') = l ∨ ∃ tl, l.takeWhile (· != '\n') ++ '\n' :: tl = l := by
  induction l with
  | nil => simp
  | cons c cs ih =>
    by_cases h : c = '\n'
    · subst h; right; exact ⟨cs, by simp⟩
    · have hb : (c != '\n') = true := by simpa using h
      rcases ih with ih | ⟨tl, ih⟩
      · left; simp only [List.takeWhile_cons, hb, if_true]; rw [ih]
      · right; refine ⟨tl, ?_⟩
        simp only [List.takeWhile_cons, hb, if_true, List.cons_append]; rw [ih]

theorem wf_two {T : LexTables} (h : T.wf = true) {e : List Char}
    (he : e ∈ T.twoCharOps ++ T.twoCharTokens) : e ≠ [] := by
  simp only [LexTables.wf, Bool.and_eq_true, List.all_eq_true] at h
  have := h.1 e he
  intro hn; subst hn; simp at this

theorem wf_one {T : LexTables} (h : T.wf = true) {c : Char}
    (hc : c ∈ T.oneCharOps ++ T.oneCharTokens) : csize c = 1 := by
  simp only [LexTables.wf, Bool.and_eq_true, List.all_eq_true] at h
  simpa using h.2 c hc

/-- The text that one iteration of `step` turns into a token when the remaining input is `rest`,
with the error reported along with it. -/
inductive Emits (T : LexTables) (any : Bool) (rest : List Char) : List Char → Option ErrKind → Prop
  | two {e} : e ∈ T.twoCharOps ++ T.twoCharTokens → e <+: rest → Emits T any rest e none
  | float {m} : scanFloat rest = some m → Emits T any rest m none
  | int {m} : scanInt rest = some m → Emits T any rest m none
  | one {c cs} : rest = c :: cs → c ∈ T.oneCharOps ++ T.oneCharTokens → Emits T any rest [c] none
  | str {m} : scanString any rest = some m → Emits T any rest m none
  | unclosed {m} : scanString any rest = some m →
      Emits T any rest (m.takeWhile (· != '\n')) (some .unclosedString)
  | sym {m} : scanSymbol rest = some m → Emits T any rest m none

def commentStep (cfg : Cfg) (lp : List (Nat × Nat)) (st : State) : Step :=
  let body := st.rest.takeWhile (· != '\n')
  let text := if body.length < st.rest.length then body ++ ['\n'] else body
  match mkPos cfg lp st.off (st.off + bytes body) with
  | none => .panic "from_offset"
  | some p => advance { st with pending := (p, text) :: st.pending } (bytes text)

def unrecStep (cfg : Cfg) (lp : List (Nat × Nat)) (st : State) (c : Char) : Step :=
  let n := if cfg.charAdvance then csize c else 1
  match mkPos cfg lp st.off (st.off + n) with
  | none => .panic "from_offset"
  | some p =>
    match splitBytes st.rest n with
    | none => .panic "slice: &s[0..1] is not a char boundary"
    | some (t, _) => advance { st with errs := ⟨.unrecognized t, p⟩ :: st.errs } n

/-- The cases of one iteration, in the order `step` tries them. `commentStep` and `unrecStep` are the model's
two longer branches, copied verbatim, so that they can be named here; the proof below is what checks the copies
against `step`: after `unfold step` its `exact comment …` / `exact unrec …` go through only if they agree by unfolding. -/
theorem step_elim {motive : Step → Prop} (T : LexTables) (cfg : Cfg) (lp : List (Nat × Nat)) (endOff : Nat)
    (st : State) (done : motive .done)
    (comment : ['/', '/'] <+: st.rest → motive (commentStep cfg lp st))
    (space : ∀ c cs, st.rest = c :: cs → motive (advance st (if cfg.charAdvance then csize c else 1)))
    (token : ∀ m err, Emits T cfg.strEscapeAny st.rest m err → motive (emit cfg lp st m err))
    (wide : ∀ c cs, st.rest = c :: cs → c ∈ T.oneCharOps ++ T.oneCharTokens → csize c ≠ 1 →
      motive (.panic "slice: &s[0..1] is not a char boundary"))
    (unrec : ∀ c cs, st.rest = c :: cs → motive (unrecStep cfg lp st c)) :
    motive (step T cfg lp endOff st) := by
  unfold step
  by_cases hend : endOff ≤ st.off
  · rw [if_pos hend]; exact done
  rw [if_neg hend]
  by_cases hc : (['/', '/'].isPrefixOf st.rest) = true
  · rw [if_pos hc]; exact comment (List.isPrefixOf_iff_prefix.mp hc)
  rw [if_neg hc]
  split
  · exact done
  rename_i c cs hs
  by_cases hw : isWhitespace c = true
  · rw [if_pos hw]; exact space c cs hs
  rw [if_neg hw]
  split
  · rename_i e he
    have hp := List.find?_some he
    exact token _ _ (.two (List.mem_of_find?_eq_some he) (List.isPrefixOf_iff_prefix.mp hp))
  split
  · exact token _ _ (.float ‹_›)
  split
  · exact token _ _ (.int ‹_›)
  split
  · rename_i hc
    have hmem : c ∈ T.oneCharOps ++ T.oneCharTokens := by simpa using hc
    split
    · exact token _ _ (.one hs hmem)
    · exact wide c cs hs hmem ‹_›
  split
  · split
    · exact token _ _ (.str ‹_›)
    · exact token _ _ (.unclosed ‹_›)
  split
  · exact token _ _ (.sym ‹_›)
  · exact unrec c cs hs

theorem Emits.prefix_ne {T : LexTables} (hT : T.wf = true) {rest m : List Char} {err : Option ErrKind}
    (h : Emits T any rest m err) : m <+: rest ∧ m ≠ [] := by
  cases h with
  | two hmem hp => exact ⟨hp, wf_two hT hmem⟩
  | float h => exact scanFloat_prefix h
  | int h => exact scanInt_prefix h
  | one hs _ => exact ⟨hs ▸ ⟨_, rfl⟩, by simp⟩
  | str h =>
    have := scanString_prefix h
    exact ⟨this.1, fun hn => by rw [hn] at this; simp at this⟩
  | unclosed h =>
    obtain ⟨r, rfl, rfl⟩ := scanString_some h
    exact ⟨(List.takeWhile_prefix _).trans ((List.prefix_cons_inj _).mpr (strBody_prefix _ _ _)), by simp⟩
  | sym h => exact scanSymbol_prefix h

theorem comment_text {rest : List Char} (h : ['/', '/'] <+: rest) :
    let body := rest.takeWhile (· != '\n')
    let text := if body.length < rest.length then body ++ ['\n'] else body
    body ≠ [] ∧ body <+: text ∧ text <+: rest := by
  intro body text
  have hbne : body ≠ [] := by
    obtain ⟨r, rfl⟩ := h
    simp [body]
  rcases takeWhile_nl_split rest with hall | ⟨tl, htl⟩
  · have : text = body := if_neg (by simp only [body, hall]; omega)
    rw [this]
    exact ⟨hbne, List.prefix_refl _, List.takeWhile_prefix _⟩
  · have : text = body ++ ['\n'] := if_pos (by rw [← htl]; simp [body])
    rw [this]
    exact ⟨hbne, List.prefix_append _ _, ⟨tl, by rw [List.append_assoc]; exact htl⟩⟩

theorem step_good {T : LexTables} (hT : T.wf = true) {src : List Char} {st : State}
    (endOff : Nat) (inv : Inv src st) :
    Good src st (step T (Cfg.fixed any) (linePositions src) endOff st) := by
  obtain ⟨pre, h1, h2⟩ := inv.split
  refine step_elim (motive := Good src st) T _ _ endOff st (Or.inl rfl) (fun hpre => ?_) (fun c cs hs => ?_)
    (fun m err h => ?_) (fun c cs _ hmem hw => absurd (wf_one hT hmem) hw) (fun c cs hs => ?_)
  · -- comment
    obtain ⟨hbne, ⟨x, hx⟩, ⟨t, ht⟩⟩ := comment_text hpre
    have hsrc : src = pre ++ st.rest.takeWhile (· != '\n') ++ (x ++ t) := by
      rw [h1, List.append_assoc, ← List.append_assoc _ x, hx, ht]
    unfold commentStep
    simp only
    rw [h2, mkPos_fixed hsrc]
    refine advance_good (st0 := st) ht.symm (fun hn => hbne (by rw [hn] at hx; exact (List.append_eq_nil_iff.mp hx).1))
      rfl ⟨pre, h1, rfl⟩ inv.toks (List.forall_mem_cons.mpr ⟨consistent_mk hsrc, inv.pending⟩) inv.errs
  · -- whitespace
    exact advance_good (st0 := st) (st := st) (m := [c]) (t := cs) hs (by simp) rfl
      inv.split inv.toks inv.pending inv.errs
  · have := h.prefix_ne hT
    exact emit_good err inv this.1 this.2
  · -- unrecognised
    have hsrc : src = pre ++ [c] ++ cs := by rw [h1, hs]; simp
    have hsp : splitBytes st.rest (bytes [c]) = some ([c], cs) := hs ▸ splitBytes_append [c] cs
    unfold unrecStep
    simp only [Cfg.fixed, if_true]
    have hmk := mkPos_fixed (any := any) hsrc
    simp only [Cfg.fixed] at hmk
    rw [show csize c = bytes [c] by simp, h2, hmk, hsp]
    exact advance_good (st0 := st) (m := [c]) (t := cs) hs (by simp) rfl
      ⟨pre, h1, rfl⟩ inv.toks inv.pending (List.forall_mem_cons.mpr ⟨consistent_mk hsrc, inv.errs⟩)

def OutOK (src : List Char) (o : Outcome) : Prop :=
  ∃ toks tr errs, o = .ok toks tr errs ∧
    (∀ t ∈ toks, TokOK src t ∧ ∀ c ∈ t.comments, Consistent src c.1) ∧
    (∀ c ∈ tr, Consistent src c.1) ∧ (∀ e ∈ errs, Consistent src e.pos)

theorem OutOK.tokens {src : List Char} {o : Outcome} (h : OutOK src o) :
    ∀ t ∈ o.tokens, TokOK src t ∧ ∀ c ∈ t.comments, Consistent src c.1 := by
  obtain ⟨_, _, _, rfl, h, _⟩ := h; exact h

theorem OutOK.trailing {src : List Char} {o : Outcome} (h : OutOK src o) : ∀ c ∈ o.trailing, Consistent src c.1 := by
  obtain ⟨_, _, _, rfl, _, h, _⟩ := h; exact h

theorem OutOK.errors {src : List Char} {o : Outcome} (h : OutOK src o) : ∀ e ∈ o.errors, Consistent src e.pos := by
  obtain ⟨_, _, _, rfl, _, _, h⟩ := h; exact h

theorem OutOK.isOk {src : List Char} {o : Outcome} (h : OutOK src o) : o.isPanic = false ∧ o.isOutOfFuel = false := by
  obtain ⟨_, _, _, rfl, _⟩ := h; exact ⟨rfl, rfl⟩

theorem loop_ok {T : LexTables} (hT : T.wf = true) (src : List Char) (endOff : Nat) :
    ∀ (fuel : Nat) (st : State), Inv src st → st.rest.length < fuel →
      OutOK src (loop T (Cfg.fixed any) (linePositions src) endOff fuel st) := by
  intro fuel
  induction fuel with
  | zero => intro st _ h; omega
  | succ n ih =>
    intro st inv hlen
    unfold loop
    rcases step_good hT endOff inv with hd | ⟨st', hn, inv', hlt⟩
    · rw [hd]
      refine ⟨_, _, _, rfl, ?_, ?_, ?_⟩
      · intro t ht; exact inv.toks t (by simpa using ht)
      · intro c hc; exact inv.pending c (by simpa using hc)
      · intro e he; exact inv.errs e (by simpa using he)
    · rw [hn]
      exact ih st' inv' (by omega)

theorem splitBytes_zero (l : List Char) : splitBytes l 0 = some ([], l) := by
  cases l <;> simp [splitBytes]

theorem shebangSkip_boundary (pre rest : List Char) :
    ∃ pre' rest', pre' ++ rest' = pre ++ rest ∧ shebangSkip (pre ++ rest) (bytes pre) = bytes pre' ∧
      rest'.length ≤ rest.length := by
  unfold shebangSkip
  split
  · rename_i c cs hsrc
    split
    · rename_i hsh
      have hpre : pre = [] := bytes_eq_zero.mp hsh.1
      subst hpre
      refine ⟨(([] : List Char) ++ rest).takeWhile (· != '\n'), (([] : List Char) ++ rest).dropWhile (· != '\n'),
        List.takeWhile_append_dropWhile, rfl, ?_⟩
      have := (List.dropWhile_sublist (l := ([] : List Char) ++ rest) (· != '\n')).length_le
      simpa using this
    · exact ⟨pre, rest, rfl, rfl, Nat.le_refl _⟩
  · exact ⟨pre, rest, rfl, rfl, Nat.le_refl _⟩

theorem lexBetween_ok {T : LexTables} (hT : T.wf = true) (pre rest : List Char) (endOff fuel : Nat)
    (hend : endOff ≤ bytes (pre ++ rest)) (hfuel : rest.length < fuel) :
    OutOK (pre ++ rest) (lexBetweenFuel T (Cfg.fixed any) fuel (pre ++ rest) (bytes pre) endOff) := by
  unfold lexBetweenFuel
  rw [if_neg (by omega)]
  simp only
  obtain ⟨pre', rest', hsrc, hoff, hlen⟩ := shebangSkip_boundary pre rest
  rw [hoff, ← hsrc, splitBytes_append]
  exact loop_ok hT _ endOff fuel _ ⟨⟨pre', rfl, rfl⟩, by simp, by simp, by simp⟩ (by simp only; omega)

theorem lex_ok {T : LexTables} (hT : T.wf = true) (src : List Char) (strAny : Bool) :
    OutOK src (lex T src strAny) := by
  have := lexBetween_ok (any := strAny) hT [] src (bytes src) (src.length + 1) (by simp) (by omega)
  simpa [lex, lexWith] using this

theorem advance_toks {st st' : State} {n : Nat} (h : advance st n = .next st') : st'.toks = st.toks := by
  unfold advance at h
  split at h
  · cases h
  · cases h; rfl

theorem emit_toks {cfg : Cfg} {lp : List (Nat × Nat)} {st st' : State} {m : List Char} {err : Option ErrKind}
    (h : emit cfg lp st m err = .next st') : ∃ tok, tok.text = m ∧ st'.toks = tok :: st.toks := by
  unfold emit at h
  split at h
  · cases h
  · exact ⟨_, rfl, advance_toks h⟩

theorem step_toks {T : LexTables} {cfg : Cfg} {lp : List (Nat × Nat)} {endOff : Nat} {st st' : State}
    (h : step T cfg lp endOff st = .next st') :
    st'.toks = st.toks ∨ ∃ tok err, Emits T cfg.strEscapeAny st.rest tok.text err ∧ st'.toks = tok :: st.toks := by
  revert h
  refine step_elim (motive := fun r => r = .next st' → _) T cfg lp endOff st (fun h => nomatch h) (fun _ h => ?_)
    (fun _ _ _ h => Or.inl (advance_toks h)) (fun m err hm h => ?_) (fun _ _ _ _ _ h => nomatch h) (fun c _ _ h => ?_)
  · unfold commentStep at h
    simp only at h
    split at h
    · cases h
    · exact Or.inl (advance_toks h :)
  · obtain ⟨tok, rfl, ht⟩ := emit_toks h
    exact Or.inr ⟨tok, err, hm, ht⟩
  · unfold unrecStep at h
    simp only at h
    split at h
    · cases h
    · split at h
      · cases h
      · exact Or.inl (advance_toks h :)

theorem loop_toks {T : LexTables} {cfg : Cfg} {lp : List (Nat × Nat)} {endOff : Nat} (P : Token → Prop)
    (hP : ∀ rest tok err, Emits T cfg.strEscapeAny rest tok.text err → P tok) :
    ∀ (fuel : Nat) (st : State), (∀ t ∈ st.toks, P t) → ∀ t ∈ (loop T cfg lp endOff fuel st).tokens, P t := by
  intro fuel
  induction fuel with
  | zero => intro st _ t ht; cases ht
  | succ n ih =>
    intro st hs
    unfold loop
    split
    · intro t ht; exact hs t (by simpa [Outcome.tokens] using ht)
    · intro t ht; cases ht
    · rename_i st' hst
      refine ih st' ?_
      rcases step_toks hst with h | ⟨tok, err, hm, h⟩
      · rw [h]; exact hs
      · rw [h]; exact List.forall_mem_cons.mpr ⟨hP _ _ _ hm, hs⟩

theorem lex_toks {T : LexTables} (P : Token → Prop) (strAny : Bool)
    (hP : ∀ rest tok err, Emits T strAny rest tok.text err → P tok) (src : List Char) :
    ∀ t ∈ (lex T src strAny).tokens, P t := by
  unfold lex lexWith lexBetweenFuel
  split
  · intro t ht; cases ht
  · simp only
    split
    · split <;> (intro t ht; cases ht)
    · exact loop_toks P hP _ _ (fun t ht => nomatch ht)

theorem garden_wf : LexTables.garden.wf = true := by decide

end Lex
