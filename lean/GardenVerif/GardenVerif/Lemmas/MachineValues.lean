import GardenVerif.Lemmas.MachineDiscipline
/-!
Deep value invariant of the evaluator machine M4 (for C02): every closure anywhere inside a value has an
`okBlock false true` body and every `.fn` value is defined (`VOK`; it is what makes a callee frame
well-formed). Then the state level: `dispatch_ok` puts discipline, block count, `callerUses` and value
invariant together, `step_ok` is one step.
-/
namespace MachineDiscipline
open Machine

inductive VOK (p : Program) : Value → Prop
  | int (v : Int64) : VOK p (.int v)
  | str (s : String) : VOK p (.str s)
  | enumC (t : String) (i : Nat) : VOK p (.enumC t i)
  | builtin (n : String) : VOK p (.builtin n)
  | list (items : List Value) : (∀ v ∈ items, VOK p v) → VOK p (.list items)
  | tuple (items : List Value) : (∀ v ∈ items, VOK p v) → VOK p (.tuple items)
  | enumNone (t : String) (i : Nat) : VOK p (.enumV t i none)
  | enumSome (t : String) (i : Nat) (v : Value) : VOK p v → VOK p (.enumV t i (some v))
  | closure (env : List (List (String × Value))) (params : List String) (body : List Expr) :
      (∀ b ∈ env, ∀ kv ∈ b, VOK p kv.2) → okBlock false true body = true → VOK p (.closure env params body)
  | fn (name : String) :
      (∃ d, p.funs.find? (fun d => d.name == name) = some d ∧ okBlock false true d.body = true) → VOK p (.fn name)

theorem VOK_CallOK (p : Program) (v : Value) (h : VOK p v) : CallOK p v := by
  cases h <;> simp only [CallOK] <;> first | trivial | assumption

/- `BlockV` and `BlocksV` unfold to the hypotheses of `Machine.addNew_all`, `setExisting_all`, `lookupBlocks_all` …
(at `P := VOK p`), which is how the scopes are treated below. -/
def BlockV (p : Program) (b : Block) : Prop := ∀ kv ∈ b, VOK p kv.2
def BlocksV (p : Program) (bs : List Block) : Prop := ∀ b ∈ bs, BlockV p b
def FrameV (p : Program) (f : Frame) : Prop :=
  (∀ v ∈ f.values, VOK p v) ∧ BlocksV p f.blocks ∧ BlockV p f.nextBlock

theorem vUnit_V (p : Program) : VOK p vUnit := VOK.enumNone _ _
theorem vBool_V (p : Program) (b : Bool) : VOK p (vBool b) := VOK.enumNone _ _

theorem nsLookup_V (p : Program) (n : String) (v : Value) (hp : okProg p = true)
    (h : nsLookup p n = some v) : VOK p v := by
  rcases nsLookup_some h with ⟨d, hd, rfl⟩ | ⟨_, _, rfl⟩ | ⟨_, _, rfl⟩ | rfl
  · have hn : d.name = n := by simpa using List.find?_some hd
    exact VOK.fn _ ⟨d, hn ▸ hd,
      List.all_eq_true.mp (Bool.and_eq_true_iff.mp hp).1 d (List.mem_of_find?_eq_some hd)⟩
  · exact VOK.enumC _ _
  · exact VOK.enumNone _ _
  · exact VOK.builtin _

theorem getVar_V (p : Program) (f : Frame) (n : String) (v : Value) (hp : okProg p = true)
    (hb : BlocksV p f.blocks) (h : getVar p f n = some v) : VOK p v := by
  unfold getVar at h
  split at h
  · rename_i w hw
    simp at h; subst h; exact lookupBlocks_all hw hb
  · exact nsLookup_V p n v hp h

theorem BlockV_sym {p : Program} {n : String} {v : Value} (hv : VOK p v) :
    BlockV p (if n == "_" then [] else [(n, v)]) := by
  split
  · exact nofun
  · exact List.forall_mem_singleton.mpr hv

theorem BlockV_destr {p : Program} (names : List String) {items : List Value} (hi : ∀ v ∈ items, VOK p v) :
    BlockV p ((names.zip items).filter fun kv => kv.1 != "_") :=
  fun kv hkv => zip_all hi kv (List.mem_filter.mp hkv).1

theorem bindDest_V (p : Program) (dest : Dest) (v : Value) (bs : Block) (h : bindDest dest v = .ok bs)
    (hv : VOK p v) : BlockV p bs := by
  revert h
  fun_cases bindDest dest v
  all_goals intro h; cases h
  · exact BlockV_sym hv
  · cases hv with
    | tuple _ hi => exact BlockV_destr _ hi

theorem bindPayload_V (p : Program) (payload : Option Value) (dest : Option Dest) (bs : Block)
    (h : bindPayload payload dest = some (.ok bs))
    (hv : ∀ pl, payload = some pl → VOK p pl) : BlockV p bs := by
  revert h
  fun_cases bindPayload payload dest
  all_goals intro h; cases h
  · exact BlockV_sym (hv _ rfl)
  · cases hv _ rfl with
    | tuple _ hi => exact BlockV_destr _ hi
  · exact nofun

theorem evalBlock_V (p : Program) (f : Frame) (u : Bool) (body : List Expr) (h : FrameV p f) :
    FrameV p (evalBlock f u body) := by
  obtain ⟨h1, h2, h3⟩ := h
  rw [evalBlock_eq]
  refine ⟨?_, foldl_addNew_all _ h3 (List.forall_mem_cons.mpr ⟨nofun, h2⟩), nofun⟩
  split
  · exact List.forall_mem_cons.mpr ⟨vUnit_V p, h1⟩
  · exact h1

theorem matchCases_V {p : Program} {used : Bool} {ty : String} {idx : Nat} {payload : Option Value}
    {cs : List Case} {f f' : Frame} (hpl : ∀ pl, payload = some pl → VOK p pl)
    (h : matchCases p f used ty idx payload cs = .ok f') (hV : FrameV p f) : FrameV p f' := by
  obtain ⟨_, dest, body, bs, _, hbs, rfl⟩ := matchCases_ok h
  refine evalBlock_V p _ _ _ ⟨hV.1, hV.2.1, ?_⟩
  rcases hbs with rfl | hbs
  · exact hV.2.2
  · exact bindPayload_V p _ _ _ hbs hpl

def VAfter (p : Program) : Disp → Prop
  | .ok f' => FrameV p f'
  | .okOut f' _ => FrameV p f'
  | .newFrame f' c => FrameV p f' ∧ FrameV p c
  | _ => True

theorem FrameV.pop {p : Program} {f : Frame} {popped vals : List Value} (hV : FrameV p f)
    (h : f.values = popped ++ vals) : (∀ v ∈ popped, VOK p v) ∧ FrameV p { f with values := vals } := by
  obtain ⟨h1, h2, h3⟩ := hV
  rw [h] at h1
  exact ⟨fun v hv => h1 v (List.mem_append_left _ hv), fun v hv => h1 v (List.mem_append_right _ hv), h2, h3⟩

theorem FrameV.pop1 {p : Program} {f : Frame} {v : Value} {vals : List Value} (hV : FrameV p f)
    (h : f.values = v :: vals) : VOK p v ∧ FrameV p { f with values := vals } :=
  let ⟨hp, hg⟩ := hV.pop (popped := [v]) h
  ⟨hp v List.mem_cons_self, hg⟩

theorem FrameV.pushVIf {p : Program} {f : Frame} (h : FrameV p f) (c : Bool) {v : Value} (hv : VOK p v) :
    FrameV p (f.pushVIf c v) := by
  rw [pushVIf_eq]
  cases c
  · exact h
  · exact ⟨List.forall_mem_cons.mpr ⟨hv, h.1⟩, h.2.1, h.2.2⟩

theorem intBinop_V {p : Program} {op : BinOp} {a b : Int64} {v : Value} (h : intBinop op a b = .ok v) : VOK p v := by
  revert h
  fun_cases intBinop op a b
  all_goals intro h; cases h
  all_goals first | exact VOK.int _ | exact vBool_V p _

theorem binopBody_V {p : Program} {g : Frame} (hg : FrameV p g) (u : Bool) (op : BinOp) (lv rv : Value) :
    VAfter p (binopBody g u op lv rv) := by
  fun_cases binopBody g u op lv rv
  all_goals try rw [‹intBinop _ _ _ = _›]
  all_goals first
    | trivial
    | exact hg.pushVIf u (vBool_V p _)
    | exact hg.pushVIf u (VOK.str _)
    | exact hg.pushVIf u (intBinop_V ‹_›)

theorem letBody_V {p : Program} {g : Frame} (hg : FrameV p g) (u : Bool) (dest : Dest) {v : Value} (hv : VOK p v) :
    VAfter p (letBody g u dest v) := by
  fun_cases letBody g u dest v
  · refine FrameV.pushVIf ?_ u (vUnit_V p)
    exact ⟨hg.1, addNew_all hg.2.1 hv, hg.2.2⟩
  · trivial
  · cases hv with
    | tuple _ hi =>
      refine FrameV.pushVIf ?_ u (vUnit_V p)
      exact ⟨hg.1, foldl_addNew_all _ (zip_all hi) hg.2.1, hg.2.2⟩
  · trivial

theorem updateBody_V {p : Program} {g : Frame} (hg : FrameV p g) (u isAdd : Bool) (name : String) (cur : Int64)
    (rv : Value) : VAfter p (updateBody g u isAdd name cur rv) := by
  fun_cases updateBody g u isAdd name cur rv
  · refine FrameV.pushVIf ?_ u (vUnit_V p)
    exact ⟨hg.1, setExisting_all ‹_› hg.2.1 (VOK.int _), hg.2.2⟩
  · trivial
  · trivial

theorem callee_V (p : Program) (params : List String) (args : List Value) (env : List Block)
    (body : List (St × Expr)) (u : Bool) (kind : FrameKind) (cid : Option Nat)
    (hargs : ∀ v ∈ args, VOK p v) (henv : BlocksV p env) :
    FrameV p { exprs := body, values := [vUnit],
               blocks := (params.zip args).foldl (fun b kv => if kv.1 == "_" then b else blockSet b kv.1 kv.2) [] :: env,
               nextBlock := [], callerUses := u, kind := kind, callerId := cid } := by
  refine ⟨?_, ?_, ?_⟩
  · intro v hv; simp at hv; subst hv; exact vUnit_V p
  · exact List.forall_mem_cons.mpr ⟨foldl_blockSet_all _ (zip_all hargs) nofun, henv⟩
  · intro kv hkv; simp at hkv

theorem callBody_V {p : Program} {g : Frame} (hg : FrameV p g) (cid : Nat) (u : Bool) {recv : Value}
    {args : List Value} (hrecv : VOK p recv) (hargs : ∀ v ∈ args, VOK p v) :
    VAfter p (callBody p g cid u recv args) := by
  fun_cases callBody p g cid u recv args
  case case2 => cases hrecv with | closure _ _ _ henv _ => exact ⟨hg, callee_V p _ _ _ _ _ _ _ hargs henv⟩
  case case5 => exact ⟨hg, callee_V p _ _ [] _ _ _ _ hargs nofun⟩
  all_goals first
    | trivial
    | exact hg.pushVIf u (vUnit_V p)
    | exact hg.pushVIf u (VOK.str _)
    | exact hg.pushVIf u (VOK.enumSome _ _ _ (hargs _ List.mem_cons_self))

theorem afterBlock_V {p : Program} {f : Frame} {k : Frame → Frame} (hV : FrameV p f)
    (hk : ∀ f', FrameV p f' → FrameV p (k f')) : VAfter p (afterBlock f k) := by
  unfold afterBlock
  split
  · trivial
  · rename_i f' h
    obtain ⟨a, b, r, hb, rfl⟩ := popBlock_eq_some.mp h
    have h2 := hV.2.1
    rw [hb] at h2
    exact hk _ ⟨hV.1, (List.forall_mem_cons.mp h2).2, hV.2.2⟩

theorem ifBody_V {p : Program} {g : Frame} (hg : FrameV p g) (st : St) (e : Expr) (u : Bool) (thn : List Expr)
    (els : Option (List Expr)) (cv : Value) : VAfter p (ifBody g st e u thn els cv) := by
  unfold ifBody
  split
  · trivial
  · split
    · exact evalBlock_V p _ _ _ hg
    · split
      · exact evalBlock_V p _ _ _ hg
      · exact ⟨hg.1, List.forall_mem_cons.mpr ⟨nofun, hg.2.1⟩, hg.2.2⟩

theorem whileBody_V {p : Program} {g : Frame} (hg : FrameV p g) (e : Expr) (u : Bool) (body : List Expr)
    (cv : Value) : VAfter p (whileBody g e u body cv) := by
  unfold whileBody
  split
  · trivial
  · exact evalBlock_V p _ _ _ hg
  · exact FrameV.pushVIf (f := g.pushE .E e) hg u (vUnit_V p)

theorem forBody_V {p : Program} {g : Frame} (hg : FrameV p g) (e : Expr) (u : Bool) (dest : Dest)
    (body : List Expr) {iv : Value} (idxv : Value) (hiv : VOK p iv) : VAfter p (forBody g e u dest body iv idxv) := by
  fun_cases forBody g e u dest body iv idxv
  · refine FrameV.pushVIf ?_ u (vUnit_V p)
    exact ⟨hg.1, List.forall_mem_cons.mpr ⟨nofun, hg.2.1⟩, hg.2.2⟩
  · trivial
  · trivial
  · rename_i helem bs hbs
    cases hiv with
    | list _ hi =>
      refine evalBlock_V p _ _ _ ⟨?_, hg.2.1, bindDest_V p _ _ _ hbs (hi _ (List.mem_of_getElem? helem))⟩
      exact List.forall_mem_cons.mpr ⟨VOK.list _ hi, List.forall_mem_cons.mpr ⟨VOK.int _, hg.1⟩⟩
  · trivial
  · trivial

theorem matchBody_V {p : Program} {g : Frame} (hg : FrameV p g) (st : St) (e : Expr) (u : Bool) (cs : List Case)
    {sv : Value} (hsv : VOK p sv) : VAfter p (matchBody p g st e u cs sv) := by
  unfold matchBody
  split
  · split
    · rename_i hm
      refine matchCases_V (fun pl hpl => ?_) hm (f := g.pushE .E e) hg
      subst hpl
      cases hsv with
      | enumSome _ _ _ h => exact h
    · trivial
  · trivial

/-- `hd`: the equation of `dispatch` for the node, as in `dispatch_disc_items`. -/
theorem items_V {p : Program} {f : Frame} {st : St} {e : Expr} {u : Bool} {items : List Expr} {msg : String}
    (mk : List Value → Value) (hmk : ∀ got, (∀ v ∈ got, VOK p v) → VOK p (mk got))
    (hd : dispatch p f st e =
      if st != .E then .ok (items.foldl (fun f x => f.pushE .N x) (f.pushE .E e))
      else match popN items.length f.values with
        | some (got, vals) => .ok ({ f with values := vals }.pushVIf u (mk got))
        | none => .panic msg)
    (hV : FrameV p f) : VAfter p (dispatch p f st e) := by
  rw [hd]
  split
  · rw [foldl_pushN]; exact hV
  · split
    · rename_i got vals hpn
      obtain ⟨hgot, hg⟩ := hV.pop (popN_eq_some.mp hpn).1
      exact hg.pushVIf u (hmk _ hgot)
    · trivial

theorem dispatch_vok (p : Program) (f : Frame) (st : St) (e : Expr) (hp : okProg p = true)
    (hV : FrameV p f) (hK : ∃ b, okE b e = true) : VAfter p (dispatch p f st e) := by
  cases e
  case int i u v => exact hV.pushVIf u (VOK.int _)
  case str i u t => exact hV.pushVIf u (VOK.str _)
  case var i u n =>
    rw [dispatch_var]
    split
    · exact hV.pushVIf u (getVar_V p f n _ hp hV.2.1 ‹_›)
    · trivial
  case lambda i u ps body =>
    obtain ⟨b, hb⟩ := hK
    exact hV.pushVIf u (VOK.closure _ _ _ hV.2.1 hb)
  case paren => exact hV
  case invalid => trivial
  case unsup => trivial
  case binop i u op l r =>
    by_cases hst : st = .E
    · subst hst
      rw [dispatch_binop_E]
      split
      · rename_i rv lv vals hv
        exact binopBody_V (hV.pop (popped := [rv, lv]) hv).2 u op lv rv
      · trivial
    · rw [dispatch_binop_of_ne hst]; exact hV
  case letE i u dest inner =>
    by_cases hst : st = .E
    · subst hst
      rw [dispatch_let_E]
      split
      · rename_i v vals hv
        exact letBody_V (hV.pop1 hv).2 u dest (hV.pop1 hv).1
      · trivial
    · rw [dispatch_let_of_ne hst]; exact hV
  case assign i u name inner =>
    by_cases hst : st = .E
    · subst hst
      rw [dispatch_assign_E]
      split
      · trivial
      · split
        · rename_i v vals hv
          split
          · refine FrameV.pushVIf ?_ u (vUnit_V p)
            exact ⟨(hV.pop1 hv).2.1, setExisting_all ‹_› hV.2.1 (hV.pop1 hv).1, hV.2.2⟩
          · trivial
        · trivial
    · rw [dispatch_assign_of_ne hst]; exact hV
  case update i u isAdd name inner =>
    by_cases hst : st = .E
    · subst hst
      rw [dispatch_update_E]
      split
      · trivial
      · split
        · rename_i rv vals hv
          exact updateBody_V (hV.pop1 hv).2 u isAdd name _ rv
        · trivial
      · trivial
    · rw [dispatch_update_of_ne hst]; exact hV
  case ret i u inner =>
    by_cases hst : st = .E
    · subst hst; exact hV
    · rw [dispatch_ret_of_ne hst]
      cases inner
      · exact ⟨List.forall_mem_cons.mpr ⟨vUnit_V p, hV.1⟩, hV.2.1, hV.2.2⟩
      · exact hV
  case list i u items => exact items_V .list VOK.list rfl hV
  case tuple i u items => exact items_V .tuple VOK.tuple rfl hV
  case call i u recv args =>
    by_cases hN : st = .N
    · subst hN; exact hV
    by_cases hE : st = .E
    · subst hE
      rw [dispatch_call_E, evalCall_eq]
      split
      · trivial
      · rename_i got vals hpn
        obtain ⟨hgot, hg⟩ := hV.pop (popN_eq_some.mp hpn).1
        split
        · trivial
        · exact callBody_V (hg.pop1 rfl).2 i u (hg.pop1 rfl).1 hgot
    · rw [dispatch_call_args hN hE, foldl_pushN]; exact hV
  case ifE i u c thn els =>
    by_cases hN : st = .N
    · subst hN; exact hV
    by_cases hE : st = .E
    · subst hE; exact afterBlock_V hV fun f' h => h.pushVIf _ (vUnit_V p)
    · rw [dispatch_if_run hN hE]
      split
      · rename_i cv vals hv
        exact ifBody_V (hV.pop1 hv).2 _ _ u thn els cv
      · trivial
  case whileE i u c body =>
    cases st
    case PW =>
      rw [dispatch_while_PW]
      split
      · rename_i cv vals hv
        exact whileBody_V (hV.pop1 hv).2 _ u body cv
      · trivial
    case PD => exact afterBlock_V hV fun f' h => h
    case PN => trivial
    all_goals exact hV
  case forE i u dest it body =>
    cases st
    case N => exact ⟨List.forall_mem_cons.mpr ⟨VOK.int _, hV.1⟩, hV.2.1, hV.2.2⟩
    case PW =>
      rw [dispatch_for_PW]
      split
      · rename_i iv idxv vals hv
        obtain ⟨hpop, hg⟩ := hV.pop (popped := [iv, idxv]) hv
        exact forBody_V hg _ u dest body idxv (hpop iv List.mem_cons_self)
      · trivial
    case PN => trivial
    all_goals exact afterBlock_V hV fun f' h => h
  case matchE i u sc cs =>
    by_cases hN : st = .N
    · subst hN; exact hV
    by_cases hE : st = .E
    · subst hE; exact afterBlock_V hV fun f' h => h
    · rw [dispatch_match_run hN hE]
      split
      · rename_i sv vals hv
        exact matchBody_V (hV.pop1 hv).2 _ _ u cs (hV.pop1 hv).1
      · trivial
  case brk i u =>
    rw [dispatch_brk]
    split
    · trivial
    · rename_i K' V' B' hb
      obtain ⟨hs1, hs2⟩ := evalBreakLoop_suffix hb
      refine FrameV.pushVIf ?_ _ (vUnit_V p)
      exact ⟨fun v hv => hV.1 v (hs1.subset hv), fun b hb' => hV.2.1 b (hs2.subset hb'), hV.2.2⟩
  case cont i u =>
    rw [dispatch_cont]
    split
    · trivial
    · rename_i K' V' B' hb
      obtain ⟨hs1, hs2⟩ := evalContinueLoop_suffix hb
      exact ⟨fun v hv => hV.1 v (hs1.subset hv), fun b hb' => hV.2.1 b (hs2.subset hb'), hV.2.2⟩

def StateV (s : State) : Prop := okProg s.prog = true ∧ ∀ f ∈ s.frames, FrameV s.prog f

def OkAfter (p : Program) (f : Frame) : Disp → Prop
  | .ok f' => FrameOK f' ∧ FrameV p f' ∧ f'.callerUses = f.callerUses
  | .okOut f' _ => FrameOK f' ∧ FrameV p f' ∧ f'.callerUses = f.callerUses
  | .newFrame f' c =>
      CallerOK c.callerUses f' ∧ FrameV p f' ∧ f'.callerUses = f.callerUses ∧ FrameOK c ∧ FrameV p c
  | .panic _ => False
  | _ => True

theorem dispatch_ok (p : Program) (f : Frame) (st : St) (e : Expr) (hp : okProg p = true)
    (hB : Bal ((st, e) :: f.exprs) f.values) (hK : KOK ((st, e) :: f.exprs))
    (hblk : 1 + C06.owners ((st, e) :: f.exprs) ≤ f.blocks.length) (hV : FrameV p f) :
    OkAfter p f (dispatch p f st e) := by
  have hd := dispatch_disc p f st e hB hK hblk fun v hv => VOK_CallOK p v (hV.1 v hv)
  have hv := dispatch_vok p f st e hp hV (let ⟨b, hb, _⟩ := hK.1; ⟨b, hb⟩)
  have hh := dispatch_header p f st e
  have hb := dispatch_blk p f st e hblk
  cases hdd : dispatch p f st e <;> rw [hdd] at hd hv hh hb <;> try trivial
  · exact ⟨⟨hd.1, hd.2, hb⟩, hv, congrArg Prod.fst hh⟩
  · exact ⟨⟨hd.1, hd.2, hb⟩, hv, congrArg Prod.fst hh⟩
  · rename_i f' c
    refine ⟨⟨hd.1.1, hd.1.2, hb.1⟩, hv.1, congrArg Prod.fst hh, ⟨hd.2.1.1, hd.2.1.2, ?_⟩, hv.2⟩
    rw [hb.2]
    exact Nat.succ_le_of_lt (List.length_pos_iff.mpr hd.2.2)

/-- Nothing is claimed of the state restored after a runtime error or an interrupt (`.error` ↦ `True`,
as in `DiscAfter`, `C06.BalAfter`): there is no lemma giving `WF` of a resumed session. -/
def StepOk : StepResult → Prop
  | .panic _ => False
  | .cont s' => WFd s' ∧ StateV s'
  | _ => True

theorem stopCheck_ok {a : State} (h : WFd a ∧ StateV a) (f : Frame) (st : St) (e : Expr) :
    StepOk (stopCheck a f st e) := by
  rw [stopCheck_eq]
  split
  · trivial
  · exact h

theorem step_ok (s : State) (hw : WFd s) (hv : StateV s) : StepOk (step s) := by
  obtain ⟨f, callers, hf, ⟨hB, hK, hblk⟩, hS⟩ := hw
  obtain ⟨hp, hall⟩ := hv
  rw [hf] at hall
  obtain ⟨hVf, hVc⟩ := List.forall_mem_cons.mp hall
  match he : f.exprs with
  | [] =>
    -- the frame is finished and has its value
    rw [he] at hB
    obtain ⟨rv, vals, hvals⟩ := List.exists_cons_of_ne_nil hB
    cases callers with
    | nil => rw [step_finish hf he, hvals]; trivial
    | cons caller rest =>
      rw [step_return hf he, hvals]
      dsimp only
      split
      · trivial
      · obtain ⟨⟨hc1, hc2, hc3⟩, hS'⟩ := hS
        obtain ⟨hVcaller, hVrest⟩ := List.forall_mem_cons.mp hVc
        have hrv : VOK s.prog rv := hVf.1 rv (by rw [hvals]; exact List.mem_cons_self)
        refine ⟨⟨_, rest, rfl, ?_, StackOK_top caller _ rest ?_ hS'⟩, hp, List.forall_mem_cons.mpr ⟨?_, hVrest⟩⟩
        · generalize f.callerUses = cu at hc1 ⊢
          cases cu
          · exact ⟨hc1, hc2, hc3⟩
          · exact ⟨hc1 rv, hc2, hc3⟩
        · cases f.callerUses <;> rfl
        · cases f.callerUses
          · exact hVcaller
          · exact ⟨List.forall_mem_cons.mpr ⟨hrv, hVcaller.1⟩, hVcaller.2.1, hVcaller.2.2⟩
  | (st, e) :: restE =>
    rw [he] at hB hK hblk
    have hd := dispatch_ok s.prog { f with exprs := restE } st e hp hB hK hblk hVf
    rw [step_popped hf he]
    split
    · trivial
    cases hdd : dispatch s.prog { f with exprs := restE } st e <;> rw [hdd] at hd
    case ok f' =>
      exact stopCheck_ok (a := { ticked s with frames := f' :: callers })
        ⟨⟨f', callers, rfl, hd.1, StackOK_top f f' callers hd.2.2 hS⟩, hp,
          List.forall_mem_cons.mpr ⟨hd.2.1, hVc⟩⟩ _ _ _
    case okOut f' o =>
      exact stopCheck_ok (a := { ticked s with out := (ticked s).out ++ o, frames := f' :: callers })
        ⟨⟨f', callers, rfl, hd.1, StackOK_top f f' callers hd.2.2 hS⟩, hp,
          List.forall_mem_cons.mpr ⟨hd.2.1, hVc⟩⟩ _ _ _
    case newFrame f' c =>
      obtain ⟨h1, h2, h3, h4, h5⟩ := hd
      exact ⟨⟨c, f' :: callers, rfl, h4, h1, StackOK_top f f' callers h3 hS⟩, hp,
        List.forall_mem_cons.mpr ⟨h5, List.forall_mem_cons.mpr ⟨h2, hVc⟩⟩⟩
    case panic => exact hd
    all_goals trivial

end MachineDiscipline
