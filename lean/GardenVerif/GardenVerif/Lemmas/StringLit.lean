import GardenVerif.Model.StringLit
/-! The printed form of a string, followed by any text, is scanned up to its closing quote, lexed as one
token and unescaped to the string. About `scanBody` (the regex with `\\.`) only, not `scanBodyOld`. -/

namespace StringLit

/-! ### one-step equations that do not depend on the shape of the tail -/

theorem unescapeBody_plain (c : Char) (X : List Char) (h : c ≠ '\\') :
    unescapeBody (c :: X) = (c :: (unescapeBody X).1, (unescapeBody X).2) := by
  cases X with
  | nil => simp [unescapeBody, h]
  | cons d X => simp [unescapeBody, h]

theorem unescapeBody_esc_quote (X : List Char) :
    unescapeBody ('\\' :: '"' :: X) = ('"' :: (unescapeBody X).1, (unescapeBody X).2) := by
  simp [unescapeBody]

theorem unescapeBody_esc_bs (X : List Char) :
    unescapeBody ('\\' :: '\\' :: X) = ('\\' :: (unescapeBody X).1, (unescapeBody X).2) := by
  simp [unescapeBody]

theorem unescapeBody_esc_n (X : List Char) :
    unescapeBody ('\\' :: 'n' :: X) = ('\n' :: (unescapeBody X).1, (unescapeBody X).2) := by
  simp [unescapeBody]

theorem unescapeBody_escapeBody (s : List Char) : unescapeBody (escapeBody s) = (s, 0) := by
  induction s with
  | nil => simp [escapeBody, unescapeBody]
  | cons c cs ih =>
    simp only [escapeBody, escapeChar]
    split
    · subst_vars; simp [unescapeBody_esc_quote, ih]
    · split
      · subst_vars; simp [unescapeBody_esc_n, ih]
      · split
        · subst_vars; simp [unescapeBody_esc_bs, ih]
        · rename_i h1 h2 h3
          simp [unescapeBody_plain c _ h3, ih]

theorem escapeBody_append_getLast (s : List Char) :
    (escapeBody s ++ ['"']).getLast? = some '"' := by simp

theorem scanBody_plain (c : Char) (X : List Char) (h1 : c ≠ '\\') (h2 : c ≠ '"') :
    scanBody (c :: X) = 1 + scanBody X := by
  cases X with
  | nil => simp [scanBody, h2]
  | cons d X => simp [scanBody, h1, h2]

theorem scanBody_esc (d : Char) (X : List Char) (h : dot d = true) :
    scanBody ('\\' :: d :: X) = 2 + scanBody X := by
  simp [scanBody, h]

theorem scanBody_quote (X : List Char) : scanBody ('"' :: X) = 0 := by
  cases X <;> simp [scanBody]

theorem scanBody_escapeBody (s rest : List Char) :
    scanBody (escapeBody s ++ '"' :: rest) = (escapeBody s).length := by
  induction s with
  | nil => simp [escapeBody, scanBody_quote]
  | cons c cs ih =>
    simp only [escapeBody, escapeChar]
    split
    · simp [scanBody_esc _ _ (show dot '"' = true by decide), ih]; omega
    · split
      · simp [scanBody_esc _ _ (show dot 'n' = true by decide), ih]; omega
      · split
        · simp [scanBody_esc _ _ (show dot '\\' = true by decide), ih]; omega
        · rename_i h1 h2 h3
          simp [scanBody_plain c _ h3 h1, ih]; omega

theorem scanString_escape (s rest : List Char) :
    scanString (escapeStringLiteral s ++ rest) = some (escapeStringLiteral s).length := by
  have h := scanBody_escapeBody s rest
  have hd : List.drop (escapeBody s).length (escapeBody s ++ '"' :: rest) = '"' :: rest := by
    simp
  simp [scanString, escapeStringLiteral, scanWith, h, hd]

theorem lexString_escape (s rest : List Char) :
    lexString (escapeStringLiteral s ++ rest) = some (escapeStringLiteral s, false) := by
  have h := scanString_escape s rest
  simp only [lexString, lexStringWith]
  simp only [scanString] at h
  rw [h]
  have hl : ('"' :: (escapeBody s ++ ['"'])).getLast? = some '"' := by
    rw [List.getLast?_cons]; simp
  have ht : List.take ((escapeBody s).length + 1) (escapeBody s ++ '"' :: rest) = escapeBody s ++ ['"'] := by
    rw [List.take_append]
    simp [List.take_of_length_le]
  simp [escapeStringLiteral, ht, hl]

theorem unescapeString_escape (s : List Char) :
    unescapeString (escapeStringLiteral s) = some (s, 0) := by
  simp [unescapeString, escapeStringLiteral, isOneByte, unescapeBody_escapeBody]

end StringLit
