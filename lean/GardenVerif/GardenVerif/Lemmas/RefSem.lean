import GardenVerif.Lemmas.Validators
import GardenVerif.Lemmas.EvalRules
/-! Alpha-renaming (C19): the runs of `p` and of its renaming are related by every relation on outcomes that the
evaluator respects and that relates the stores cell by cell (`RenSim`, by induction on the fuel). Props/C19 takes it at
`EvalRel.eq` for the closure-free semantics and at `prC` (Lemmas/AlphaClosure) for the full one. -/

namespace Validators
open Machine (Expr Case Dest BinOp Program FunDef EnumDef)
open RefSem

theorem isLet_ren (c : RenCfg) (act : Bool) (e : Expr) : isLet (ren c act e) = isLet e := by
  cases e <;> first | rfl | (rename_i o; cases o <;> rfl)

theorem actAfter_nonlet (c : RenCfg) (act : Bool) {e : Expr} (h : isLet e = false) :
    actAfter c act e = act := by
  cases e <;> simp [actAfter, isLet] at h ⊢

/-- No proof reads `hxy`; the C19 theorems assume it. -/
structure RCtx (c : RenCfg) (p p' : Program) : Prop where
  hx : c.x ≠ "_"
  hy : c.y ≠ "_"
  hxy : c.x ≠ c.y
  funs : p'.funs = p.funs.map (renFun c)
  enums : p'.enums = p.enums
  freshFuns : ∀ d ∈ p.funs, freshFun c.y d = true

theorem RCtx.mapped {c : RenCfg} {p p' : Program} (hc : RCtx c p p') : Mapped (renFun c) p p' :=
  ⟨hc.funs, hc.enums, fun _ => rfl⟩

theorem renSeq_eq_nil (c : RenCfg) (act : Bool) (es : List Expr) : es = [] ↔ renSeq c act es = [] := by
  cases es <;> simp [renSeq]

theorem ER.bindNames {c : RenCfg} {R : EvalRel} (hR : R.Pointwise) (hx : c.x ≠ "_") (hy : c.y ≠ "_") (hit : Option Nat) :
    ∀ (ns : List String) {vs vs' : List Val} (act : Bool) (i : Nat) {env env' : Env} {s s' : RefSem.St},
      ER c act env env' → freshNames c.y ns = true → LRel R.V vs vs' → vs.length = ns.length → R.C s s' →
      ER c (renNames c hit act i ns).2 (RefSem.bindNames ns vs env s).1
        (RefSem.bindNames (renNames c hit act i ns).1 vs' env' s').1 ∧
      R.C (RefSem.bindNames ns vs env s).2 (RefSem.bindNames (renNames c hit act i ns).1 vs' env' s').2
  | [], _, _, act, i, env, env', s, s', h, _, hv, _, hs => by
      cases hv <;> simp [renNames, RefSem.bindNames, h, hs]
  | n :: ns, _, _, act, i, env, env', s, s', h, hf, .nil, hl, hs => by simp at hl
  | n :: ns, _, _, act, i, env, env', s, s', h, hf, .cons (v := v) (v' := v') (l := vs) (l' := vs') hv hvs, hl, hs => by
      have hl' : vs.length = ns.length := by simpa using hl
      simp only [freshNames, List.all_cons, Bool.and_eq_true, bne_iff_ne, ne_eq] at hf
      obtain ⟨hny, hrest⟩ := hf
      have hrest' : freshNames c.y ns = true := by simpa [freshNames] using hrest
      have hs2 := hR.push hs hv
      simp only [renNames, RefSem.bindNames, hR.len hs]
      by_cases hnx : n = c.x
      · subst hnx
        have hne : (c.x == "_") = false := by simpa using hx
        have hne' : (c.y == "_") = false := by simpa using hy
        by_cases hh : (hit == some i) = true
        · simp only [renName, beq_self_eq_true, if_true, hh, hne, hne', Bool.false_eq_true, if_false]
          exact ER.bindNames hR hx hy hit ns true (i + 1) (ER.hit _ h) hrest' hvs hl' hs2
        · simp only [renName, beq_self_eq_true, if_true, hh, hne, Bool.false_eq_true, if_false]
          exact ER.bindNames hR hx hy hit ns false (i + 1) (ER.shadow _ h) hrest' hvs hl' hs2
      · have hnx' : (n == c.x) = false := by simpa using hnx
        simp only [renName, hnx', Bool.false_eq_true, if_false]
        by_cases hu : (n == "_") = true
        · simp only [hu, if_true]
          exact ER.bindNames hR hx hy hit ns act (i + 1) h hrest' hvs hl' hs2
        · simp only [hu, Bool.false_eq_true, if_false]
          exact ER.bindNames hR hx hy hit ns act (i + 1) (ER.other _ _ hnx hny h) hrest' hvs hl' hs2

theorem ER.bindDest {c : RenCfg} {R : EvalRel} (hR : R.Pointwise) (hx : c.x ≠ "_") (hy : c.y ≠ "_") (hit : Option Nat)
    {act env env'} (h : ER c act env env') (dest : Dest) {v v' : Val} (hv : R.V v v') {s s' : RefSem.St} (hs : R.C s s')
    (hf : freshDest c.y dest = true) :
    R.Bound s s' (RefSem.bindDest dest v env s) (RefSem.bindDest (renDest c hit act dest).1 v' env' s')
      fun e1 _ e1' _ => ER c (renDest c hit act dest).2 e1 e1' := by
  cases dest with
  | sym n =>
    have hf' : freshNames c.y [n] = true := by simpa [freshDest, freshNames] using hf
    have := ER.bindNames hR hx hy hit [n] act 0 h hf' (.cons hv .nil) rfl hs
    simp only [renNames] at this
    exact ⟨hR.step this.2, this.1⟩
  | destr ns =>
    simp only [renDest, RefSem.bindDest]
    cases R.shape hv with
    | tuple hitems =>
      rename_i items items'
      by_cases hl : items.length = ns.length
      · have hf' : freshNames c.y ns = true := by simpa [freshDest] using hf
        have := ER.bindNames hR hx hy hit ns act 0 h hf' hitems hl hs
        simp only [renNames_fst_length, hl, hitems.length, bne_self_eq_false, Bool.false_eq_true, if_false]
        exact ⟨hR.step this.2, this.1⟩
      · have : (items.length != ns.length) = true := by simpa using hl
        simp only [renNames_fst_length, hitems.length, this, if_true]
        exact rfl
    | _ => exact rfl

theorem RCtx.lookupVar {c : RenCfg} {p p' : Program} (hc : RCtx c p p') {R : EvalRel} (hR : R.Pointwise) {act env env'}
    (h : ER c act env env') {s s' : RefSem.St} (hs : R.C s s') (n : String) (hn : n ≠ c.y) :
    ORel R.V (RefSem.lookupVar p env s.store n) (RefSem.lookupVar p' env' s'.store (rn c act n)) := by
  have := h.lookup_rn n hn
  unfold RefSem.lookupVar
  rw [this.1, hc.mapped.funNames, hc.enums]
  cases hl : lookup env n with
  | some l => exact hR.get l hs
  | none =>
    have hnu : isUse c act n = false := by
      cases hu : isUse c act n with
      | false => rfl
      | true => have := this.2 hu; simp [hl] at this
    have e : rn c act n = n := by
      unfold isUse at hnu; simp [rn, hnu]
    rw [e]
    show ORel R.V (nsLookup (RefSem.funNames p) p.enums n) (nsLookup (RefSem.funNames p) p.enums n)
    cases hv : nsLookup (RefSem.funNames p) p.enums n with
    | none => trivial
    | some v => exact R.refl_simple (nsLookup_simple hv)

/-- `app`: a value related to a closure is a closure with the renamed parameters and body, and binding the two
captured environments again gives `ER`-related environments. -/
structure ClosOK (c : RenCfg) (R : EvalRel) : Prop where
  lam : ∀ {act env env' s s'} (hit ps body), ER c act env env' → R.C s s' → freshNames c.y ps = true →
    freshSeq c.y body = true →
    R.V (.closure (capture env s.store) ps body)
      (.closure (capture env' s'.store) (renNames c hit act 0 ps).1 (renSeq c (renNames c hit act 0 ps).2 body))
  app : ∀ {cenv ps body f'}, R.V (.closure cenv ps body) f' → ∃ act hit cenv',
    f' = .closure cenv' (renNames c hit act 0 ps).1 (renSeq c (renNames c hit act 0 ps).2 body) ∧
    freshNames c.y ps = true ∧ freshSeq c.y body = true ∧
    ∀ s s', R.C s s' →
      ER c act (RefSem.bindNames (cenv.reverse.map (·.1)) (cenv.reverse.map (·.2)) [] s).1
        (RefSem.bindNames (cenv'.reverse.map (·.1)) (cenv'.reverse.map (·.2)) [] s').1 ∧
      R.C (RefSem.bindNames (cenv.reverse.map (·.1)) (cenv.reverse.map (·.2)) [] s).2
        (RefSem.bindNames (cenv'.reverse.map (·.1)) (cenv'.reverse.map (·.2)) [] s').2

structure RenSim (c : RenCfg) (R : EvalRel) (cl : Bool) (p p' : Program) (n : Nat) : Prop where
  ev : ∀ act env env' s s' e, ER c act env env' → R.C s s' → fresh c.y e = true →
    R.Q s s' (eval cl p n env s e) (eval cl p' n env' s' (ren c act e))
  seq : ∀ act env env' s s' es, ER c act env env' → R.C s s' → freshSeq c.y es = true →
    R.Q s s' (evalSeq cl p n env s es) (evalSeq cl p' n env' s' (renSeq c act es))
  lst : ∀ act env env' s s' es, ER c act env env' → R.C s s' → freshSeq c.y es = true →
    R.Q s s' (evalList cl p n env s es) (evalList cl p' n env' s' (renList c act es))
  whl : ∀ act env env' s s' cnd body, ER c act env env' → R.C s s' → fresh c.y cnd = true →
    freshSeq c.y body = true →
    R.Q s s' (evalWhile cl p n env s cnd body) (evalWhile cl p' n env' s' (ren c act cnd) (renSeq c act body))
  for_ : ∀ act env env' s s' hit dest items items' body, ER c act env env' → R.C s s' →
    LRel R.V items items' → freshDest c.y dest = true → freshSeq c.y body = true →
    R.Q s s' (evalFor cl p n env s dest items body)
      (evalFor cl p' n env' s' (renDest c hit act dest).1 items' (renSeq c (renDest c hit act dest).2 body))
  cases : ∀ act env env' s s' ty idx pl pl' id k cs, ER c act env env' → R.C s s' → ORel R.V pl pl' →
    freshCases c.y cs = true →
    R.Q s s' (evalCases cl p n env s ty idx pl cs) (evalCases cl p' n env' s' ty idx pl' (renCases c act id k cs))
  app : ∀ s s' f f' args args', R.C s s' → R.V f f' → LRel R.V args args' →
    R.Q s s' (applyVal cl p n s f args) (applyVal cl p' n s' f' args')

theorem renSim_succ {c : RenCfg} {R : EvalRel} {cl : Bool} {p p' : Program} (hc : RCtx c p p') (hR : R.Pointwise)
    (hcl : cl = true → ClosOK c R) (n : Nat) (ih : RenSim c R cl p p' n) : RenSim c R cl p p' (n + 1) := by
  refine ⟨?ev, ?seq, ?lst, ?whl, ?for_, ?cases, ?app⟩
  case ev =>
    intro act env env' s s' e hER hs hf
    cases e <;> (try simp only [fresh, Bool.and_eq_true, bne_iff_ne, ne_eq] at hf)
    case int id u v => exact R.done hs (R.intro (.int _) rfl)
    case str id u v => exact R.done hs (R.intro (.str _) rfl)
    case var id u nm => exact R.var hs (hc.lookupVar hR hER hs nm hf)
    case binop id u op l r =>
      exact R.binop (ih.ev _ _ _ _ _ _ hER hs hf.1) fun _ _ e1 => ih.ev _ _ _ _ _ _ hER (R.start e1) hf.2
    -- a `let` in expression position is unsupported on both sides
    case letE id u d r => exact R.done hs rfl
    case assign id u nm rhs =>
      exact R.assign hR.cells (ih.ev _ _ _ _ _ _ hER hs hf.2) (hER.lookup_rn nm hf.1).1
    case update id u a nm rhs =>
      exact R.update hR.cells (ih.ev _ _ _ _ _ _ hER hs hf.2) (hER.lookup_rn nm hf.1).1
    case ifE id u cnd thn els =>
      refine R.ifE (ih.ev _ _ _ _ _ _ hER hs hf.1.1) (fun _ _ e1 => ih.seq _ _ _ _ _ _ hER (R.start e1) hf.1.2)
        fun _ _ e1 => ?_
      cases els with
      | none => trivial
      | some eb => exact ih.seq _ _ _ _ _ _ hER (R.start e1) (by simpa [freshOpt] using hf.2)
    case whileE id u cnd body => exact ih.whl _ _ _ _ _ _ _ hER hs hf.1 hf.2
    case call id u recv args =>
      exact R.call (ih.ev _ _ _ _ _ _ hER hs hf.1) (fun _ _ e1 => ih.lst _ _ _ _ _ _ hER (R.start e1) hf.2)
        fun _ _ _ _ _ _ h0 hfv hl => ih.app _ _ _ _ _ _ h0 hfv hl
    case lambda id u ps body =>
      cases cl
      · exact R.done hs rfl
      · exact R.done hs ((hcl rfl).lam (hitNode c id 0) ps body hER hs hf.1 hf.2)
    case paren id u x => exact ih.ev _ _ _ _ _ _ hER hs hf
    case brk id u => exact R.done hs rfl
    case cont id u => exact R.done hs rfl
    case invalid id u => exact R.done hs rfl
    case unsup id u w => exact R.done hs rfl
    case forE id u dest iter body =>
      exact R.forE (ih.ev _ _ _ _ _ _ hER hs hf.1.2) fun _ _ _ _ hit e1 =>
        ih.for_ _ _ _ _ _ (hitNode c id 0) _ _ _ _ hER (R.start e1) hit hf.1.1 hf.2
    case matchE id u scrut cs =>
      exact R.matchE (ih.ev _ _ _ _ _ _ hER hs hf.1) fun _ _ _ _ _ _ hpl e1 =>
        ih.cases _ _ _ _ _ _ _ _ _ id 0 _ hER (R.start e1) hpl hf.2
    case ret id u o =>
      cases o with
      | none => exact R.done (r := .ret vUnit) (r' := .ret vUnit) hs R.unit
      | some x => exact R.ret (ih.ev _ _ _ _ _ _ hER hs hf)
    case list id u items => exact ih.lst _ _ _ _ _ _ hER hs hf
    case tuple id u items => exact R.tuple (ih.lst _ _ _ _ _ _ hER hs hf)
  case seq =>
    intro act env env' s s' es hER hs hf
    cases es with
    | nil => exact R.val hs R.unit
    | cons e rest =>
      simp only [freshSeq, Bool.and_eq_true] at hf
      by_cases hl : isLet e = true
      · obtain ⟨id, u, d, r, rfl⟩ := isLet_iff.mp hl
        simp only [fresh, Bool.and_eq_true] at hf
        exact R.seq_let (ih.ev _ _ _ _ _ _ hER hs hf.1.2) fun v v' s1 s1' hv e1 =>
          (hER.bindDest hR hc.hx hc.hy (hitNode c id 0) d hv (R.start e1) hf.1.1).imp
            fun _ _ _ _ e2 hER' => ih.seq _ _ _ _ _ _ hER' (R.start e2) hf.2
      · have hl' : isLet e = false := by simpa using hl
        simp only [renSeq, actAfter_nonlet c act hl']
        exact R.seq_cons hl' (by rw [isLet_ren]; exact hl') (renSeq_eq_nil c act rest) (ih.ev _ _ _ _ _ _ hER hs hf.1)
          fun _ _ e1 => ih.seq _ _ _ _ _ _ hER (R.start e1) hf.2
  case lst =>
    intro act env env' s s' es hER hs hf
    cases es with
    | nil => exact R.done hs (R.intro (.list .nil) rfl)
    | cons e rest =>
      simp only [freshSeq, Bool.and_eq_true] at hf
      exact R.list_cons (ih.ev _ _ _ _ _ _ hER hs hf.1) fun _ _ e1 => ih.lst _ _ _ _ _ _ hER (R.start e1) hf.2
  case whl =>
    intro act env env' s s' cnd body hER hs hf1 hf2
    exact R.while_ (ih.ev _ _ _ _ _ _ hER hs hf1) (fun _ _ e1 => ih.seq _ _ _ _ _ _ hER (R.start e1) hf2)
      fun _ _ e1 => ih.whl _ _ _ _ _ _ _ hER (R.start e1) hf1 hf2
  case for_ =>
    intro act env env' s s' hit dest items items' body hER hs hitems hf1 hf2
    cases hitems with
    | nil => exact R.val hs R.unit
    | cons hv ht =>
      exact R.for_cons hs ((hER.bindDest hR hc.hx hc.hy hit dest hv hs hf1).imp
          fun _ _ _ _ e1 hER' => ih.seq _ _ _ _ _ _ hER' (R.start e1) hf2)
        fun _ _ e2 => ih.for_ _ _ _ _ _ hit _ _ _ _ hER (R.start e2) ht hf1 hf2
  case cases =>
    intro act env env' s s' ty idx pl pl' id k cs hER hs hpl hf
    cases cs with
    | nil => exact R.done hs rfl
    | cons cs0 rest =>
      simp only [freshCases, Bool.and_eq_true] at hf
      have h3 := ih.cases act env env' s s' ty idx pl pl' id (k + 1) rest hER hs hpl hf.2
      obtain ⟨variant, dest, body⟩ := cs0
      cases dest with
      | none =>
        simp only [freshCase] at hf
        exact R.cases_plain hs hpl (hc.mapped.patKey variant) (ih.seq _ _ _ _ _ _ hER hs hf.1) h3
      | some d =>
        simp only [freshCase, Bool.and_eq_true] at hf
        exact R.cases_dest hs hpl (hc.mapped.patKey variant)
          (fun _ _ hv => (hER.bindDest hR hc.hx hc.hy (hitNode c id k) d hv hs hf.1.1).imp
            fun _ _ _ _ e1 hER' => ih.seq _ _ _ _ _ _ hER' (R.start e1) hf.1.2) h3
  case app =>
    intro s s' f f' args args' hs hf hargs
    by_cases hfn : ∃ name, f = .fn name
    · obtain ⟨name, rfl⟩ := hfn
      cases R.shape hf
      have hfind' := hc.mapped.find name
      cases hfind : p.funs.find? (fun d => d.name == name) with
      | none =>
        rw [applyVal_fn, applyVal_fn, hfind', hfind]
        exact R.done hs rfl
      | some d =>
        have hfr := hc.freshFuns d (List.mem_of_find?_eq_some hfind)
        simp only [freshFun, Bool.and_eq_true] at hfr
        refine R.apply_fn (d' := renFun c d) hs hargs hfind (by rw [hfind', hfind]; rfl)
          (renNames_fst_length c _ _ _ _) fun hl => ?_
        have hb := ER.bindNames hR hc.hx hc.hy (hitFun c d.name) d.params false 0 ER.nil hfr.1 hargs hl.symm hs
        exact ⟨hR.step hb.2, ih.seq _ _ _ _ _ d.body hb.1 hb.2 hfr.2⟩
    · by_cases hcv : cl = true ∧ f.isClosure = true
      · obtain ⟨rfl, hcv⟩ := hcv
        cases f <;> first | cases hcv | skip
        rename_i cenv ps body
        obtain ⟨act, hit, cenv', rfl, hfp, hfb, h0⟩ := (hcl rfl).app hf
        rw [applyVal_closure, applyVal_closure]
        simp only [Bool.not_true, Bool.false_eq_true, if_false, renNames_fst_length, hargs.length]
        by_cases hl : ps.length = args.length
        · have hl' : (ps.length != args.length) = false := by simpa using hl
          simp only [hl', Bool.false_eq_true, if_false]
          have h1 := ER.bindNames hR hc.hx hc.hy hit ps _ 0 (h0 s s' hs).1 hfp hargs hl.symm (h0 s s' hs).2
          exact R.mono (hR.step h1.2) (R.funResult (ih.seq _ _ _ _ _ body h1.1 h1.2 hfb))
        · have hl' : (ps.length != args.length) = true := by simpa using hl
          simp only [hl', if_true]; exact R.done hs rfl
      · refine R.apply_other hs hf hargs hc.enums (fun name h => hfn ⟨name, h⟩) ?_
        cases cl <;> cases hfc : f.isClosure <;> simp_all

theorem renSim_all {c : RenCfg} {R : EvalRel} {cl : Bool} {p p' : Program} (hc : RCtx c p p') (hR : R.Pointwise)
    (hcl : cl = true → ClosOK c R) : ∀ n, RenSim c R cl p p' n
  | 0 => by
    refine ⟨?_, ?_, ?_, ?_, ?_, ?_, ?_⟩ <;> intros <;> exact R.done ‹R.C _ _› rfl
  | n + 1 => renSim_succ hc hR hcl n (renSim_all hc hR hcl n)

end Validators
